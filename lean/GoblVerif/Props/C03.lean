/-
  C03 — Under currency rounding every presented amount re-adds exactly.

  Theorems about `Calc.calculate exactOps` (Model/Calc.lean) with
  `rule = currency`.  Proofs: Proofs/CalcExact.lean (no addition rounds when
  its argument is not finer than the running figure, any rule),
  Proofs/CalcCurrency.lean (under the currency rule every figure of lines, breakdown
  rows, document sums, tax groups / categories / tax sum sits at the currency's
  exponent) and Proofs/CalcReadd.lean (presentation rounding, advances and due
  dates, the oracle on the whole output).
-/
import GoblVerif.Spec.C03
import GoblVerif.Generated.CalcFacts
import GoblVerif.Proofs.CalcCurrency
import GoblVerif.Proofs.CalcTax
import GoblVerif.Proofs.CalcReadd
import GoblVerif.Proofs.CalcExample
import GoblVerif.Proofs.BillCalcSrc

namespace GoblVerif.Props.C03
open GoblVerif GoblVerif.Calc

/-- **line_total_readds**: under the currency rule, with fixed discount /
charge amounts (and charge rates) at the currency's precision, a calculated
line's total is exactly its sum minus its discounts plus its charges, and
each of those figures has exactly the currency's number of decimals. -/
theorem line_total_readds (cur : String) (c : Nat) (rates : List XRate) (l l' : Line)
    (hg : lineGuard c l) (h : calcLine exactOps cur c rates .currency l = .ok l')
    (s t : Amount) (hs : l'.sum = some s) (ht : l'.total = some t) (hi : l.item ≠ none) :
    s.exp = c ∧ t.exp = c ∧ (∀ d ∈ l'.discounts, d.amount.exp = c) ∧ (∀ d ∈ l'.charges, d.amount.exp = c) ∧
    t.value = s.value - (l'.discounts.map (·.amount.value)).sum + (l'.charges.map (·.amount.value)).sum := by
  suffices R : Readds c s t l'.discounts l'.charges from
    ⟨R.sum_exp, R.total_exp, R.discounts_exp, R.charges_exp, R.value⟩
  obtain ⟨it0, hit⟩ := Option.ne_none_iff_exists'.mp hi
  obtain ⟨bd, _, ⟨_, rfl⟩ | ⟨p0, it2, _, _, rfl⟩⟩ := calcLine_out exactOps cur c rates .currency h hit
  · cases hs
  · cases hs
    cases ht
    exact adjustments_currency c l.qty _ l.discounts l.charges hg.1 hg.2

/-- **document sums and the running total (before tax)**: under the currency rule the
document sum is exactly the sum of the line totals, the discount and charge
totals are exactly the sums of their rows, and the running total is
sum − discounts + charges — every figure at the currency's exponent, so that
no addition rounds.  Holds for every document (no guard on fixed amounts is
needed here: document rows are rounded to the currency before they are summed). -/
theorem doc_sums_readd (d : Doc) (p : Pre) (hr : d.rule = .currency)
    (hclean : ∀ l ∈ d.lines, l.total = none) (h : pre exactOps d = .ok p) :
    PreAt d.c p ∧
    p.sum.toRat = Spec.C03.qsum (p.lines.filterMap (·.total)) ∧
    Spec.C03.rowsSumOk p.dsum (p.discounts.map (·.amount)) = true ∧
    Spec.C03.rowsSumOk p.csum (p.charges.map (·.amount)) = true ∧
    p.total2.toRat = p.sum.toRat - Spec.C03.q0 p.dsum + Spec.C03.q0 p.csum := by
  have E := pre_currency d p hr hclean h
  obtain ⟨q1, q2, q3, q4⟩ := pre_exact d p h
  exact ⟨E, q1, Spec.C03.rowsSumOk_iff.mpr q2, Spec.C03.rowsSumOk_iff.mpr q3,
    q4 (fun x hx => (E.dsum x hx).trans_le E.sum.ge) (fun x hx => (E.csum x hx).trans_le E.sum.ge)⟩

/-- **category sums**: under the currency rule,
for every category built from any rows, every group's base and amount sit at
the currency's exponent (so presentation leaves them untouched), each amount is
its percentage of that very base rounded half away from zero to the currency,
the category amount is the integer sum of its groups' amounts and the category
surcharge the integer sum of their surcharges. -/
theorem category_readds (c : ℕ) (rows : List Row) :
    ∀ ct ∈ (baseRateTotals exactOps .currency c rows).map (catAmounts exactOps .currency c),
      (∀ rt ∈ ct.rates, rt.base.exp = c ∧ rt.amount.exp = c) ∧
      ct.amount = ⟨(ct.rates.map taxedValue).sum, c⟩ ∧
      (∀ s, ct.surcharge = some s → s = ⟨(ct.rates.map surchargeValue).sum, c⟩) := by
  intro ct hct
  simp only [List.mem_map] at hct
  obtain ⟨ct0, h0, rfl⟩ := hct
  exact catAmounts_currency c ct0 (baseRateTotals_currency c rows ct0 h0)

/-- a group's amount is its percentage of its (presented) base rounded to the currency -/
theorem rate_amount_from_presented_base (c : ℕ) (rt : RateTotal) (p : Pct) (hb : rt.base.exp = c)
    (hp : rt.percent = some p) :
    (rateAmounts exactOps rt c).base = rt.base ∧ (rateAmounts exactOps rt c).amount.exp = c ∧
    (rateAmounts exactOps rt c).amount.value = Spec.roundTo c (rt.base.toRat * p.amount.toRat) := by
  have h := (rateAmounts_amount rt c).1 p hp
  exact ⟨(rateAmounts_exps rt c).1, by rw [h.1, hb], by rw [h.2, hb]⟩

/-- **tax sum**: ordinary categories (with surcharges) added, retained ones subtracted, as integers -/
theorem tax_sum_readds (c : ℕ) (cats : List CatTotal)
    (h : ∀ ct ∈ cats, ct.amount.exp = c ∧ ∀ s, ct.surcharge = some s → s.exp = c) :
    finalSum exactOps .currency c cats = ⟨(cats.map catSigned).sum, c⟩ := by
  obtain ⟨h1, h2⟩ := finalSum_toRat_of .currency c cats
    (fun ct hct s hs => by rw [(h ct hct).1, (h ct hct).2 s hs]) (fun _ ct hct => (h ct hct).1)
  exact amount_eq_of_toRat _ ⟨_, c⟩ (h2 rfl) (h1.trans (sum_catSignedQ c cats h))

/-- **total, total_with_tax, payable, due**: once every input of the final
assembly sits at the currency's exponent (which the theorems above establish
for sums, rows and the tax summary; fixed advances and an external rounding
amount are covered by the property's own guard), no step of the assembly rounds:
total = (sum − discount + charge) − tax_included,
total_with_tax = total + tax, payable = total_with_tax + rounding,
due = payable − advances, each again at the currency's exponent. -/
theorem totals_readd (d : Doc) (p : Pre) (tx : TaxTotal)
    (h2 : p.total2.exp = d.c) (htax : tx.precise.exp = d.c)
    (hti : ∀ x, taxIncluded d.includes tx = some x → x.exp = d.c)
    (hrnd : ∀ x, d.rounding = some x → x.exp = d.c) :
    let t := rawTotals exactOps d p tx
    (t.total.exp = d.c ∧ t.totalWithTax.exp = d.c ∧ t.payable.exp = d.c ∧ ∀ x, t.due = some x → x.exp = d.c) ∧
    t.total.toRat = p.total2.toRat - Spec.C03.q0 t.taxIncluded ∧ t.totalWithTax.toRat = t.total.toRat + t.tax.toRat ∧
    t.payable.toRat = t.totalWithTax.toRat + Spec.C03.q0 t.rounding ∧
    ∀ x, t.due = some x → (∀ a, t.advances = some a → a.exp ≤ d.c) →
      x.toRat = t.payable.toRat - Spec.C03.q0 t.advances :=
  h2 ▸ ⟨rawTotals_exps exactOps d p tx, rawTotals_exact d p tx (fun x hx => (hti x hx).trans_le h2.ge)
    (htax.trans_le h2.ge) (fun x hx => (hrnd x hx).trans_le h2.ge)⟩

/-- **currency_rule_readds** (capstone): for EVERY document calculated under the
currency rule, the executable oracle `Spec.C03.readdOk` — the whole statement of
C03 on the presented figures, and the function that judges the output of the
real `Invoice.Calculate` in harness/props/c03 — holds of what `Calc.calculate`
returns: every line and breakdown row total = sum − discounts + charges;
document sum = Σ line totals; discount / charge totals = Σ of their rows;
total = sum − discounts + charges − included tax; every rate amount and
surcharge amount = its percentage of the presented base rounded half away from
zero to the currency; category amount / surcharge = Σ of its rates'; tax sum =
Σ ordinary − Σ retained (with surcharges) = the document's tax;
total with tax = total + tax; payable = total with tax + rounding; advances =
Σ advance rows, each percentage advance that percentage of the presented total
with tax; due = payable − advances; each percentage due date that percentage
of the presented payable amount; no figure finer than the currency (lines: than
the item price).  Assembled in Proofs/CalcReadd.lean from what stands behind the
theorems above (for the tax summary the rational equations of Proofs/CalcTax.lean,
of which the integer theorems above are readings) — extended to
breakdown rows, the presentation roundings (`Line.round`, `Discount.round`,
`tax.Total.round`, `Totals.round` are the identity on these figures), surcharge
presence, advances and due dates.

Hypotheses, all about the *input*:
* `hclean`  — no figures of an earlier calculation on lines / breakdown rows;
* `hguard`  — the property's own guard: fixed line (and breakdown) discount and
  charge amounts, and charge rates, are not finer than the currency (the
  complement is the known finding of C04); percentages, explicit bases, item
  prices and quantities are unrestricted (prices may be finer than the currency);
* `hitems`, `hrates` — the encoding: an item priced in the document's currency
  and an exchange rate into it carry that currency's number of decimals;
* `hrnd`    — an externally supplied `totals.rounding` is given at the currency's precision;
* `hadv`    — fixed advances are not finer than the currency;
* `hpay`    — advances and due dates only exist inside payment details.
Document discounts / charges, due dates and every percentage need no guard.
A document that `calculate` refuses (no exchange rate, retained category
included in prices) has no output: `h` cannot hold. -/
theorem currency_rule_readds (d : Doc) (out : Out) (hr : d.rule = .currency)
    (h : calculate exactOps d = .ok out)
    (hclean : ∀ l ∈ d.lines, lineClean l)
    (hguard : ∀ l ∈ d.lines, lineGuard d.c l ∧ ∀ sl ∈ l.breakdown, subGuard d.c sl)
    (hitems : ∀ l ∈ d.lines, ∀ it, l.item = some it → itemOk d.cur d.c it)
    (hrates : ratesOk d.cur d.c d.rates)
    (hrnd : ∀ x, d.rounding = some x → x.exp = d.c)
    (hadv : ∀ a ∈ d.advances, a.percent = none → a.amount.exp ≤ d.c)
    (hpay : d.hasPayment = false → d.advances = [] ∧ d.dues = []) :
    Spec.C03.readdOk d.c out = true :=
  readdOk_calculate d out hr h hclean hguard hitems hrates (fun x hx => (hrnd x hx).le) hadv hpay

/-- non-vacuity of `currency_rule_readds`: `Calc.readdExample` (three lines, one
priced by a breakdown with a foreign-currency row, a price finer than the
currency, tax-included prices, two VAT 21 % groups that differ in the surcharge,
a retained category, document discount and charge, external rounding, a
percentage and a fixed advance, a due date) satisfies every hypothesis … -/
example (out : Out) (h : calculate exactOps readdExample = .ok out) : Spec.C03.readdOk 2 out = true :=
  currency_rule_readds readdExample out rfl h (by decide) (by decide) (by decide) (by decide) (by decide)
    (by decide) (by decide)

/-- … is calculated, and presents these totals (sum, discount, charge, included
tax, total, tax, total with tax, payable, advances, due) -/
example : (calculate exactOps readdExample).toOption.map (fun o => o.totals.map (fun t =>
      [some t.sum, t.discount, t.charge, t.taxIncluded, some t.total, some t.tax, some t.totalWithTax,
       some t.payable, t.advances, t.due])) =
    some (some [some ⟨8429, 2⟩, some ⟨421, 2⟩, some ⟨123, 2⟩, some ⟨1151, 2⟩, some ⟨6980, 2⟩, some ⟨822, 2⟩,
      some ⟨7802, 2⟩, some ⟨7803, 2⟩, some ⟨2841, 2⟩, some ⟨4962, 2⟩]) := by decide

/-- the oracle is not trivially true: one cent more on the payable amount and it fails -/
example : (calculate exactOps readdExample).toOption.map (fun o =>
      Spec.C03.readdOk 2 { o with totals := o.totals.map (fun t => { t with payable := ⟨t.payable.value + 1, 2⟩ }) }) =
    some false := by decide +kernel

/-- non-vacuity: a concrete line (price 10.005, quantity 3, a 10% discount and a fixed 1.00 charge, EUR) -/
example :
    let l : Line := { qty := ⟨3, 0⟩, item := some { price := some ⟨10005, 3⟩, cur := "", sub := 2, alts := [] },
                      discounts := [{ percent := some ⟨⟨10, 2⟩⟩, base := none, amount := ⟨0, 0⟩, rate := none, quantity := none }],
                      charges := [{ percent := none, base := none, amount := ⟨100, 2⟩, rate := none, quantity := none }],
                      breakdown := [], taxes := [] }
    (calcLine exactOps "EUR" 2 [] .currency l).toOption.map (fun l' => (l'.sum, l'.total)) =
      some (some ⟨3002, 2⟩, some ⟨2802, 2⟩) := by decide

/-! ## the line-level statement over the code itself

`BillCalcSrc.calculateLine` is the Go function `calculateLine` of /repo/bill/line_calculate.go
translated on every run (Generated/BillCalcSrc.lean); Props/C01 (`Src.src_calculateLine`,
from Proofs/BillCalcSrc `calculateLine_eq`) proves it equal to `Calc.calcLine` for lines without
substituted sub-lines.  With that, `line_total_readds` is a statement about the translated code. -/
namespace Src
open GoblVerif.Generated GoblVerif.CalcSrc GoblVerif.Proofs.BillCalcSrc

/-- **line_total_readds, about the code**: under the currency rule, for a line with an item and
without substituted sub-lines whose fixed discount / charge amounts (and charge rates) come at the
currency's precision, what the regenerated `calculateLine` leaves re-adds exactly: sum, total and
every discount / charge amount have exactly the currency's number of decimals and
total = sum − discounts + charges as integers. -/
theorem line_total_readds_source (sub : String → Nat) (l l' : BillCalcSrc.Line) (cur : String) (rates : List XRate)
    (hr : ∀ r ∈ rates, r.toSub = sub r.to) (hsub : l.Substituted = []) (hi : l.Item ≠ none)
    (hgd : ∀ d ∈ l.Discounts, adjGuard (sub cur) (toAdj d) = true) (hgc : ∀ d ∈ l.Charges, adjGuard (sub cur) d = true)
    (h : BillCalcSrc.calculateLine exactOps sub l cur rates "currency" = .ok l')
    (s t : Amount) (hs : l'.Sum = some s) (ht : l'.Total = some t) :
    s.exp = sub cur ∧ t.exp = sub cur ∧ (∀ d ∈ l'.Discounts, d.Amount.exp = sub cur) ∧
    (∀ d ∈ l'.Charges, d.amount.exp = sub cur) ∧
    t.value = s.value - (l'.Discounts.map (·.Amount.value)).sum + (l'.Charges.map (·.amount.value)).sum := by
  have hm : calcLine exactOps cur (sub cur) rates .currency (toLine (toItem sub cur) l) = .ok (toLine (toItem sub cur) l') := by
    have := calculateLine_eq exactOps sub l cur rates "currency" hr hsub
    rw [h] at this
    exact this.symm
  have hg : lineGuard (sub cur) (toLine (toItem sub cur) l) := by
    refine ⟨?_, hgc⟩
    intro d hd
    obtain ⟨x, hx, rfl⟩ := List.mem_map.mp hd
    exact ⟨rfl, hgd x hx⟩
  have hi' : (toLine (toItem sub cur) l).item ≠ none := by
    cases hI : l.Item with
    | none => exact absurd hI hi
    | some it => simp [toLine, hI]
  obtain ⟨h1, h2, h3, h4, h5⟩ := line_total_readds cur (sub cur) rates _ _ hg hm s t hs ht hi'
  refine ⟨h1, h2, ?_, h4, ?_⟩
  · intro d hd
    exact h3 (toAdj d) (List.mem_map.mpr ⟨d, hd, rfl⟩)
  · rw [h5]
    simp [toLine, toAdj, List.map_map, Function.comp_def]

/-- the hypotheses are satisfiable and the code computes: 3 × 33.335 EUR = 100.01 (rounded once to
    the cent), − 10 % (10.00) + a fixed charge of 0.50 = 90.51 -/
def readdLine : BillCalcSrc.Line :=
  { Quantity := ⟨3, 0⟩, Item := some ⟨"", some ⟨33335, 3⟩, []⟩, Breakdown := [], Sum := none,
    Discounts := [⟨none, some ⟨⟨10, 2⟩⟩, ⟨0, 0⟩⟩], Charges := [⟨none, none, ⟨50, 2⟩, none, none⟩], Taxes := [],
    Total := none, Substituted := [] }

example :
    readdLine.Substituted = [] ∧ readdLine.Item ≠ none ∧ (∀ d ∈ readdLine.Discounts, adjGuard 2 (toAdj d) = true) ∧
    (∀ d ∈ readdLine.Charges, adjGuard 2 d = true) ∧
    ((BillCalcSrc.calculateLine exactOps (fun _ => 2) readdLine "EUR" [] "currency").toOption.map
      (fun r => (r.Sum, r.Discounts.map (·.Amount), r.Charges.map (·.amount), r.Total))) =
      some (some ⟨10001, 2⟩, [⟨1000, 2⟩], [⟨50, 2⟩], some ⟨9051, 2⟩) := by
  decide +kernel

end Src

/-! ## pinned source shapes (regenerated facts; tools/pin_calc_expect.py) -/

namespace ExpectCalc
open GoblVerif.Generated.Calc

theorem calls_calculate_as_modelled : calls_calculate =
    ["RegimeDef", "IsZero", "getIssueDate", "setIssueDate", "TodayIn", "TimeLocation", "getValueDate", "getIssueDate", "getCurrency", "Def", "getCurrency", "New", "setCurrency", "getCurrency", "getTotals", "new", "Zero", "Def", "reset", "getTax", "GetRoundingRule", "HasTags", "applyCustomerRates", "calculateComplements", "getComplements", "calculateOrgDocumentRefs", "getPreceding", "calculateLines", "getLines", "getExchangeRates", "calculateLineSum", "getLines", "calculateDiscounts", "getDiscounts", "calculateDiscountSum", "getDiscounts", "Subtract", "calculateCharges", "getCharges", "calculateChargeSum", "getCharges", "Add", "make", "getLines", "append", "getDiscounts", "append", "getCharges", "append", "getLines", "Prepare", "GetCountry", "GetTags", "len", "setTotals", "new", "getCurrency", "GetCountry", "GetTags", "Calculate", "Category", "PreciseAmount", "Subtract", "PreciseSum", "Add", "Add", "len", "getPaymentDetails", "calculateAdvances", "totalAdvance", "Subtract", "CalculateDues", "roundLines", "getLines", "roundDiscounts", "getDiscounts", "roundCharges", "getCharges", "round", "setTotals"] := rfl
theorem conds_calculate_as_modelled : conds_calculate =
    ["doc.getIssueDate().IsZero()", "date == nil", "doc.getCurrency() == currency.CodeEmpty || doc.getCurrency().Def() == nil", "r == nil", "t == nil", "tx := doc.getTax(); tx != nil", "tx.PricesInclude != \"\"", "tx.Rounding != \"\"", "rr == \"\"", "doc.HasTags(tax.TagCustomerRates)", "err := calculateComplements(doc.getComplements()); err != nil", "err := calculateOrgDocumentRefs(doc.getPreceding(), cur, rr); err != nil", "err := calculateLines(doc.getLines(), cur, doc.getExchangeRates(), rr); err != nil", "discounts := calculateDiscountSum(doc.getDiscounts(), cur); discounts != nil", "charges := calculateChargeSum(doc.getCharges(), cur); charges != nil", "l.Total != nil", "l.Total == nil", "err := l.Taxes.Prepare(r.GetCountry(), doc.GetTags(), *date); err != nil", "len(tls) == 0", "err := tc.Calculate(t.Taxes); err != nil", "ct != nil", "t.Rounding != nil", "len(t.Taxes.Categories) == 0", "pd := doc.getPaymentDetails(); pd != nil", "t.Advances = pd.totalAdvance(zero); t.Advances != nil"] := rfl
theorem stmts_calculate_as_modelled : stmts_calculate =
    ["r := doc.RegimeDef()", "date := doc.getValueDate()", "id := doc.getIssueDate()", "date = &id", "return validation.Errors{\"currency\": errors.New(\"missing\")}", "cur := doc.getCurrency()", "t := doc.getTotals()", "t = new(Totals)", "zero := cur.Def().Zero()", "tx := doc.getTax()", "pit = tx.PricesInclude", "rr = tx.Rounding", "rr = r.GetRoundingRule()", "err := calculateComplements(doc.getComplements())", "return validation.Errors{\"complements\": err}", "err := calculateOrgDocumentRefs(doc.getPreceding(), cur, rr)", "return err", "err := calculateLines(doc.getLines(), cur, doc.getExchangeRates(), rr)", "return validation.Errors{\"lines\": err}", "t.Sum = calculateLineSum(doc.getLines(), cur)", "t.Total = t.Sum", "discounts := calculateDiscountSum(doc.getDiscounts(), cur)", "t.Discount = discounts", "t.Total = t.Total.Subtract(*discounts)", "charges := calculateChargeSum(doc.getCharges(), cur)", "t.Charge = charges", "t.Total = t.Total.Add(*charges)", "tls := make([]tax.TaxableLine, 0)", "tls = append(tls, l)", "tls = append(tls, l)", "tls = append(tls, l)", "err := l.Taxes.Prepare(r.GetCountry(), doc.GetTags(), *date)", "return err", "return nil", "t.Taxes = new(tax.Total)", "tc := &tax.TotalCalculator{ Currency: doc.getCurrency(), Rounding: rr, Country: r.GetCountry(), Tags: doc.GetTags(), Date: *date, Lines: tls, Includes: pit, }", "err := tc.Calculate(t.Taxes)", "return err", "ct := t.Taxes.Category(pit)", "ti := ct.PreciseAmount()", "t.TaxIncluded = &ti", "t.Total = t.Total.Subtract(ti)", "t.Tax = t.Taxes.PreciseSum()", "t.TotalWithTax = t.Total.Add(t.Tax)", "t.Payable = t.TotalWithTax", "t.Payable = t.Payable.Add(*t.Rounding)", "t.Taxes = nil", "pd := doc.getPaymentDetails()", "t.Advances = pd.totalAdvance(zero)", "v := t.Payable.Subtract(*t.Advances)", "t.Due = &v", "return nil"] := rfl
theorem calls_calculateDiscounts_as_modelled : calls_calculateDiscounts =
    ["Zero", "Def", "len", "IsZero", "RescaleUp", "Exp", "ApplyRoundingRule", "Of", "ApplyRoundingRule"] := rfl
theorem conds_calculateDiscounts_as_modelled : conds_calculateDiscounts =
    ["len(lines) == 0", "l.Percent != nil && !l.Percent.IsZero()", "l.Base != nil"] := rfl
theorem stmts_calculateDiscounts_as_modelled : stmts_calculateDiscounts =
    ["zero := cur.Def().Zero()", "l.Index = i + 1", "base := sum", "base = l.Base.RescaleUp(zero.Exp() + linePrecisionExtra)", "base = tax.ApplyRoundingRule(rr, cur, base)", "l.Amount = l.Percent.Of(base)", "l.Amount = tax.ApplyRoundingRule(rr, cur, l.Amount)"] := rfl
theorem calls_calculateCharges_as_modelled : calls_calculateCharges =
    ["Zero", "Def", "len", "IsZero", "RescaleUp", "Exp", "ApplyRoundingRule", "Of", "ApplyRoundingRule"] := rfl
theorem conds_calculateCharges_as_modelled : conds_calculateCharges =
    ["len(lines) == 0", "l.Percent != nil && !l.Percent.IsZero()", "l.Base != nil"] := rfl
theorem stmts_calculateCharges_as_modelled : stmts_calculateCharges =
    ["zero := cur.Def().Zero()", "l.Index = i + 1", "base := sum", "base = l.Base.RescaleUp(zero.Exp() + linePrecisionExtra)", "base = tax.ApplyRoundingRule(rr, cur, base)", "l.Amount = l.Percent.Of(base)", "l.Amount = tax.ApplyRoundingRule(rr, cur, l.Amount)"] := rfl
theorem calls_calculateDiscountSum_as_modelled : calls_calculateDiscountSum =
    ["len", "Zero", "Def", "MatchPrecision", "Add"] := rfl
theorem conds_calculateDiscountSum_as_modelled : conds_calculateDiscountSum =
    ["len(discounts) == 0"] := rfl
theorem stmts_calculateDiscountSum_as_modelled : stmts_calculateDiscountSum =
    ["return nil", "total := cur.Def().Zero()", "total = total.MatchPrecision(l.Amount)", "total = total.Add(l.Amount)", "return &total"] := rfl
theorem calls_calculateChargeSum_as_modelled : calls_calculateChargeSum =
    ["len", "Zero", "Def", "MatchPrecision", "Add"] := rfl
theorem conds_calculateChargeSum_as_modelled : conds_calculateChargeSum =
    ["len(charges) == 0"] := rfl
theorem stmts_calculateChargeSum_as_modelled : stmts_calculateChargeSum =
    ["return nil", "total := cur.Def().Zero()", "total = total.MatchPrecision(l.Amount)", "total = total.Add(l.Amount)", "return &total"] := rfl
theorem calls_PaymentDetails_calculateAdvances_as_modelled : calls_PaymentDetails_calculateAdvances =
    ["CalculateFrom", "MatchPrecision"] := rfl
theorem conds_PaymentDetails_calculateAdvances_as_modelled : conds_PaymentDetails_calculateAdvances =
    [] := rfl
theorem stmts_PaymentDetails_calculateAdvances_as_modelled : stmts_PaymentDetails_calculateAdvances =
    ["a.Amount = a.Amount.MatchPrecision(zero)"] := rfl
theorem calls_PaymentDetails_totalAdvance_as_modelled : calls_PaymentDetails_totalAdvance =
    ["len", "MatchPrecision", "Add", "Rescale", "Exp"] := rfl
theorem conds_PaymentDetails_totalAdvance_as_modelled : conds_PaymentDetails_totalAdvance =
    ["p == nil || len(p.Advances) == 0"] := rfl
theorem stmts_PaymentDetails_totalAdvance_as_modelled : stmts_PaymentDetails_totalAdvance =
    ["return nil", "sum := zero", "sum = sum.MatchPrecision(a.Amount)", "sum = sum.Add(a.Amount)", "a.Amount = a.Amount.Rescale(zero.Exp())", "return &sum"] := rfl
theorem calls_Terms_CalculateDues_as_modelled : calls_Terms_CalculateDues =
    ["IsZero", "Of", "Rescale", "Exp"] := rfl
theorem conds_Terms_CalculateDues_as_modelled : conds_Terms_CalculateDues =
    ["t == nil", "dd.Percent != nil && !dd.Percent.IsZero()"] := rfl
theorem stmts_Terms_CalculateDues_as_modelled : stmts_Terms_CalculateDues =
    ["dd.Amount = dd.Percent.Of(sum)", "dd.Amount = dd.Amount.Rescale(zero.Exp())"] := rfl
theorem calls_Advance_CalculateFrom_as_modelled : calls_Advance_CalculateFrom =
    ["Of"] := rfl
theorem conds_Advance_CalculateFrom_as_modelled : conds_Advance_CalculateFrom =
    ["a.Percent != nil"] := rfl
theorem stmts_Advance_CalculateFrom_as_modelled : stmts_Advance_CalculateFrom =
    ["a.Amount = a.Percent.Of(totalWithTax)"] := rfl
theorem calls_CategoryTotal_PreciseAmount_as_modelled : calls_CategoryTotal_PreciseAmount =
    ["IsZero"] := rfl
theorem conds_CategoryTotal_PreciseAmount_as_modelled : conds_CategoryTotal_PreciseAmount =
    ["!ct.amount.IsZero()"] := rfl
theorem stmts_CategoryTotal_PreciseAmount_as_modelled : stmts_CategoryTotal_PreciseAmount =
    ["return ct.amount", "return ct.Amount"] := rfl
theorem calls_Total_PreciseSum_as_modelled : calls_Total_PreciseSum =
    ["IsZero"] := rfl
theorem conds_Total_PreciseSum_as_modelled : conds_Total_PreciseSum =
    ["!t.sum.IsZero()"] := rfl
theorem stmts_Total_PreciseSum_as_modelled : stmts_Total_PreciseSum =
    ["return t.sum", "return t.Sum"] := rfl
theorem calls_Total_round_as_modelled : calls_Total_round =
    ["Rescale", "Exp", "Rescale", "Exp", "Rescale", "Exp", "Rescale", "Exp", "Rescale", "Exp", "Rescale", "Exp"] := rfl
theorem conds_Total_round_as_modelled : conds_Total_round =
    ["rt.Surcharge != nil", "ct.Surcharge != nil"] := rfl
theorem stmts_Total_round_as_modelled : stmts_Total_round =
    ["rt.Amount = rt.Amount.Rescale(zero.Exp())", "rt.Base = rt.Base.Rescale(zero.Exp())", "rt.Surcharge.Amount = rt.Surcharge.Amount.Rescale(zero.Exp())", "ct.amount = ct.Amount", "ct.Amount = ct.Amount.Rescale(zero.Exp())", "*ct.Surcharge = ct.Surcharge.Rescale(zero.Exp())", "t.sum = t.Sum", "t.Sum = t.Sum.Rescale(zero.Exp())"] := rfl
theorem calls_Totals_round_as_modelled : calls_Totals_round =
    ["Exp", "Rescale", "Rescale", "Rescale", "Rescale", "Rescale", "Rescale", "Rescale", "Rescale", "Rescale", "Rescale"] := rfl
theorem conds_Totals_round_as_modelled : conds_Totals_round =
    ["t.Discount != nil", "t.Charge != nil", "t.TaxIncluded != nil", "t.Advances != nil", "t.Due != nil"] := rfl
theorem stmts_Totals_round_as_modelled : stmts_Totals_round =
    ["e := zero.Exp()", "t.Sum = t.Sum.Rescale(e)", "*t.Discount = t.Discount.Rescale(e)", "*t.Charge = t.Charge.Rescale(e)", "*t.TaxIncluded = t.TaxIncluded.Rescale(e)", "t.Total = t.Total.Rescale(e)", "t.Tax = t.Tax.Rescale(e)", "t.TotalWithTax = t.TotalWithTax.Rescale(e)", "t.Payable = t.Payable.Rescale(e)", "*t.Advances = t.Advances.Rescale(e)", "*t.Due = t.Due.Rescale(e)"] := rfl

end ExpectCalc

end GoblVerif.Props.C03
