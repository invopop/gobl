/-
  C16 — correct / replicate yield a linked new document.

  Proved about the model (Model/Correct.lean) for every invoice, every option
  set, every correction definition and every `Calculate` that keeps the
  identification members (`CalcKeeps`):

  * `correct_ok_shape`      success ⇒ unsigned new envelope, new head uuid, no head stamps,
                            doc.code = "", doc.type = requested ∈ allowed types (when listed),
                            preceding = [pre] with pre.{uuid,type,series,code,issue_date} = source's,
                            pre.reason = options', reason non-empty when required,
                            pre.stamps = one stamp per required provider (in order)
  * `correct_core_shape`    the same for the document before its final Calculate, plus
                            pre.ext = options' ext and pre.tax = the source's tax totals iff copy_tax
                            (after Calculate an addon may move an extension from the row to the
                            document level — es-verifactu-v1 does — so `ext` is not in CalcKeeps)
  * `correct_refuses_*`     each missing requirement ⇒ the corresponding error, nothing returned,
                            in the code's order of precedence
  * `correct_core_ok_iff`   the document is built (before its final Calculate) ⇔ all requirements hold
  * `replicate_shape`       replica: new head uuid, no signatures, no stamps, new doc uuid,
                            code = "", issue date = today, value/operation dates cleared,
                            content = Calculate of the same business content
  * `correctionDef_*`       the merged definition = regime ⊕ addons (membership characterisation)
  * `Expect.*`              obligations over the correction tables regenerated from the regimes
                            and addons, and over the refusal messages / call order of the code

  NOT a theorem here: "the source envelope is left intact".  In a functional
  model the source is an argument that is never returned, so the statement is
  vacuous; it is a property of Go aliasing (Object.Clone by JSON round trip,
  stamps shared by pointer) and is checked by the harness on the real code:
  json.Marshal bytes and a deep structural hash of the source before / after
  the call and after mutating the result.

  Also outside the model: what Calculate and Validate do to the corrected
  document (normalisation, regime/addon validators requiring extensions) —
  `gobl correct` additionally validates; the harness compares verdict classes.
-/
import GoblVerif.Proofs.Correct
import GoblVerif.Generated.CorrectionFacts
import GoblVerif.Generated.CorrectSrc
import GoblVerif.Proofs.GoSemList

namespace GoblVerif.Props.C16
open GoblVerif.Correct

variable {κ : Type}

/-! ## the merged correction definition -/

/-- a type is allowed by the merged definition iff the regime or one of the addons lists it -/
theorem correctionDef_types (regime : Option CorrectionDef) (addons : List (Option CorrectionDef)) (t : String) :
    t ∈ (correctionDef regime addons).types ↔
      (∃ d, regime = some d ∧ t ∈ d.types) ∨ ∃ a ∈ addons, ∃ d, a = some d ∧ t ∈ d.types :=
  correctionDef_iff (t ∈ ·.types) (by simp) (by simp [CorrectionDef.merge]) regime addons

/-- a reason is required iff the regime or one of the addons requires it -/
theorem correctionDef_reasonRequired (regime : Option CorrectionDef) (addons : List (Option CorrectionDef)) :
    (correctionDef regime addons).reasonRequired = true ↔
      (∃ d, regime = some d ∧ d.reasonRequired = true) ∨ ∃ a ∈ addons, ∃ d, a = some d ∧ d.reasonRequired = true :=
  correctionDef_iff (·.reasonRequired = true) (by simp) (by simp [CorrectionDef.merge]) regime addons

/-! ## refusals, in the code's order of precedence -/

theorem correct_refuses_missing_type (calcF : Invoice κ → Option (Invoice κ)) (cd : CorrectionDef) (o : Options)
    (today : String) (inv : Invoice κ) (h : o.type = "") :
    inv.correct calcF cd o today = .error .missingType := by
  simp [Invoice.correct, Invoice.correctCore, h]

theorem correct_refuses_no_code (calcF : Invoice κ → Option (Invoice κ)) (cd : CorrectionDef) (o : Options)
    (today : String) (inv : Invoice κ) (ht : o.type ≠ "") (h : inv.code = "") :
    inv.correct calcF cd o today = .error .noCode := by
  simp [Invoice.correct, Invoice.correctCore, ht, h]

theorem correct_refuses_missing_stamp (calcF : Invoice κ → Option (Invoice κ)) (cd : CorrectionDef) (o : Options)
    (today : String) (inv : Invoice κ) (ht : o.type ≠ "") (hc : inv.code ≠ "")
    (k : String) (hk : k ∈ cd.stamps) (h : ∀ s ∈ o.stamps, s.provider ≠ k) :
    ∃ k', inv.correct calcF cd o today = .error (.missingStamp k') := by
  obtain ⟨e, he⟩ := (collectStamps_error_iff o.stamps cd.stamps).mpr ⟨k, hk, h⟩
  obtain ⟨k', rfl⟩ := collectStamps_error _ _ _ he
  exact ⟨k', by simp [Invoice.correct, Invoice.correctCore, ht, hc, he]⟩

theorem correct_refuses_type_not_allowed (calcF : Invoice κ → Option (Invoice κ)) (cd : CorrectionDef) (o : Options)
    (today : String) (inv : Invoice κ) (ht : o.type ≠ "") (hc : inv.code ≠ "")
    (stamps : List Stamp) (hs : collectStamps o.stamps cd.stamps = .ok stamps)
    (hne : cd.types ≠ []) (h : o.type ∉ cd.types) :
    inv.correct calcF cd o today = .error .typeNotAllowed := by
  simp [Invoice.correct, Invoice.correctCore, ht, hc, hs, hne, h]

theorem correct_refuses_reason_required (calcF : Invoice κ → Option (Invoice κ)) (cd : CorrectionDef) (o : Options)
    (today : String) (inv : Invoice κ) (ht : o.type ≠ "") (hc : inv.code ≠ "")
    (stamps : List Stamp) (hs : collectStamps o.stamps cd.stamps = .ok stamps)
    (hty : cd.types = [] ∨ o.type ∈ cd.types)
    (hr : cd.reasonRequired = true) (h : o.reason = "") :
    inv.correct calcF cd o today = .error .reasonRequired := by
  have h1 : ¬(cd.types ≠ [] ∧ o.type ∉ cd.types) := by
    rcases hty with h | h <;> simp [h]
  simp only [Invoice.correct, Invoice.correctCore, ht, hc, hs, h1, hr, h, and_self, ↓reduceIte]

/-! ## shape of a successful correction -/

/-- the document `Invoice.Correct` builds before its final Calculate -/
theorem correct_core_shape (cd : CorrectionDef) (o : Options) (today : String) (inv r : Invoice κ)
    (h : inv.correctCore cd o today = .ok r) :
    o.type ≠ "" ∧ inv.code ≠ "" ∧
    r.code = "" ∧ r.uuid = "" ∧ r.type = o.type ∧ (cd.types ≠ [] → o.type ∈ cd.types) ∧
    r.series = (if o.series = "" then inv.series else o.series) ∧
    r.issueDate = o.issueDate.getD today ∧
    (cd.reasonRequired = true → o.reason ≠ "") ∧
    r.content = inv.content ∧
    ∃ pre, r.preceding = [pre] ∧
      pre.uuid = inv.uuid ∧ pre.type = inv.type ∧ pre.series = inv.series ∧ pre.code = inv.code ∧
      pre.issueDate = inv.issueDate ∧ pre.reason = o.reason ∧
      pre.stamps.map (·.provider) = cd.stamps ∧ (∀ s ∈ pre.stamps, s ∈ o.stamps) ∧
      pre.ext = o.ext ∧ pre.tax = (if o.copyTax then inv.totalsTax else none) := by
  obtain ⟨ht, hc, hty, hrr, stamps, s1, s2, rfl⟩ := correctCore_ok h
  exact ⟨ht, hc, rfl, rfl, rfl, hty, rfl, rfl, hrr, rfl, _, rfl, rfl, rfl, rfl, rfl, rfl, rfl, s1, s2, rfl, rfl⟩

/-- **correct_ok_shape**: a successful `Envelope.Correct` is a completely new,
    unsigned envelope around the linked corrective document. -/
theorem correct_ok_shape (calcF : Invoice κ → Option (Invoice κ)) (hk : CalcKeeps calcF)
    (cd : CorrectionDef) (o : Options) (today freshHead freshDoc : String) (e e' : Envelope κ)
    (h : e.correct calcF cd o today freshHead freshDoc = .ok e') :
    e'.sigs = [] ∧ e'.headUuid = freshHead ∧ e'.headStamps = [] ∧
    ∃ inv d, e.doc = some inv ∧ e'.doc = some d ∧
      d.uuid = freshDoc ∧ d.code = "" ∧ d.type = o.type ∧ o.type ≠ "" ∧ inv.code ≠ "" ∧
      (cd.types ≠ [] → d.type ∈ cd.types) ∧
      d.series = (if o.series = "" then inv.series else o.series) ∧
      d.issueDate = o.issueDate.getD today ∧
      (cd.reasonRequired = true → o.reason ≠ "") ∧
      ∃ pre, d.preceding = [pre] ∧
        pre.uuid = inv.uuid ∧ pre.type = inv.type ∧ pre.series = inv.series ∧ pre.code = inv.code ∧
        pre.issueDate = inv.issueDate ∧ pre.reason = o.reason ∧
        pre.stamps.map (·.provider) = cd.stamps ∧
        (∀ s ∈ pre.stamps, s ∈ o.stamps ++ e.headStamps) := by
  unfold Envelope.correct at h
  split at h
  · simp at h
  · rename_i inv hdoc
    split at h
    · simp at h
    · rename_i nd hnd
      obtain ⟨c, hu⟩ := Corrective.of_correct hk hnd
      unfold envelop objCalculate at h
      split at h
      · rename_i d hd
        simp only [Except.ok.injEq] at h; subst h
        simp only [hu, ↓reduceIte] at hd
        -- the corrective document gets its identifier and is calculated once more
        have c := (c.withUuid freshDoc).calculate hk hd
        obtain ⟨pre, hp, p1, p2, p3, p4, p5, p6, p7, p8⟩ := c.pre
        exact ⟨rfl, rfl, rfl, inv, d, hdoc, rfl, (hk.keeps _ _ hd).1, c.code, c.type, c.type_ne, c.code_ne,
          fun hne => c.type ▸ c.allowed hne, c.series, c.issueDate, c.reason, pre, hp, p1, p2, p3, p4, p5, p6, p7, p8⟩
      · simp at h

/-- the corrective document is built, before its final Calculate, ⇔ every requirement holds -/
theorem correct_core_ok_iff (cd : CorrectionDef) (o : Options) (today : String) (inv : Invoice κ) :
    (∃ r, inv.correctCore cd o today = .ok r) ↔
      o.type ≠ "" ∧ inv.code ≠ "" ∧ (∀ k ∈ cd.stamps, ∃ s ∈ o.stamps, s.provider = k) ∧
      (cd.types = [] ∨ o.type ∈ cd.types) ∧ (cd.reasonRequired = true → o.reason ≠ "") := by
  constructor
  · rintro ⟨r, h⟩
    obtain ⟨ht, hc, hty, hrr, stamps, hs1, hs2, _⟩ := correctCore_ok h
    refine ⟨ht, hc, fun k hk => ?_, (Classical.em (cd.types = [])).imp_right hty, hrr⟩
    rw [← hs1] at hk
    obtain ⟨s, hs, rfl⟩ := List.mem_map.mp hk
    exact ⟨s, hs2 s hs, rfl⟩
  · rintro ⟨ht, hc, hst, hty, hrr⟩
    cases hs : collectStamps o.stamps cd.stamps with
    | error e =>
      obtain ⟨k, hk, hn⟩ := (collectStamps_error_iff o.stamps cd.stamps).mp ⟨e, hs⟩
      obtain ⟨s, hs, hp⟩ := hst k hk
      exact absurd hp (hn s hs)
    | ok stamps =>
      have h1 : ¬(cd.types ≠ [] ∧ o.type ∉ cd.types) := by rcases hty with h | h <;> simp [h]
      have h2 : ¬(cd.reasonRequired = true ∧ o.reason = "") := fun h => hrr h.1 h.2
      simp only [Invoice.correctCore, ht, hc, hs, h1, h2, if_false]
      exact ⟨_, rfl⟩

/-! ## replication -/

/-- **replicate_shape**: the replica is a completely new unsigned envelope
    without stamps; its document is the calculation of a document with the
    same business content and preceding rows, a new identifier, no code,
    today's date and no value / operation date. -/
theorem replicate_shape (calcF : Invoice κ → Option (Invoice κ)) (hk : CalcKeeps calcF)
    (today freshHead freshDoc : String) (hfresh : freshDoc ≠ "") (e e' : Envelope κ)
    (h : e.replicate calcF today freshHead freshDoc = .ok e') :
    e'.sigs = [] ∧ e'.headUuid = freshHead ∧ e'.headStamps = [] ∧
    ∃ inv d pre, e.doc = some inv ∧ e'.doc = some d ∧ calcF pre = some d ∧
      pre.content = inv.content ∧ pre.totalsTax = inv.totalsTax ∧
      d.uuid = freshDoc ∧ d.code = "" ∧ d.issueDate = today ∧ d.valueDate = none ∧ d.operationDate = none ∧
      d.type = inv.type ∧ d.series = inv.series ∧
      d.preceding.map DocRef.ident = inv.preceding.map DocRef.ident := by
  unfold Envelope.replicate at h
  split at h
  · simp at h
  · rename_i inv hdoc
    unfold envelop objCalculate at h
    split at h
    · rename_i d hd
      simp only [Except.ok.injEq] at h; subst h
      simp only [Invoice.withUuid, hfresh, ↓reduceIte] at hd
      obtain ⟨k1, k2, k3, k4, k5, k6, k7, k8⟩ := hk.keeps _ _ hd
      exact ⟨rfl, rfl, rfl, inv, d, _, hdoc, rfl, hd, rfl, rfl, by simp [k1], by simp [k4, Invoice.replicate],
        by simp [k5, Invoice.replicate], by simp [k7, Invoice.replicate], by simp [k8, Invoice.replicate],
        by simp [k2, Invoice.replicate], by simp [k3, Invoice.replicate], by simp [k6, Invoice.replicate]⟩
    · simp at h

/-- a document that is not an invoice is refused, nothing is returned -/
theorem correct_refuses_not_correctable (calcF : Invoice κ → Option (Invoice κ)) (cd : CorrectionDef) (o : Options)
    (today a b : String) (e : Envelope κ) (h : e.doc = none) :
    e.correct calcF cd o today a b = .error .notCorrectable := by
  simp [Envelope.correct, h]

/-! ## non-vacuity -/

/-- a Calculate that only fills in content satisfies CalcKeeps -/
example : CalcKeeps (fun (i : Invoice Nat) => some { i with content := i.content + 1 }) :=
  ⟨by intro i j h; simp only [Option.some.injEq] at h; subst h; simp⟩

def exInv : Invoice Nat :=
  { uuid := "u-1", type := "standard", series := "S", code := "001", issueDate := "2024-01-02",
    valueDate := some "2024-01-03", operationDate := none, preceding := [], totalsTax := some "T", content := 7 }

def exEnv : Envelope Nat :=
  { headUuid := "h-1", headStamps := [⟨"ksef-id", "K1"⟩], doc := some exInv, sigs := ["sig"] }

def plDef : CorrectionDef :=
  correctionDef (some { types := ["credit-note"], extensions := ["pl-ksef-effective-date"], reasonRequired := true, stamps := ["ksef-id"] }) [none]

example : (exEnv.correct some plDef { type := "credit-note", reason := "r" } "2026-01-01" "h-2" "u-2").toOption.map
    (fun e => (e.sigs, e.headUuid, e.doc.map (fun d => (d.uuid, d.code, d.type, d.issueDate, d.preceding)))) =
    some ([], "h-2", some ("u-2", "", "credit-note", "2026-01-01",
      [{ uuid := "u-1", type := "standard", series := "S", code := "001", issueDate := "2024-01-02",
         reason := "r", ext := [], stamps := [⟨"ksef-id", "K1"⟩], tax := none }])) := by rfl
example : (exEnv.correct some plDef { type := "credit-note" } "t" "h" "u").toOption.isNone = true := by decide
example : errOf (exInv.correct some plDef { type := "credit-note", stamps := [⟨"ksef-id", "K"⟩] } "t") = some .reasonRequired := by decide
-- order of refusals: without the stamp, the missing stamp is reported before the missing reason
example : errOf (exInv.correct some plDef { type := "credit-note" } "t") = some (.missingStamp "ksef-id") := by decide
example : errOf (exInv.correct some plDef { type := "debit-note", reason := "r", stamps := [⟨"ksef-id", "K"⟩] } "t") = some .typeNotAllowed := by decide
example : errOf (exInv.correct some plDef { type := "credit-note", reason := "r" } "t") = some (.missingStamp "ksef-id") := by decide
example : errOf (exInv.correct some plDef { } "t") = some .missingType := by decide
example : errOf (({ exInv with code := "" } : Invoice Nat).correct some plDef { type := "credit-note" } "t") = some .noCode := by decide

/-! ## the tie to the source: tax/corrections.go and bill/invoice_correct.go translated by go2lean

`Generated/CorrectSrc.lean` holds `(*tax.CorrectionDefinition).Merge` and
`(*bill.Invoice).validatePrecedingData` translated from the Go text on every
run.  They are proved equal to `CorrectionDef.merge` / `mergeOpt` and to the
refusal logic of `Invoice.correctCore`.  `Invoice.Correct` itself,
`prepareCorrectionOptions`, `correctionDef` and `Envelope.Correct` /
`Replicate` are outside the translator's subset (closures, interface dispatch,
registries): they stay on the pins of `Expect` below and on the differential
run. -/
namespace Src
open GoblVerif.Generated GoblVerif.Generated.CorrectSrc GoblVerif.GoSem

theorem all_translated : Tax.untranslated = [] ∧ Bill.untranslated = [] := ⟨rfl, rfl⟩

theorem translated_as_listed :
    Tax.translated = ["CorrectionDefinition.Merge"] ∧ Bill.translated = ["Invoice.validatePrecedingData"] := ⟨rfl, rfl⟩

theorem struct_CorrectionDefinition_as_read :
    Tax.struct_CorrectionDefinition = [("Schema", "string"), ("Types", "[]cbc.Key"), ("Extensions", "[]cbc.Key"),
      ("ReasonRequired", "bool"), ("Stamps", "[]cbc.Key"), ("CopyTax", "bool")] ∧
    Tax.structOmitted_CorrectionDefinition = [] := ⟨rfl, rfl⟩

/-- what the translation assumes beyond its general reading of Go.  `Merge`
    WRITES `cd.CopyTax` through its receiver before it builds the new
    definition: the translation keeps the write local (the caller's definition
    is not modelled — that the registered definitions are not changed by it is
    checked by C19's after-use comparison, finding C16-7) -/
theorem assumptions_as_reviewed :
    Tax.ptrWrites = [("CorrectionDefinition.Merge", "cd.CopyTax")] ∧ Tax.primitives = [] ∧
    Tax.inOutParams = [] ∧ Tax.inOutCalls = [] ∧ Tax.outPrimCalls = [] ∧
    Bill.inOutParams = [("Invoice.validatePrecedingData", "pre")] ∧ Bill.ptrWrites = [] ∧
    Bill.inOutCalls = [] ∧ Bill.outPrimCalls = [] ∧
    Bill.primitives = [("cbc.Key.In", "decide ({0} ∈ {1})"), ("cbc.Key.String", "{0}"),
      ("errors.New", "(some {0:lit} : Option String)"), ("fmt.Errorf", "(some {0:lit} : Option String)")] :=
  ⟨rfl, rfl, rfl, rfl, rfl, rfl, rfl, rfl, rfl, rfl⟩

/-- the model's view of a Go correction definition (the schema is the invoice's) -/
def toDef (c : Tax.CorrectionDefinition) : CorrectionDef :=
  { types := c.Types, extensions := c.Extensions, reasonRequired := c.ReasonRequired, stamps := c.Stamps,
    copyTax := c.CopyTax }

/-- **`(*CorrectionDefinition).Merge`, regenerated, is `CorrectionDef.merge`**
    for two definitions of the same schema: lists appended in order,
    `ReasonRequired` and `CopyTax` joined with OR, the schema kept -/
theorem src_Merge (cd other : Tax.CorrectionDefinition) (h : cd.Schema = other.Schema) :
    ∃ r, Tax.CorrectionDefinition_Merge (some cd) (some other) = some r ∧ r.Schema = cd.Schema ∧
      toDef r = (toDef cd).merge (toDef other) := by
  unfold Tax.CorrectionDefinition_Merge
  cases hc : other.CopyTax <;>
    simp [Id.run, id_pure, h, hc, toDef, CorrectionDef.merge]

example : ∃ cd other : Tax.CorrectionDefinition, cd.Schema = other.Schema ∧ cd ≠ other :=
  ⟨⟨"bill/invoice", ["credit-note"], [], false, [], false⟩, ⟨"bill/invoice", ["debit-note"], [], true, ["p"], true⟩,
    rfl, by decide⟩

/-- … a nil operand gives the other one (`mergeOpt` of the model) -/
theorem src_Merge_nil (cd : Option Tax.CorrectionDefinition) (c : Tax.CorrectionDefinition) :
    Tax.CorrectionDefinition_Merge none cd = cd ∧ Tax.CorrectionDefinition_Merge (some c) none = some c := by
  unfold Tax.CorrectionDefinition_Merge
  simp [Id.run, id_pure]

/-- … and a definition for another schema is ignored -/
theorem src_Merge_otherSchema (cd other : Tax.CorrectionDefinition) (h : cd.Schema ≠ other.Schema) :
    Tax.CorrectionDefinition_Merge (some cd) (some other) = some cd := by
  unfold Tax.CorrectionDefinition_Merge
  simp [Id.run, id_pure, h]

/-- **`mergeOpt`, the step of `correctionDef`, read off the regenerated code** -/
theorem src_mergeOpt (cd : Tax.CorrectionDefinition) (other : Option Tax.CorrectionDefinition)
    (h : ∀ o, other = some o → o.Schema = cd.Schema) :
    (Tax.CorrectionDefinition_Merge (some cd) other).map toDef = some ((toDef cd).mergeOpt (other.map toDef)) := by
  cases other with
  | none => simp [(src_Merge_nil none cd).2, CorrectionDef.mergeOpt]
  | some o =>
    obtain ⟨r, hr, _, hd⟩ := src_Merge cd o (h o rfl).symm
    simp [hr, hd, CorrectionDef.mergeOpt]

/-- the merged `ReasonRequired` of the regenerated code is an OR (C16-2) -/
theorem src_Merge_reason_or (cd other r : Tax.CorrectionDefinition) (h : cd.Schema = other.Schema)
    (hr : Tax.CorrectionDefinition_Merge (some cd) (some other) = some r) :
    r.ReasonRequired = (cd.ReasonRequired || other.ReasonRequired) := by
  obtain ⟨r', hr', _, hd⟩ := src_Merge cd other h
  rw [hr] at hr'
  cases hr'
  have := congrArg CorrectionDef.reasonRequired hd
  simpa [toDef, CorrectionDef.merge] using this

/-- the refusal of `validatePrecedingData` as the model's `Err` reads
    (`fmt.Errorf` formats; the arguments are dropped by the primitive) -/
def refusalText : Err → String
  | .missingStamp _ => "missing stamp: %v"
  | .typeNotAllowed => "invalid correction type: %v"
  | .reasonRequired => "missing corrective reason"
  | _ => ""

/-- without a definition nothing is checked and nothing is copied -/
theorem src_validatePrecedingData_nil (inv : Bill.Invoice) (o : Bill.CorrectionOptions) (pre : Bill.DocumentRef) :
    Bill.Invoice_validatePrecedingData inv o none pre = (none, pre) := by
  unfold Bill.Invoice_validatePrecedingData
  simp [Id.run, id_pure]

/- FULL STATEMENT (not proved): for every definition `cd` and options `o` (nil stamp entries are skipped by the loop),
     (validatePrecedingData inv o (some cd) pre).1 =
        match collectStamps (o.Stamps as model stamps) cd.Stamps with
        | .error e => some (refusalText e)
        | .ok _ => (type check, then reason check, as below)
   and on `.ok stamps` the returned `pre` is `pre` with `stamps` appended.
   Proved below: the case of a definition that requires no stamps (`cd.Stamps = []`; which ones do
   is read off `Generated.Corrections`), where the stamp loop is empty; the loop over
   required stamps (first match per provider, first missing one reported) stays on the model's
   `collectStamps`, the pinned refusal order and the differential run. -/
/-- **the type and reason refusals of `validatePrecedingData`, regenerated, are
    those of `Invoice.correctCore`**: allowed types checked only when the
    definition lists some, the reason only when required, in this order; `pre`
    is returned untouched -/
theorem src_validatePrecedingData_noStamps_partial (inv : Bill.Invoice) (o : Bill.CorrectionOptions)
    (cd : Tax.CorrectionDefinition) (pre : Bill.DocumentRef) (hs : cd.Stamps = []) :
    Bill.Invoice_validatePrecedingData inv o (some cd) pre =
      (if cd.Types ≠ [] ∧ o.Type_ ∉ cd.Types then some (refusalText .typeNotAllowed)
       else if cd.ReasonRequired = true ∧ pre.Reason = "" then some (refusalText .reasonRequired)
       else none, pre) := by
  unfold Bill.Invoice_validatePrecedingData
  simp only [forIn_list_id, pure_bind]
  simp only [Id.run, id_pure, Option.get!_some, hs, forList, refusalText]
  by_cases h1 : cd.Types ≠ [] ∧ o.Type_ ∉ cd.Types
  · have hp : 0 < cd.Types.length := List.length_pos_iff.mpr h1.1
    simp [h1, hp]
  · have h' : 0 < cd.Types.length → o.Type_ ∈ cd.Types := by
      intro hp
      apply Classical.byContradiction
      intro hc
      exact h1 ⟨List.length_pos_iff.mp hp, hc⟩
    by_cases h2 : cd.ReasonRequired = true ∧ pre.Reason = ""
    · simp [h1, h2]
      intro hp; exact decide_eq_true (h' hp)
    · simp [h1, h2]
      intro hp; exact decide_eq_true (h' hp)

example : ∃ cd : Tax.CorrectionDefinition, cd.Stamps = [] ∧ cd.Types ≠ [] ∧ cd.ReasonRequired = true :=
  ⟨⟨"bill/invoice", ["credit-note"], [], true, [], false⟩, rfl, by decide, rfl⟩

end Src

/-! ## expectations over facts regenerated from /repo -/
namespace Expect
open GoblVerif.Generated.Corrections

/-- every correction definition of a regime or addon is for the invoice
    schema (the only kind modelled) -/
theorem only_invoice_definitions : otherSchemas = [] := rfl
/-- every type a regime or addon allows is one of the three correction types -/
theorem allowed_types_are_correction_types :
    (regimes ++ addons).all (fun r => r.2.types.all (fun t => ["credit-note", "corrective", "debit-note"].contains t)) = true := by decide +kernel
/-- … and is a registered invoice type -/
theorem allowed_types_are_invoice_types :
    (regimes ++ addons).all (fun r => r.2.types.all (fun t => invoiceTypes.contains t)) = true := by decide +kernel
/-- every registered regime defines which corrections it allows -/
theorem every_regime_lists_types :
    regimeCodes.all (fun c => (regimes.lookup c).any (fun r => !r.types.isEmpty)) = true := by decide +kernel
/-- definition keys are registered regimes / addons -/
theorem rows_are_registered :
    regimes.all (fun r => regimeCodes.contains r.1) = true ∧ addons.all (fun r => addonKeys.contains r.1) = true := by decide +kernel
/-- the refusal messages and their order, as modelled by `Err` -/
theorem refusals_prepare : errors_prepareCorrectionOptions =
    ["failed to unmarshal correction options: %w", "missing correction type"] := rfl
theorem refusals_correct : errors_Invoice_Correct = ["cannot correct an invoice without a code"] := rfl
theorem refusals_preceding : errors_Invoice_validatePrecedingData =
    ["missing stamp: %v", "invalid correction type: %v", "missing corrective reason"] := rfl
/-- Invoice.Correct: options first, then the definition, the checks, Calculate last -/
theorem correct_call_order : calls_Invoice_Correct =
    ["new", "prepareCorrectionOptions", "New", "Clone", "Clone", "Today", "correctionDef", "validatePrecedingData", "Calculate"] := rfl
/-- Envelope.Correct / Replicate: clone, act on the clone, brand-new envelope -/
theorem envelope_correct_calls : calls_Envelope_Correct =
    ["IsEmpty", "len", "append", "len", "len", "WithHead", "Clone", "wrapError", "Correct", "wrapError", "Envelop"] := rfl
theorem envelope_replicate_calls : calls_Envelope_Replicate =
    ["IsEmpty", "Clone", "wrapError", "Replicate", "wrapError", "Envelop"] := rfl
theorem envelop_is_new_envelope : calls_Envelop = ["NewEnvelope", "Insert"] := rfl
theorem invoice_replicate_body : body_Invoice_Replicate =
    "{ inv.UUID = uuid.Empty inv.Code = \"\" inv.IssueDate = cal.Today() inv.ValueDate = nil inv.OperationDate = nil return nil }" := rfl

end Expect

end GoblVerif.Props.C16
