/-
  C12 — the tax rate applied on a date is the one in force on that date.

  Model: Model/Rates.lean (RateDef.Value, CategoryDef.RateDef, Combo.prepareRate,
  the tax-date choice).  Specification: Spec/C12.lean (`inForce`, `IsInForce`,
  `strictDesc`).  Helper lemmas: Proofs/Rates.lean (model and specification),
  Proofs/RatesSrc.lean (the translator's reading of `prepareRate`: `prepareRateM`, `MapEq`, `Same`).

  General theorems hold for ALL tables, dates, tag lists and extension maps.
  The `Expect` namespace re-proves, on every run, the obligations over the
  tables regenerated from /repo (registry and data/regimes/*.json).

  `namespace Src` (at the end) ties the model to the source: `value`,
  `hasAnyTag`, `extContains`, `rateDef` and `categoryDef` are proved equal to
  the definitions that the go2lean translator regenerates from /repo/tax on
  every run (Generated/RatesSrc.lean), for all arguments; `prepareRate` is
  proved to agree with the regenerated `(*Combo).prepareRate` (same error, same
  percent and surcharge, the same extension map).
-/
import GoblVerif.Spec.C12
import GoblVerif.Proofs.Rates
import GoblVerif.Generated.RateTables
import GoblVerif.Generated.RatesSrc
import GoblVerif.Proofs.GoSemList
import GoblVerif.Proofs.RatesSrc

namespace GoblVerif.Props.C12
open GoblVerif.Rates GoblVerif.Spec.C12 GoblVerif.Proofs.Rates

/-! ## the code's first-match lookup is the value in force -/

/-- **RateDef.Value = the value in force** as soon as the applicable rows are in descending date order,
    equal neighbours allowed: among the rows that share the latest start date both take the first listed.
    (`hreal`: the start dates are real calendar days — the Go code treats an impossible date such as
    2021-02-30 as "undated".) -/
theorem value_eq_inForce_weak (vals : List RateValue) (d : Date) (tags : List String) (ext : Ext)
    (hreal : ∀ v ∈ vals, sinceReal v = true) (hdesc : weakDesc (startsFor vals tags ext) = true) :
    value vals d tags ext = inForce vals d tags ext := by
  rw [value_eq_find_candidate vals d tags ext hreal, inForce, candidates_eq, latest_filter_eq_find _ _ hdesc]

/-- **RateDef.Value = the value in force**, for every table whose applicable
    rows are in strictly descending date order, every date, tag list and
    extension map. -/
theorem value_eq_inForce (vals : List RateValue) (d : Date) (tags : List String) (ext : Ext)
    (hreal : ∀ v ∈ vals, sinceReal v = true)
    (hdesc : descendingFor vals tags ext = true) :
    value vals d tags ext = inForce vals d tags ext :=
  value_eq_inForce_weak vals d tags ext hreal (weakDesc_of_strictDesc hdesc)

/-- the same with equal neighbours allowed: the code then returns *a* value in
    force (the first listed of those sharing the latest start date) -/
theorem value_isInForce_of_weaklyDescending (vals : List RateValue) (d : Date) (tags : List String) (ext : Ext)
    (hreal : ∀ v ∈ vals, sinceReal v = true)
    (hdesc : weakDesc (startsFor vals tags ext) = true) (r : RateValue)
    (h : value vals d tags ext = some r) : IsInForce vals d tags ext r :=
  inForce_isInForce vals d tags ext r (value_eq_inForce_weak vals d tags ext hreal hdesc ▸ h)

/-- **a value takes effect on its start date itself** -/
theorem value_on_start_date (vals : List RateValue) (d : Date) (tags : List String) (ext : Ext)
    (hreal : ∀ v ∈ vals, sinceReal v = true)
    (hdesc : descendingFor vals tags ext = true)
    (v : RateValue) (hv : v ∈ vals) (ha : applies v tags ext = true) (hs : v.since = some d) :
    value vals d tags ext = some v := by
  rw [value_eq_inForce vals d tags ext hreal hdesc]
  have hvb : onOrBefore v d = true := by rw [onOrBefore_eq, hs]; exact startLe_refl _
  cases hi : inForce vals d tags ext with
  | none =>
    have := (inForce_none_iff vals d tags ext).mp hi v hv ha
    rw [hvb] at this; cases this
  | some r =>
    have hr := inForce_isInForce vals d tags ext r hi
    have hvI : IsInForce vals d tags ext v := by
      refine ⟨hv, ha, hvb, ?_⟩
      intro r' _ _ hb'
      rwa [hs, ← onOrBefore_eq]
    rw [isInForce_unique vals d tags ext hdesc r v hr hvI]

/-- **a date before the first value gives no value** (no ordering needed) -/
theorem value_before_first (vals : List RateValue) (d : Date) (tags : List String) (ext : Ext)
    (hbefore : ∀ v ∈ vals, applies v tags ext = true → ∃ s, v.since = some s ∧ realDay s = true ∧ dateLt d s = true) :
    value vals d tags ext = none := by
  rw [value_eq_find, List.find?_eq_none]
  intro v hv
  rw [List.mem_filter, applicable_eq_applies] at hv
  obtain ⟨s, hs, hr, hlt⟩ := hbefore v hv.1 hv.2
  rw [started_eq_onOrBefore v d (by rw [sinceReal, hs]; exact hr), onOrBefore, hs]
  simp [not_dateLe_of_lt hlt]

/-- … and only then: `none` is never answered while some applicable value has
    already taken effect -/
theorem value_none_only_before_first (vals : List RateValue) (d : Date) (tags : List String) (ext : Ext)
    (hreal : ∀ v ∈ vals, sinceReal v = true)
    (h : value vals d tags ext = none) :
    ∀ v ∈ vals, applies v tags ext = true → ∃ s, v.since = some s ∧ dateLt d s = true := by
  rw [value_eq_find_candidate vals d tags ext hreal, List.find?_eq_none] at h
  intro v hv ha
  have hst := h v (List.mem_filter.mpr ⟨hv, by simpa using ha⟩)
  unfold onOrBefore at hst
  rcases hs : v.since with _ | s
  · simp [hs] at hst
  · refine ⟨s, rfl, ?_⟩
    rw [hs] at hst
    cases hlt : dateLt d s
    · exact absurd (dateLe_of_not_lt hlt) hst
    · rfl

/-! ## what the combo receives -/

/-- **exempt keys yield no percentage** (and no surcharge), whatever the date -/
theorem exempt_no_percent (cat : CategoryDef) (c : Combo) (tags : List String) (date : Date) (rate : RateDef)
    (hk : c.rate ≠ "") (hr : rateDef cat.rates c.rate = some rate) (hx : rate.exempt = true) :
    ∃ c', prepareRate cat c tags date = .ok c' ∧ c'.percent = none ∧ c'.surcharge = none := by
  rw [prepareRate_eq_tail tags date hk hr, prepareTail, if_pos hx]
  exact ⟨_, rfl, rfl, rfl⟩

/-- a non-exempt rate with values: the combo receives exactly the percent and
    surcharge of the row `RateDef.Value` picks (looked up with the combo's
    extensions after the rate's own have been copied in) -/
theorem prepareRate_uses_value (cat : CategoryDef) (c : Combo) (tags : List String) (date : Date)
    (rate : RateDef) (v : RateValue)
    (hk : c.rate ≠ "") (hr : rateDef cat.rates c.rate = some rate) (hx : rate.exempt = false)
    (hval : value rate.values date tags (mergedExt c rate) = some v) :
    ∃ c', prepareRate cat c tags date = .ok c' ∧ c'.percent = some v.percent ∧ c'.surcharge = v.surcharge := by
  have hv' : rate.values.isEmpty = false := by
    cases h : rate.values with
    | nil => rw [h] at hval; simp [value] at hval
    | cons _ _ => rfl
  simp only [prepareRate_eq_tail tags date hk hr, prepareTail, hx, hv', hval]
  exact ⟨_, rfl, rfl, rfl⟩

/-- **no value for the date is an error, not a guess** -/
theorem prepareRate_before_first_is_error (cat : CategoryDef) (c : Combo) (tags : List String) (date : Date)
    (rate : RateDef)
    (hk : c.rate ≠ "") (hr : rateDef cat.rates c.rate = some rate) (hx : rate.exempt = false)
    (hv : rate.values ≠ [])
    (hval : value rate.values date tags (mergedExt c rate) = none) :
    prepareRate cat c tags date = .error .invalidDate := by
  have hv' : rate.values.isEmpty = false := by simpa using hv
  simp only [prepareRate_eq_tail tags date hk hr, prepareTail, hx, hv', hval]
  rfl

/-- the tax date is the value date when the document has one, else the issue date -/
theorem taxDate_value (v i : Date) : taxDate (some v) i = v := rfl
theorem taxDate_issue (i : Date) : taxDate none i = i := rfl

/-! ## non-vacuity: a strictly descending table with a qualified row -/

private def ex : List RateValue :=
  [ { tags := [], ext := [("r", "A")], since := some ⟨2024, 10, 1⟩, percent := (4, 2), surcharge := none, disabled := false },
    { tags := [], ext := [], since := some ⟨2012, 9, 1⟩, percent := (21, 2), surcharge := some (52, 3), disabled := false },
    { tags := [], ext := [], since := some ⟨2010, 7, 1⟩, percent := (18, 2), surcharge := none, disabled := false } ]

example : (∀ v ∈ ex, sinceReal v = true) ∧ descendingFor ex [] [("r", "A")] = true ∧ descendingFor ex [] [] = true := by decide +kernel
example : (value ex ⟨2012, 9, 1⟩ [] []).map (·.percent) = some (21, 2) := by decide +kernel
example : (value ex ⟨2012, 8, 31⟩ [] []).map (·.percent) = some (18, 2) := by decide +kernel
example : value ex ⟨2010, 6, 30⟩ [] [] = none := by decide +kernel
example : (value ex ⟨2024, 10, 1⟩ [] [("r", "A")]).map (·.percent) = some (4, 2) := by decide +kernel
example : (inForce ex ⟨2024, 9, 30⟩ [] [("r", "A")]).map (·.percent) = some (21, 2) := by decide +kernel

/-! ## obligations over the tables regenerated from /repo on every run -/
namespace Expect
open GoblVerif.Generated.Rates

/-- every start date of every shipped table is a real calendar day -/
theorem all_dates_real : (allRates registry).all (fun r => r.values.all sinceReal) = true := by
  decide +kernel

/-- **every shipped rate's values, restricted to each tag/extension filter that
    occurs in it, are strictly descending in date with an undated value last** —
    stronger than `checkRateValuesOrder`, which skips qualified rows.  The only
    tables left out are those of the shape `qualifiedTie` (a qualified row with
    the very start date of the unqualified fall-back row: known finding
    `qualified_row_shares_start_with_fallback`); see the next theorem for them. -/
theorem all_tables_descending :
    (allRates registry).all (fun r => qualifiedTie r.values || tableDescending r.values) = true := by
  decide +kernel

/-- the left-out tables are still in (non-strictly) descending order under every
    filter, so `value_isInForce_of_weaklyDescending` applies to them: the code
    returns the first listed of the values sharing the latest start date -/
theorem tied_tables_weakly_descending :
    (allRates registry).all (fun r => !qualifiedTie r.values || tableWeaklyDescending r.values) = true := by
  decide +kernel

/-- the table published under `data/regimes/<name>.json` for a registered regime -/
def jsonFor (name : String) : Option RegimeTable :=
  ((jsonFiles.zip json).find? (fun p => p.1 == name)).map (·.2)

/-- **data/regimes JSON tables = in-code tables**: every registered regime is
    published under its file name with exactly the categories, rate keys, values,
    tags, extensions, start dates, percentages and surcharges the code holds.
    (Published files that no registered regime produces are C19's business.) -/
theorem json_equals_registry :
    (registryFiles.zip registry).all (fun p => jsonFor p.1 == some p.2) = true ∧
    registryFiles.length = registry.length ∧ jsonFiles.length = json.length := by
  decide +kernel

/-- the end-to-end statement for the shipped tables: for every registered rate
    (outside the known-finding shape), every filter occurring in it and EVERY
    date, `RateDef.Value` is the value in force -/
theorem shipped_value_eq_inForce (r : RateDef) (hr : r ∈ allRates registry)
    (hq : qualifiedTie r.values = false) (f : List String × Ext) (hf : f ∈ filtersOf r.values) (d : Date) :
    value r.values d f.1 f.2 = inForce r.values d f.1 f.2 := by
  have h1 := List.all_eq_true.mp all_dates_real r hr
  have h2 := List.all_eq_true.mp all_tables_descending r hr
  rw [hq, Bool.false_or] at h2
  apply value_eq_inForce
  · exact fun v hv => List.all_eq_true.mp h1 v hv
  · exact List.all_eq_true.mp h2 f hf

/-- … and a table without qualified rows answers the value in force for ANY
    tag list and extension map, not only the occurring filters -/
theorem shipped_unqualified_value_eq_inForce (r : RateDef) (hr : r ∈ allRates registry)
    (hu : r.values.all (fun v => !isQualified v) = true)
    (d : Date) (tags : List String) (ext : Ext) :
    value r.values d tags ext = inForce r.values d tags ext := by
  have h1 := List.all_eq_true.mp all_dates_real r hr
  have h2 := List.all_eq_true.mp all_tables_descending r hr
  have hu' : ∀ v ∈ r.values, isQualified v = false := fun v hv => by simpa using List.all_eq_true.mp hu v hv
  have happ : ∀ t e, ∀ v ∈ r.values, applies v t e = true := fun t e v hv => applies_of_unqualified (hu' v hv) t e
  have hnt := qualifiedTie_of_unqualified hu'
  rw [hnt, Bool.false_or] at h2
  have hmem : (([] : List String), ([] : Ext)) ∈ filtersOf r.values := by
    unfold filtersOf
    simp
  have h3 := List.all_eq_true.mp h2 _ hmem
  apply value_eq_inForce
  · exact fun v hv => List.all_eq_true.mp h1 v hv
  · unfold descendingFor startsFor at h3 ⊢
    have e1 : (r.values.filter fun v => applies v tags ext) = r.values :=
      List.filter_eq_self.mpr (happ tags ext)
    have e2 : (r.values.filter fun v => applies v [] []) = r.values :=
      List.filter_eq_self.mpr (happ [] [])
    rw [e1]; rw [e2] at h3; exact h3

end Expect

/-! ## the model is the source

`Generated/RatesSrc.lean` is regenerated on every run from /repo/tax
(regime_def.go, regimes.go, extensions.go) by the go2lean translator
(harness/cmd/extract/go2lean*.go, configuration ratessrc.go): one Lean
definition per Go function, loops, early returns and `continue` included.  The
Go structs are mapped onto the records of Model/Rates.lean (`struct_*_as_mapped`
pins the Go declarations, the generated `example`s check the field types).
The theorems `src_*` below prove, for ALL arguments, that each regenerated
definition equals the hand-written model function the theorems of this file
are about; `spec_of_the_source_*` restate the main ones over the regenerated
code.  An edit of one of these Go functions changes the regenerated definition
and the corresponding `src_*` proof no longer closes.

Trusted: the translator's reading of Go (header of Generated/RatesSrc.lean);
the assumptions it lists and `assumptions_as_reviewed` pins — the slices of
pointers hold no nil (a nil row makes the Go code panic: C14), maps are
association lists with distinct keys (the one `range` over a map is shown
order-independent in `src_Contains_map_order`, lookups in `map_lookup_order`),
`cal.Date` / `civil.Date` are the model's `Date` and `IsValid` / `After` /
`Before` / `Key.Has` mean `Date.isValid` / `after` / `before` / `keyHas` (the
differential run samples these four against the real library). -/
namespace Src
open GoblVerif.Generated GoblVerif.GoSem GoblVerif.Proofs.RatesSrc

/-! ### the translation is complete, and the struct mapping is what the Go declarations say -/

theorem all_translated : RatesSrc.untranslated = [] := rfl

theorem translated_as_listed :
    RatesSrc.translated = ["RateValueDef.hasAnyTag", "Extensions.Contains", "RateDef.Value",
      "CategoryDef.RateDef", "RegimeDef.CategoryDef", "Combo.prepareRate"] := rfl

theorem struct_RateValueDef_as_mapped :
    RatesSrc.struct_RateValueDef = [("Tags", "[]cbc.Key"), ("Ext", "Extensions"), ("Since", "*cal.Date"),
      ("Percent", "num.Percentage"), ("Surcharge", "*num.Percentage"), ("Disabled", "bool")] ∧
    RatesSrc.structLean_RateValueDef = ("GoblVerif.Rates.RateValue", ["tags", "ext", "since", "percent", "surcharge", "disabled"]) ∧
    RatesSrc.structOmitted_RateValueDef = [] :=
  ⟨rfl, rfl, rfl⟩

/-- `Name`, `Description` (translations) and `Meta` are not represented; no translated function reads them -/
theorem struct_RateDef_as_mapped :
    RatesSrc.struct_RateDef = [("Key", "cbc.Key"), ("Name", "i18n.String"), ("Description", "i18n.String"),
      ("Exempt", "bool"), ("Values", "[]*RateValueDef"), ("Ext", "Extensions"), ("Meta", "cbc.Meta")] ∧
    RatesSrc.structLean_RateDef = ("GoblVerif.Rates.RateDef", ["key", "exempt", "values", "ext"]) ∧
    RatesSrc.structOmitted_RateDef = ["Name", "Description", "Meta"] :=
  ⟨rfl, rfl, rfl⟩

theorem struct_CategoryDef_as_mapped :
    RatesSrc.struct_CategoryDef = [("Code", "cbc.Code"), ("Name", "i18n.String"), ("Title", "i18n.String"),
      ("Description", "*i18n.String"), ("Retained", "bool"), ("Rates", "[]*RateDef"), ("Extensions", "[]cbc.Key"),
      ("Map", "cbc.CodeMap"), ("Sources", "[]*cbc.Source"), ("Ext", "Extensions"), ("Meta", "cbc.Meta")] ∧
    RatesSrc.structLean_CategoryDef = ("GoblVerif.Rates.CategoryDef", ["code", "retained", "rates"]) ∧
    RatesSrc.structOmitted_CategoryDef = ["Name", "Title", "Description", "Extensions", "Map", "Sources", "Ext", "Meta"] :=
  ⟨rfl, rfl, rfl⟩

theorem struct_RegimeDef_as_mapped :
    RatesSrc.structLean_RegimeDef = ("GoblVerif.Rates.RegimeTable", ["country", "alt", "zone", "categories"]) ∧
    RatesSrc.struct_RegimeDef.filter (fun f => f.1 ∈ ["Country", "AltCountryCodes", "Zone", "Categories"]) =
      [("Country", "l10n.TaxCountryCode"), ("AltCountryCodes", "[]l10n.Code"), ("Zone", "l10n.Code"),
       ("Categories", "[]*CategoryDef")] ∧
    RatesSrc.structOmitted_RegimeDef.length + 4 = RatesSrc.struct_RegimeDef.length := by decide +kernel

/-- the unexported `retained` flag is not part of C12 and is not represented -/
theorem struct_Combo_as_mapped :
    RatesSrc.struct_Combo = [("Category", "cbc.Code"), ("Country", "l10n.TaxCountryCode"), ("Rate", "cbc.Key"),
      ("Percent", "*num.Percentage"), ("Surcharge", "*num.Percentage"), ("Ext", "Extensions"), ("retained", "bool")] ∧
    RatesSrc.structLean_Combo = ("GoblVerif.Rates.Combo", ["category", "country", "rate", "percent", "surcharge", "ext"]) ∧
    RatesSrc.structOmitted_Combo = ["retained"] :=
  ⟨rfl, rfl, rfl⟩

/-- what the translation assumes beyond its general reading of Go: which slices
    hold no nil, which loops range over a map (`src_Contains_map_order`,
    `src_prepareRate_map_order`), where a map is written (`c.Ext`, the combo's
    own map: `prepareRate` is the only holder the model knows) and nil-tested
    (`if c.Ext == nil { c.Ext = make(Extensions) }`: the same for an empty map),
    that `prepareRate` returns its receiver, which types are opaque and what the
    primitives mean; no unsigned subtraction, no condition-controlled loop -/
theorem assumptions_as_reviewed :
    RatesSrc.nonNilElems = ["[]*CategoryDef", "[]*RateDef", "[]*RateValueDef"] ∧
    RatesSrc.mapRanges = [("Extensions.Contains", "other"), ("Combo.prepareRate", "rate.Ext")] ∧
    RatesSrc.mapWrites = [("Combo.prepareRate", "c.Ext[k]")] ∧
    RatesSrc.mapNilTests = [("Combo.prepareRate", "c.Ext == nil")] ∧
    RatesSrc.inOutParams = [("Combo.prepareRate", "c")] ∧
    RatesSrc.namedTypes = [("cal.Date", "struct{civil.Date}", "GoblVerif.Rates.Date"),
      ("error", "interface{Error() string}", "Option String"),
      ("num.Percentage", "struct{amount num.Amount}", "GoblVerif.Rates.Pct")] ∧
    RatesSrc.primitives = [("Error.WithMessage", "(some {0} : Option String)"),
      ("cal.Date.Date", "{0}"),
      ("cbc.Key.Has", "GoblVerif.Rates.keyHas {0} {1}"),
      ("civil.Date.After", "GoblVerif.Rates.Date.after {0} {1}"),
      ("civil.Date.Before", "GoblVerif.Rates.Date.before {0} {1}"),
      ("civil.Date.IsValid", "GoblVerif.Rates.Date.isValid {0}")] ∧
    RatesSrc.natSubs = [] ∧ RatesSrc.fuelChecks = [] :=
  ⟨rfl, rfl, rfl, rfl, rfl, rfl, rfl, rfl, rfl⟩

/-! ### regenerated definition = model, for all arguments -/

/-- `(*RateValueDef).hasAnyTag` -/
theorem src_hasAnyTag (rv : RateValue) (tags : List String) :
    RatesSrc.RateValueDef_hasAnyTag rv tags = hasAnyTag rv.tags tags := by
  unfold RatesSrc.RateValueDef_hasAnyTag hasAnyTag
  simp only [forIn_list_id, pure_bind]
  simp only [Id.run, id_pure, forList_any]
  rw [forList_return (fun t => (tags.any fun tag => decide (t = tag)) = true) (fun _ => true) _
    (fun x => by cases (tags.any fun tag => decide (x = tag)) <;> rfl), ← List.isSome_find?]
  simp only [Bool.beq_eq_decide_eq, Bool.decide_eq_true]
  cases rv.tags.find? (fun t => tags.any fun tag => decide (t = tag)) <;> rfl

/-- `tax.Extensions.Contains` -/
theorem src_Contains (em other : Ext) : RatesSrc.Extensions_Contains em other = extContains em other := by
  unfold RatesSrc.Extensions_Contains extContains
  simp only [forIn_list_id, pure_bind]
  simp only [Id.run, id_pure]
  by_cases he : em = []
  · subst he; simp
  · have hl : ¬ ((em.length : Int) = 0) := mt (len_eq_zero em).mp he
    have hi : em.isEmpty = false := by simpa using he
    simp only [hl, hi, if_false]
    rw [forList_all (fun kv => extLookup em kv.1 == some kv.2) false _
      (by
        intro x
        rw [extLookup_eq_lookup]
        cases hlk : List.lookup x.1 em with
        | none => simp
        | some v => by_cases hv : v = x.2 <;> simp [hv])]
    cases other.all (fun kv => extLookup em kv.1 == some kv.2) <;> rfl

/-- the obligation of `mapRanges`: Go ranges over `other` in an unspecified
    order, the translation in list order — the answer is the same for every order -/
theorem src_Contains_map_order (em other other' : Ext) (hp : other.Perm other') :
    RatesSrc.Extensions_Contains em other' = RatesSrc.Extensions_Contains em other := by
  rw [src_Contains, src_Contains]
  unfold extContains
  rw [hp.all_eq]

/-- … and reading the receiver does not depend on how its association list is
    ordered either (distinct keys: the invariant of a Go map) -/
theorem map_lookup_order (em em' other : Ext) (hp : em.Perm em') (hn : (em.map Prod.fst).Nodup) :
    RatesSrc.Extensions_Contains em' other = RatesSrc.Extensions_Contains em other := by
  rw [src_Contains, src_Contains]
  exact (extContains_mapEq (lookup_perm hp hn) other).symm

/-- **`(*RateDef).Value`, regenerated from the source, is the model's `value`**
    — for every table, date, tag list and extension map -/
theorem src_Value (r : RateDef) (date : Date) (tags : List String) (ext : Ext) :
    RatesSrc.RateDef_Value r date tags ext = value r.values date tags ext := by
  unfold RatesSrc.RateDef_Value
  simp only [forIn_list_id, pure_bind]
  simp only [Id.run, id_pure, src_hasAnyTag, src_Contains]
  rw [forList_return (fun rv => (applicable rv tags ext && started rv date) = true) some _
    (by
      intro x
      have e1 : ((x.tags.length : Int) > 0) ↔ x.tags.isEmpty = false := by
        cases x.tags <;> simp
      have e2 : ((x.ext.length : Int) > 0) ↔ x.ext.isEmpty = false := by
        cases x.ext <;> simp
      have e3 : ((x.since.isNone = true ∨ ¬x.since.get!.isValid = true) ∨ ¬x.since.get!.after date = true)
          ↔ started x date = true := by
        unfold started
        cases x.since <;> simp
      simp only [e1, e2, e3, applicable_eq_guards]
      cases x.tags.isEmpty <;> cases hasAnyTag x.tags tags <;> cases x.ext.isEmpty <;> cases extContains ext x.ext <;>
        cases started x date <;> rfl)]
  rw [value_eq_find_first]
  simp only [Bool.decide_eq_true]
  cases List.find? (fun rv => applicable rv tags ext && started rv date) r.values <;> rfl

/-- `(*CategoryDef).RateDef`: exact key first, then `key.Has` -/
theorem src_RateDef (c : CategoryDef) (key : String) :
    RatesSrc.CategoryDef_RateDef c key = rateDef c.rates key := by
  unfold RatesSrc.CategoryDef_RateDef rateDef
  simp only [forIn_list_id, pure_bind]
  simp only [Id.run, id_pure]
  rw [forList_return (·.key = key) some _ (fun _ => rfl), forList_return (keyHas key ·.key = true) some _ (fun _ => rfl)]
  simp only [Bool.beq_eq_decide_eq, Bool.decide_eq_true]
  cases List.find? (fun r => decide (r.key = key)) c.rates with
  | some r => rfl
  | none => cases List.find? (fun r => keyHas key r.key) c.rates <;> rfl

/-- `(*RegimeDef).CategoryDef` (a nil regime has no categories) -/
theorem src_CategoryDef (r : RegimeTable) (code : String) :
    RatesSrc.RegimeDef_CategoryDef (some r) code = categoryDef r.categories code ∧
    RatesSrc.RegimeDef_CategoryDef none code = none := by
  constructor
  · unfold RatesSrc.RegimeDef_CategoryDef categoryDef
    simp only [forIn_list_id, pure_bind]
    simp only [Id.run, id_pure]
    simp only [Option.isNone_some, Bool.false_eq_true, if_false, Option.get!_some]
    rw [forList_return (·.code = code) some _ (fun _ => rfl)]
    simp only [Bool.beq_eq_decide_eq]
    cases List.find? (fun c => decide (c.code = code)) r.categories <;> rfl
  · rfl


/-! ### `(*Combo).prepareRate` -/

/-- **`(*Combo).prepareRate`, regenerated from the source** (the receiver as an
    in-out parameter: the result is the error key and the combo as the call
    leaves it) **is `prepareRateM`**, the same function written as one
    expression — for every combo, category, tag list and date -/
theorem src_prepareRate (c : Combo) (cat : CategoryDef) (tags : List String) (date : Date) :
    RatesSrc.Combo_prepareRate c cat tags date = prepareRateM cat c tags date := by
  unfold RatesSrc.Combo_prepareRate prepareRateM prepareWith
  simp only [forIn_list_id, pure_bind]
  simp only [Id.run, id_pure, src_merge_loop, src_RateDef, src_Value]
  by_cases hk : c.rate = ""
  · simp [hk]
  · have hk' : (c.rate == "") = false := by simpa using hk
    simp only [hk, hk', if_false, Bool.false_eq_true]
    rcases rateDef cat.rates c.rate with _ | rate
    · rfl
    · simp only [Option.isNone_some, Option.get!_some, Bool.false_eq_true, if_false]
      unfold mergedExtM
      have hc : (c.country = "" ∧ (rate.ext.length : Int) > 0) ↔ (c.country == "" && !rate.ext.isEmpty) = true := by
        cases rate.ext <;> simp
      simp only [hc]
      by_cases hM : (c.country == "" && !rate.ext.isEmpty) = true
      · simp only [hM, if_true]
        by_cases he : c.ext.isEmpty = true
        · rw [if_pos he, List.isEmpty_iff.mp he]
          exact goTail_eq_prepareTail rate _ tags date
        · rw [if_neg he]
          exact goTail_eq_prepareTail rate _ tags date
      · simp only [hM]
        exact goTail_eq_prepareTail rate c tags date

theorem src_prepareRate_same (c : Combo) (cat : CategoryDef) (tags : List String) (date : Date) :
    match prepareRate cat c tags date with
    | .error e => (RatesSrc.Combo_prepareRate c cat tags date).1 = some (errKey e)
    | .ok c' => Same (RatesSrc.Combo_prepareRate c cat tags date) (none, c') := by
  rw [src_prepareRate]; exact prepareRateM_agrees cat c tags date

/-- **the regenerated `prepareRate` agrees with the model's `prepareRate`**: it
    fails exactly when the model does and with the same error; otherwise the
    combo it leaves has the model's category, country, rate key, percent and
    surcharge and the same extension map (`MapEq`: the model keeps the
    association list sorted, the code appends) -/
theorem src_prepareRate_model (c : Combo) (cat : CategoryDef) (tags : List String) (date : Date) :
    match prepareRate cat c tags date with
    | .error e => (RatesSrc.Combo_prepareRate c cat tags date).1 = some (errKey e)
    | .ok c' =>
      (RatesSrc.Combo_prepareRate c cat tags date).1 = none ∧
      (RatesSrc.Combo_prepareRate c cat tags date).2.category = c'.category ∧
      (RatesSrc.Combo_prepareRate c cat tags date).2.country = c'.country ∧
      (RatesSrc.Combo_prepareRate c cat tags date).2.rate = c'.rate ∧
      (RatesSrc.Combo_prepareRate c cat tags date).2.percent = c'.percent ∧
      (RatesSrc.Combo_prepareRate c cat tags date).2.surcharge = c'.surcharge ∧
      MapEq (RatesSrc.Combo_prepareRate c cat tags date).2.ext c'.ext := by
  have h := src_prepareRate_same c cat tags date
  revert h
  cases prepareRate cat c tags date with
  | error e => exact id
  | ok c' => exact fun h => ⟨h.err, h.category, h.country, h.rate, h.percent, h.surcharge, h.ext⟩

/-- the obligation of `mapRanges` for `range rate.Ext`: whatever the order in
    which Go visits the rate's extensions (distinct keys), the part of
    `prepareRate` after the lookup of the rate gives the same error, percent,
    surcharge and extension map -/
theorem src_prepareRate_map_order (rate : RateDef) (e' : Ext) (hp : rate.ext.Perm e')
    (hn : (rate.ext.map Prod.fst).Nodup) (c : Combo) (tags : List String) (date : Date) :
    (prepareWith { rate with ext := e' } c tags date).1 = (prepareWith rate c tags date).1 ∧
    (prepareWith { rate with ext := e' } c tags date).2.percent = (prepareWith rate c tags date).2.percent ∧
    (prepareWith { rate with ext := e' } c tags date).2.surcharge = (prepareWith rate c tags date).2.surcharge ∧
    MapEq (prepareWith { rate with ext := e' } c tags date).2.ext (prepareWith rate c tags date).2.ext := by
  have h := prepareWith_order rate e' hp hn c tags date
  exact ⟨h.err, h.percent, h.surcharge, h.ext⟩

example : ([("a", "1"), ("b", "2")] : Ext).Perm [("b", "2"), ("a", "1")] ∧
    (([("a", "1"), ("b", "2")] : Ext).map Prod.fst).Nodup := by decide +kernel

/-- … and everything that reads the combo's extensions afterwards reads them as a map -/
theorem src_Value_reads_ext_as_map (r : RateDef) (date : Date) (tags : List String) (a b : Ext) (h : MapEq a b) :
    RatesSrc.RateDef_Value r date tags a = RatesSrc.RateDef_Value r date tags b := by
  rw [src_Value, src_Value]; exact value_mapEq h r.values date tags

example : MapEq [("a", "1"), ("b", "2")] [("b", "2"), ("a", "1")] := by
  intro k
  rw [lookup_cons_ite, lookup_cons_ite, lookup_cons_ite, lookup_cons_ite]
  by_cases h1 : k = "a"
  · subst h1; decide
  · by_cases h2 : k = "b"
    · subst h2; decide
    · simp [h1, h2]

/-! ### the theorems of this file, read off the regenerated code -/

/-- **the regenerated `RateDef.Value` returns the value in force** (see `value_eq_inForce`) -/
theorem spec_of_the_source_Value (r : RateDef) (d : Date) (tags : List String) (ext : Ext)
    (hreal : ∀ v ∈ r.values, sinceReal v = true)
    (hdesc : descendingFor r.values tags ext = true) :
    RatesSrc.RateDef_Value r d tags ext = inForce r.values d tags ext := by
  rw [src_Value]; exact value_eq_inForce r.values d tags ext hreal hdesc

example : (∀ v ∈ ex, sinceReal v = true) ∧ descendingFor ex [] [] = true ∧
    (RatesSrc.RateDef_Value ⟨"standard", false, [], ex⟩ ⟨2012, 9, 1⟩ [] []).map (·.percent) = some (21, 2) := by decide +kernel

/-- a value takes effect on its start date itself, in the regenerated code -/
theorem spec_of_the_source_start_date (r : RateDef) (d : Date) (tags : List String) (ext : Ext)
    (hreal : ∀ v ∈ r.values, sinceReal v = true)
    (hdesc : descendingFor r.values tags ext = true)
    (v : RateValue) (hv : v ∈ r.values) (ha : applies v tags ext = true) (hs : v.since = some d) :
    RatesSrc.RateDef_Value r d tags ext = some v := by
  rw [src_Value]; exact value_on_start_date r.values d tags ext hreal hdesc v hv ha hs

/-- a date before the first value gives no value, in the regenerated code -/
theorem spec_of_the_source_before_first (r : RateDef) (d : Date) (tags : List String) (ext : Ext)
    (hbefore : ∀ v ∈ r.values, applies v tags ext = true →
      ∃ s, v.since = some s ∧ realDay s = true ∧ dateLt d s = true) :
    RatesSrc.RateDef_Value r d tags ext = none := by
  rw [src_Value]; exact value_before_first r.values d tags ext hbefore

example : RatesSrc.RateDef_Value ⟨"standard", false, [], ex⟩ ⟨2010, 6, 30⟩ [] [] = none := by decide +kernel

/-- for every shipped rate (outside the known-finding shape), every filter that
    occurs in it and EVERY date, the regenerated `RateDef.Value` is the value in force -/
theorem spec_of_the_source_shipped (r : RateDef) (hr : r ∈ allRates Generated.Rates.registry)
    (hq : qualifiedTie r.values = false) (f : List String × Ext) (hf : f ∈ filtersOf r.values) (d : Date) :
    RatesSrc.RateDef_Value r d f.1 f.2 = inForce r.values d f.1 f.2 := by
  rw [src_Value]; exact Expect.shipped_value_eq_inForce r hr hq f hf d

/-- exempt keys yield no percentage and no surcharge, in the regenerated code -/
theorem spec_of_the_source_exempt (cat : CategoryDef) (c : Combo) (tags : List String) (date : Date) (rate : RateDef)
    (hk : c.rate ≠ "") (hr : rateDef cat.rates c.rate = some rate) (hx : rate.exempt = true) :
    (RatesSrc.Combo_prepareRate c cat tags date).1 = none ∧
    (RatesSrc.Combo_prepareRate c cat tags date).2.percent = none ∧
    (RatesSrc.Combo_prepareRate c cat tags date).2.surcharge = none := by
  obtain ⟨c', h1, h2, h3⟩ := exempt_no_percent cat c tags date rate hk hr hx
  have h := src_prepareRate_same c cat tags date
  rw [h1] at h
  exact ⟨h.err, h.percent.trans h2, h.surcharge.trans h3⟩

/-- the combo receives the percent and surcharge of the row `RateDef.Value`
    picks, in the regenerated code -/
theorem spec_of_the_source_uses_value (cat : CategoryDef) (c : Combo) (tags : List String) (date : Date)
    (rate : RateDef) (v : RateValue)
    (hk : c.rate ≠ "") (hr : rateDef cat.rates c.rate = some rate) (hx : rate.exempt = false)
    (hval : value rate.values date tags (mergedExt c rate) = some v) :
    (RatesSrc.Combo_prepareRate c cat tags date).1 = none ∧
    (RatesSrc.Combo_prepareRate c cat tags date).2.percent = some v.percent ∧
    (RatesSrc.Combo_prepareRate c cat tags date).2.surcharge = v.surcharge := by
  obtain ⟨c', h1, h2, h3⟩ := prepareRate_uses_value cat c tags date rate v hk hr hx hval
  have h := src_prepareRate_same c cat tags date
  rw [h1] at h
  exact ⟨h.err, h.percent.trans h2, h.surcharge.trans h3⟩

/-- no value for the date is the error `invalid-date`, not a guess, in the regenerated code -/
theorem spec_of_the_source_before_first_is_error (cat : CategoryDef) (c : Combo) (tags : List String) (date : Date)
    (rate : RateDef)
    (hk : c.rate ≠ "") (hr : rateDef cat.rates c.rate = some rate) (hx : rate.exempt = false)
    (hv : rate.values ≠ [])
    (hval : value rate.values date tags (mergedExt c rate) = none) :
    (RatesSrc.Combo_prepareRate c cat tags date).1 = some "invalid-date" := by
  have h1 := prepareRate_before_first_is_error cat c tags date rate hk hr hx hv hval
  have h := src_prepareRate_model c cat tags date
  rw [h1] at h
  exact h

example : (RatesSrc.Combo_prepareRate ⟨"VAT", "", "standard", none, none, []⟩
      ⟨"VAT", false, [⟨"exempt", true, [], []⟩, ⟨"standard", false, [("k", "v")], ex⟩]⟩ [] ⟨2012, 9, 1⟩)
    = (none, ⟨"VAT", "", "standard", some (21, 2), some (52, 3), [("k", "v")]⟩) ∧
    (RatesSrc.Combo_prepareRate ⟨"VAT", "", "standard", none, none, []⟩
      ⟨"VAT", false, [⟨"standard", false, [], ex⟩]⟩ [] ⟨2010, 6, 30⟩).1 = some "invalid-date" ∧
    (RatesSrc.Combo_prepareRate ⟨"VAT", "", "exempt", some (21, 2), none, []⟩
      ⟨"VAT", false, [⟨"exempt", true, [], ex⟩]⟩ [] ⟨2012, 9, 1⟩).2.percent = none := by decide +kernel

end Src

end GoblVerif.Props.C12
