/-
  C11 — Published JSON Schemas are valid and every valid document conforms.

  What is a theorem here (kernel-checked on every run, over the data
  regenerated from /repo/data/schemas and from the Go registries):

  * `keywords_well_typed`, `refs_resolve`, `patterns_compile`, `formats_known`,
    `ids_consistent` — every one of the published files is a well-formed draft
    2020-12 schema in the sense of Model/Schema.lean (a string-valued `enum`, such as
    `"enum": "advice"`, makes `keywords_well_typed` false);
  * leaf inclusions for **all** values: the text `Amount.String` /
    `Percentage.String` produce matches the published pattern, the text of a
    valid date passes the `date` format check, the text of a UUID passes the
    `uuid` format check, a normalised code matches the `cbc.Code` pattern
    exactly when it neither starts nor ends with a separator;
  * enumeration inclusions: every currency, country, regime, addon, document
    type and unit the Go validators accept is listed exactly once in the
    schema's `oneOf` of constants;
  * validator inclusions (models of the Go validators in
    Model/SchemaLeaves.lean): whatever `Extensions.Validate` accepts as a value
    is a text the schema of cbc/code accepts; a stored tax summary that
    `(*tax.Total).Validate` accepts has, in every category, a conforming code
    and a non-empty `rates` array whose keys, countries and extension values
    conform; a tax identity code Go accepts — by the generic rule, or by the
    Mexican one for the country exempt from it — is inside the pattern and
    the length limits published for `tax.Identity.code`;
  * `Expect`: the keyword / pattern / format / type inventories of the files are
    pinned, so that a keyword the model does not evaluate cannot appear
    silently; the Go validators' patterns and length limits for keys and codes
    equal the published ones.

  What is **not** a theorem (see MANIFEST, DESIGN §6 C11):
  "every document GOBL calculates and validates conforms" needs a model of all
  of GOBL's validation; it is checked by running the consumer model
  (`Schema.validate`) and python jsonschema on every example, recalculated
  document and valid mutant (harness/props/c11).
-/
import GoblVerif.Spec.C11
import GoblVerif.Model.SchemaLeaves
import GoblVerif.Proofs.SchemaLeaves
import GoblVerif.Proofs.ListedOnce
import GoblVerif.Generated.Schemas
import GoblVerif.Generated.SchemaFacts

namespace GoblVerif.Props.C11
open GoblVerif GoblVerif.Schema GoblVerif.Regex GoblVerif.Regex.RE GoblVerif.Leaves GoblVerif.Spec.C11
open GoblVerif.Generated.Schemas GoblVerif.Generated.SchemaFacts

/-! ## (1) the published files are well-formed schemas -/
namespace Expect

/-- `pattern` values and `patternProperties` keys at schema positions, recomputed from the data -/
def patternsUsed : List NStr :=
  files.flatMap fun f => stringsOf s%"pattern" walkFuel f.2 ++ patternKeysOf walkFuel f.2

def expectedPatterns : List NStr :=
    [s%"^(?:[a-z]|[a-z0-9][a-z0-9-+]*[a-z0-9])$",
     s%"^[0-9]{4}-[0-9]{2}-[0-9]{2}T[0-9]{2}:[0-9]{2}:[0-9]{2}$",
     s%"^[A-Z0-9]+$", s%"^[A-Z0-9Ñ&]+$", s%"^[A-Z0-9]{2,3}$",
     s%"^[A-Za-z0-9]+([\\.\\-\\/ _\\:]?[A-Za-z0-9]+)*$",
     s%"^[a-z]{2}$",
     s%"^\\-?[0-9]+(\\.[0-9]+)?$", s%"^\\-?[0-9]+(\\.[0-9]+)?%$"]

/-- keywords at schema positions, recomputed from the data -/
def keywordsUsed : List NStr := files.flatMap fun f => keywordsOf walkFuel f.2

/-- the keyword subset of the 68 files -/
def expectedKeywords : List NStr :=
  [s%"title", s%"const", s%"description", s%"$ref", s%"type", s%"items", s%"properties", s%"$schema", s%"$id",
   s%"$defs", s%"required", s%"calculated", s%"format", s%"oneOf", s%"pattern", s%"recommended", s%"anyOf",
   s%"examples", s%"patternProperties", s%"maxLength", s%"minLength", s%"contentEncoding"]

end Expect

/-- The five passes over the published files, as one statement: the theorems that follow are its
    conjuncts.  A pass that fails, and the file it fails on, is named by the driver's static report
    (`Driver/C11.lean` `staticReport`, labels `:keywords_well_typed`, `:refs_resolve`,
    `:patterns_compile`, `:formats_known`). -/
theorem files_surveyed :
    (files.all fun f => wellTyped walkFuel f.2) = true ∧
    (files.all fun f => refsOk (registryOf files) f.2) = true ∧
    (files.all fun f => formatsOk f.2) = true ∧
    sameSet Expect.patternsUsed Expect.expectedPatterns = true ∧
    sameSet Expect.keywordsUsed Expect.expectedKeywords = true := by decide +kernel

/-- each keyword's value has the JSON type the 2020-12 meta-schema requires, in every file -/
theorem keywords_well_typed : (files.all fun f => wellTyped walkFuel f.2) = true := files_surveyed.1

/-- every `$ref` of every file resolves to an existing `$id` / `$defs` target; `$id` only at file roots -/
theorem refs_resolve : (files.all fun f => refsOk (registryOf files) f.2) = true := files_surveyed.2.1

/-- every `format` used is one the consumer model asserts -/
theorem formats_known : (files.all fun f => formatsOk f.2) = true := files_surveyed.2.2.1

namespace Expect

/-- the nine patterns of the schema files (`pattern` values and `patternProperties` keys) -/
theorem pattern_inventory : sameSet patternsUsed expectedPatterns = true ∧
    sameSet patternInventory expectedPatterns = true := ⟨files_surveyed.2.2.2.1, by decide +kernel⟩

/-- the keyword subset of the 68 files is exactly this one: thirteen evaluated by the validator
    (`$ref type items properties required oneOf anyOf const pattern patternProperties format
    min/maxLength`) and the annotations.  A new keyword breaks this obligation instead of being
    ignored; the extractor's own inventory says the same. -/
theorem keyword_inventory : sameSet keywordsUsed expectedKeywords = true ∧
    sameSet keywordInventory expectedKeywords = true := ⟨files_surveyed.2.2.2.2, by decide +kernel⟩

/-- every keyword used is either evaluated by the validator or a declared annotation -/
theorem keywords_covered :
    expectedKeywords.all (fun k => assertionKeywords.contains k || annotationKeywords.contains k) = true := by
  decide +kernel

/-- formats and type names: `formats_known` / `keywords_well_typed` bound them from the data;
    the extractor's inventories name them -/
theorem format_and_type_inventory :
    sameSet formatInventory [s%"date", s%"uri", s%"uuid"] = true ∧
    sameSet typeInventory [s%"array", s%"boolean", s%"integer", s%"number", s%"object", s%"string"] = true := by
  decide +kernel

theorem file_count : files.length = fileCount ∧ fileCount = 68 := by decide +kernel

end Expect

/-- every `pattern` and every `patternProperties` key parses in Model/Regex: each is one of the
    nine of `Expect.pattern_inventory`, and those parse -/
theorem patterns_compile : (files.all fun f => patternsOk f.2) = true := by
  have hparse : (Expect.expectedPatterns.all fun p => (compileL p.toCodes).isSome) = true := by decide +kernel
  have hused := List.all_eq_true.mp (Bool.and_eq_true_iff.mp Expect.pattern_inventory.1).1
  simp only [List.all_eq_true, patternsOk]
  intro f hf p hp
  have hp' : p ∈ Expect.patternsUsed := List.mem_flatMap.mpr ⟨f, hf, mem_of_mem_dedup hp⟩
  exact List.all_eq_true.mp hparse p (by simpa using hused p hp')

/-- `$id` = `https://gobl.org/draft-0/<path without .json>`, `$schema` is draft 2020-12, ids are distinct,
    and every file is registered under its `$id` -/
theorem ids_consistent : idsOk files = true ∧ (registryOf files).length = files.length := by decide +kernel

/-- the four checks together, as the specification states them -/
theorem schema_set_ok : SchemaSetOk files = true := by
  unfold SchemaSetOk
  simp only [List.all_eq_true, Bool.and_eq_true]
  intro f hf
  exact ⟨⟨⟨List.all_eq_true.mp keywords_well_typed f hf, List.all_eq_true.mp refs_resolve f hf⟩,
    List.all_eq_true.mp patterns_compile f hf⟩, List.all_eq_true.mp formats_known f hf⟩

/-- a `$ref` the check accepted does resolve (what `refsOk` means for the root of a file) -/
theorem refsOk_root_ref (reg : Registry) (kvs : List (NStr × JVal)) (r : NStr)
    (h : refsOk reg (.obj kvs) = true) (hr : (s%"$ref", JVal.str r) ∈ kvs) :
    (resolveRef reg (.obj kvs) r).isSome = true := by
  unfold refsOk walkFuel at h
  simp only [refsOkAt, Bool.and_eq_true, List.all_eq_true] at h
  have := h.1 _ hr
  simpa using this

example : (resolveRef (registryOf files) f_bill_invoice s%"https://gobl.org/draft-0/org/party").isSome = true := by
  decide +kernel

/-! ## (2a) leaf inclusions, for all values -/

def dashCls : RE := .cls ⟨[(45, 45)], false⟩
def dotCls : RE := .cls ⟨[(46, 46)], false⟩
def pctCls : RE := .cls ⟨[(37, 37)], false⟩

/-- what `^\-?[0-9]+(\.[0-9]+)?$` compiles to -/
def amountRE : RE := .cat (.cat (RE.opt dashCls) (RE.plus digitCls)) (RE.opt (.cat dotCls (RE.plus digitCls)))
/-- what `^\-?[0-9]+(\.[0-9]+)?%$` compiles to -/
def percentageRE : RE := .cat amountRE pctCls

theorem amount_text_in_language (a : Amount) (he : a.exp ≤ 1000) : Matches amountRE (amountCodes a) := by
  have hsign : ∀ (b : Bool), Matches (RE.opt dashCls) (if b then [45] else []) := by
    intro b; cases b
    · exact matches_opt_nil
    · exact matches_opt_some (single_matches 45)
  unfold amountCodes
  simp only
  split
  · -- no decimals
    have h1 := hsign (decide (a.value < 0))
    have h2 : Matches (RE.plus digitCls) (Leaves.natDigits a.value.natAbs) :=
      digits_plus (natDigits_ne_nil _) (natDigits_digits _)
    have := Matches.cat (Matches.cat h1 h2) (matches_opt_nil (a := .cat dotCls (RE.plus digitCls)))
    simpa [amountRE, apply_ite] using this
  · split
    · omega
    · have h1 := hsign (decide (a.value < 0))
      have h2 : Matches (RE.plus digitCls) (Leaves.natDigits (a.value.natAbs / 10 ^ a.exp)) :=
        digits_plus (natDigits_ne_nil _) (natDigits_digits _)
      have h3 : Matches (RE.plus digitCls) (padZero a.exp (Leaves.natDigits (a.value.natAbs % 10 ^ a.exp))) :=
        digits_plus (padZero_ne_nil _ _ (natDigits_ne_nil _)) (padZero_digits _ _ (natDigits_digits _))
      have h4 := matches_opt_some (Matches.cat (single_matches 46) h3)
      have := Matches.cat (Matches.cat h1 h2) h4
      simpa [amountRE, dotCls, apply_ite, List.append_assoc] using this

/-- **Amount**: the text `Amount.String` produces matches the published pattern of num/amount.
    The model `amountCodes` mirrors `Amount.String` for exponents up to 18 only (beyond, Go's `intPow`
    wraps: header of Model/SchemaLeaves.lean); for 19…1000 this is a statement about the model alone.
    Exponents above 1000 print "NA" and are excluded. -/
theorem amount_text_matches (a : Amount) (he : a.exp ≤ 1000) : amountRE.matchL (amountCodes a) = true :=
  (matchL_iff _ _).mpr (amount_text_in_language a he)

example : amountCodes ⟨-12345, 2⟩ = NStr.toCodes s%"-123.45" ∧ amountRE.matchL (amountCodes ⟨-12345, 2⟩) = true := by decide +kernel
example : amountCodes ⟨5, 3⟩ = NStr.toCodes s%"0.005" ∧ amountCodes ⟨-7, 0⟩ = NStr.toCodes s%"-7" := by decide +kernel
/-- the excluded case really is outside the pattern -/
example : amountRE.matchL (amountCodes ⟨1, 1001⟩) = false := by decide +kernel

/-- **Percentage**: `Percentage.String` is the amount text followed by `%`. -/
theorem percentage_text_matches (p : Pct) (he : p.toAmount.exp ≤ 1000) :
    percentageRE.matchL (pctCodes p) = true := by
  rw [matchL_iff]
  show Matches (.cat amountRE pctCls) (amountCodes p.toAmount ++ [37])
  exact Matches.cat (amount_text_in_language _ he) (single_matches 37)

example : percentageRE.matchL (amountCodes ⟨2100, 2⟩ ++ [37]) = true ∧ amountCodes ⟨2100, 2⟩ ++ [37] = NStr.toCodes s%"21.00%" := by
  decide +kernel

/-! ### dates -/

/-- **Date**: the text `%04d-%02d-%02d` of a date that exists (years 0…9999) passes the `date` format. -/
theorem date_text_is_date (y m d : Nat) (hy : y ≤ 9999) (hv : dateValid y m d = true) :
    isDateC (dateCodes y m d) = true := by
  have hmd := dateValid_bounds hv
  rw [dateCodes, padZero_natDigits 4 y (by decide) (by omega), padZero_natDigits 2 m (by decide) (by omega),
    padZero_natDigits 2 d (by decide) (by omega)]
  -- the format check reads the fields back from their digits
  have ey : y / 10 / 10 / 10 % 10 * 1000 + y / 10 / 10 % 10 * 100 + y / 10 % 10 * 10 + y % 10 = y := by omega
  have em : m / 10 % 10 * 10 + m % 10 = m := by omega
  have ed : d / 10 % 10 * 10 + d % 10 = d := by omega
  simp only [lowDigits_codes_succ]
  simp [Digits.lowDigits, isDateC, isDigit_low, digitVal_add, ey, em, ed, validYMD_eq_dateValid, hv]

example : dateCodes 2024 2 29 = NStr.toCodes s%"2024-02-29" ∧ dateValid 2024 2 29 = true ∧
    isDateC (dateCodes 2024 2 29) = true ∧ dateValid 2023 2 29 = false := by decide +kernel

/-! ### UUIDs -/

/-- **UUID**: the canonical text of 16 bytes (what GOBL stores after parsing) passes the `uuid` format. -/
theorem uuid_text_is_uuid (bs : List Nat) (h : bs.length = 16) : isUuidC (uuidCodes bs) = true := by
  match bs, h with
  | [b0, b1, b2, b3, b4, b5, b6, b7, b8, b9, b10, b11, b12, b13, b14, b15], _ =>
    simp [uuidCodes, hexByte, isUuidC, allHexN, isHex_lo]

example : uuidCodes [0, 1, 2, 3, 4, 5, 6, 7, 8, 9, 10, 11, 12, 13, 14, 255]
    = NStr.toCodes s%"00010203-0405-0607-0809-0a0b0c0d0eff" := by decide +kernel

/-! ### codes: cbc.NormalizeCode against the cbc.Code pattern

  The unconditional statement "a non-empty normalised code matches the pattern" is **false** for
  the code as it is (`NormalizeCode("abc-") = "abc-"`, see the example below): the result may begin
  or end with a separator other than a blank.  What holds for every input: the result consists
  of allowed characters, every separator in it is followed by an alphanumeric, and it matches
  the published pattern as soon as it begins and ends with an alphanumeric. -/

theorem normalizeCode_chars (s : List Nat) :
    ∀ c ∈ normalizeCode s, Leaves.isAlnum c = true ∨ isSep c = true := by
  intro c hc
  simpa [dropInvalid] using (List.mem_filter.mp ((normalizeCode_sublist s).subset hc)).2

theorem normalizeCode_separators (s : List Nat) : sepOk (normalizeCode s) = true :=
  sepOk_prefix (trimRight_prefix _) (sepOk_suffix (trimLeft_suffix _) (sepOk_collapse _ _))

theorem normalizeCode_matches_partial (s : List Nat) (hne : normalizeCode s ≠ [])
    (hhead : ∀ y t, normalizeCode s = y :: t → Leaves.isAlnum y = true)
    (hlast : ∀ z, (normalizeCode s).getLast? = some z → Leaves.isAlnum z = true) :
    codeRE.matchL (normalizeCode s) = true :=
  (matchL_iff _ _).mpr (code_shape_matches _ (normalizeCode_chars s) (normalizeCode_separators s)
    (fun y hy => (List.head?_eq_some_iff.mp hy).elim fun t e => hhead y t e) hne hlast)

example : normalizeCode (NStr.toCodes s%"  ab--c d! ") = NStr.toCodes s%"ab-c d" ∧
    codeRE.matchL (normalizeCode (NStr.toCodes s%"  ab--c d! ")) = true := by decide +kernel
/-- the counterexample to the unconditional statement -/
example : normalizeCode (NStr.toCodes s%"abc-") = NStr.toCodes s%"abc-" ∧
    codeRE.matchL (normalizeCode (NStr.toCodes s%"abc-")) = false := by decide +kernel

/-! ### enumerations: what Go accepts is listed exactly once -/

theorem currencies_listed : listedOnce goCurrencies (oneOfConsts f_currency_code [s%"$defs", s%"Code"]) = true :=
  ListedOnce.listedOnce_of_fast (by decide +kernel)
theorem iso_countries_listed :
    listedOnce goISOCountries (oneOfConsts f_l10n_iso_country_code [s%"$defs", s%"ISOCountryCode"]) = true :=
  ListedOnce.listedOnce_of_fast (by decide +kernel)
theorem tax_countries_listed :
    listedOnce goTaxCountries (oneOfConsts f_l10n_tax_country_code [s%"$defs", s%"TaxCountryCode"]) = true :=
  ListedOnce.listedOnce_of_fast (by decide +kernel)

/-- the four document types carrying `$regime` / `$addons` -/
def billDocs : List (JVal × NStr) :=
  [(f_bill_invoice, s%"Invoice"), (f_bill_order, s%"Order"), (f_bill_delivery, s%"Delivery"), (f_bill_payment, s%"Payment")]

theorem regimes_listed : (billDocs.all fun d =>
    listedOnce goRegimes (oneOfConsts d.1 [s%"$defs", d.2, s%"properties", s%"$regime"])) = true := by decide +kernel
/-- **known finding C11-K7, on the regenerated data**: `tax.Regime.Validate` accepts every code
    the regime registry answers to (`goRegimeKeys`: the regimes' countries AND their alternative
    country codes) and nothing rewrites an accepted `$regime`; the published enumerations list the
    countries only.  Exactly the alternative codes are accepted and not listed — and one of them is
    not even a published tax country code, which is what a party's `$regime` is published as.
    (`regimes_listed` above is about `goRegimes`, the codes `SetRegime` writes.) -/
theorem regime_aliases_not_listed :
    (billDocs.all fun d =>
      goRegimeKeys.filter (fun k => !(oneOfConsts d.1 [s%"$defs", d.2, s%"properties", s%"$regime"]).contains k)
        == [s%"GR", s%"XI", s%"XU"]) = true ∧
    goRegimeKeys.filter (fun k => !(oneOfConsts f_l10n_tax_country_code [s%"$defs", s%"TaxCountryCode"]).contains k)
      = [s%"GR"] ∧
    goRegimes.all (goRegimeKeys.contains ·) = true := by decide +kernel

theorem addons_listed : (billDocs.all fun d =>
    listedOnce goAddons (oneOfConsts d.1 [s%"$defs", d.2, s%"properties", s%"$addons", s%"items"])) = true := by decide +kernel
theorem document_types_listed :
    listedOnce goInvoiceTypes (oneOfConsts f_bill_invoice [s%"$defs", s%"Invoice", s%"properties", s%"type"]) = true ∧
    listedOnce goOrderTypes (oneOfConsts f_bill_order [s%"$defs", s%"Order", s%"properties", s%"type"]) = true ∧
    listedOnce goDeliveryTypes (oneOfConsts f_bill_delivery [s%"$defs", s%"Delivery", s%"properties", s%"type"]) = true ∧
    listedOnce goPaymentTypes (oneOfConsts f_bill_payment [s%"$defs", s%"Payment", s%"properties", s%"type"]) = true := by
  decide +kernel
theorem units_listed : listedOnce goUnits (oneOfConsts f_org_unit [s%"$defs", s%"Unit"]) = true :=
  ListedOnce.listedOnce_of_fast (by decide +kernel)

/-- non-vacuity: the lists are there -/
example : goCurrencies.length ≥ 100 ∧ goRegimes.length ≥ 10 ∧ goAddons.length ≥ 5 ∧
    (oneOfConsts f_bill_invoice [s%"$defs", s%"Invoice", s%"properties", s%"$regime"]).length ≥ 10 := by decide +kernel

/-- being listed once is what makes the `oneOf` accept the value (consumer model) -/
example : validateById (registryOf files) s%"https://gobl.org/draft-0/currency/code" (.str s%"EUR") = .ok ∧
    validateById (registryOf files) s%"https://gobl.org/draft-0/currency/code" (.str s%"XXQ")
      = .reject s%"oneOf" NStr.empty := by decide +kernel

/-! ## (2b) validator inclusions: what the Go validators accept, the published leaf schemas accept

  The models (`Leaves.requiredCode`, `extValueValidate`, `totalValidate`, `identityCodeGeneric`,
  `mxNational` …) mirror the Go validators; `Expect.stored_total_validators`,
  `Expect.extensions_validator` and `Expect.identity_code_pattern` pin their shape, the harness
  compares them with the real validators on generated values.  The right-hand sides are what
  the published schemas ask (`Expect.code_validator_is_schema`, `key_validator_is_schema`,
  `stored_total_schema`, `identity_code_pattern` pin patterns, limits and references). -/

/-- what cbc/code asks of a text: 1…32 characters, inside the code pattern -/
def CodeConforms (s : List Nat) : Prop := 1 ≤ s.length ∧ s.length ≤ 32 ∧ codeRE.matchL s = true
/-- what cbc/key asks of a text: 1…64 characters, inside the key pattern -/
def KeyConforms (s : List Nat) : Prop := 1 ≤ s.length ∧ s.length ≤ 64 ∧ keyRE.matchL s = true
/-- what tax/identity asks of `code`: 1…32 characters, inside the published identity pattern -/
def IdentityCodeConforms (s : List Nat) : Prop := 1 ≤ s.length ∧ s.length ≤ 32 ∧ identitySchemaRE.matchL s = true

/-- a code that is required and valid (`validation.Required` + `cbc.Code.Validate`) conforms to cbc/code -/
theorem required_code_conforms (s : List Nat) (h : requiredCode s = true) : CodeConforms s := by
  simp only [requiredCode, Bool.and_eq_true, Bool.not_eq_true'] at h
  exact codeValidate_spec h.2 (by rintro rfl; cases h.1)

/-- a key that is present and valid (`cbc.Key.Validate`) conforms to cbc/key -/
theorem valid_key_conforms (s : List Nat) (h : keyValidate s = true) (hne : s ≠ []) : KeyConforms s :=
  keyValidate_spec h hne

/-- **extension values**: whatever `Extensions.Validate` accepts as the value of a member — for any
    definition of its key: with a list of codes, with a pattern, with neither — is a text the schema
    of cbc/code accepts, which is what tax/extensions refers every value to. -/
theorem ext_value_conforms (kd : Option ExtKeyDef) (v : List Nat) (h : extValueValidate kd v = true) :
    CodeConforms v := by
  cases kd with
  | none => simp [extValueValidate] at h
  | some kd =>
    simp only [extValueValidate, Bool.and_eq_true] at h
    exact required_code_conforms _ h.1.1

theorem extensions_conform (defOf : List Nat → Option ExtKeyDef) (em : List (List Nat × List Nat))
    (h : extensionsValidate defOf em = true) : ∀ kv ∈ em, CodeConforms kv.2 := by
  intro kv hkv
  simp only [extensionsValidate, Bool.and_eq_true, List.all_eq_true] at h
  exact ext_value_conforms _ _ (h.2 kv hkv)

/-- a definition without list and without pattern still holds the value to the code syntax -/
example : extValueValidate (some ⟨[], none⟩) (NStr.toCodes s%"01010101") = true ∧
    extValueValidate (some ⟨[], none⟩) (NStr.toCodes s%"-0.25") = false ∧
    extValueValidate (some ⟨[], none⟩) (NStr.toCodes s%"0101 ") = false ∧
    extValueValidate (some ⟨[], none⟩) [] = false ∧
    extValueValidate (some ⟨[], none⟩) (List.replicate 33 48) = false ∧
    extValueValidate (some ⟨[], some fun _ => true⟩) (NStr.toCodes s%"62\t01") = false ∧
    extValueValidate (some ⟨[NStr.toCodes s%"E1"], none⟩) (NStr.toCodes s%"E1") = true ∧
    extValueValidate none (NStr.toCodes s%"E1") = false := by decide +kernel

/-- the members of a rate of a stored tax summary as tax/total constrains them: `key` and `country`
    are written only when not empty (`omitempty`), every extension value is a code -/
def RateConforms (countries : List (List Nat)) (rt : RateTotalV) : Prop :=
  (rt.key = [] ∨ KeyConforms rt.key) ∧ (rt.country = [] ∨ rt.country ∈ countries) ∧
  ∀ kv ∈ rt.ext, CodeConforms kv.2

theorem rate_total_conforms (countries : List (List Nat)) (defOf : List Nat → Option ExtKeyDef) (rt : RateTotalV)
    (h : rateTotalValidate countries defOf rt = true) : RateConforms countries rt := by
  obtain ⟨hk, hc, he⟩ := rateTotalValidate_iff.mp h
  exact ⟨(Classical.em (rt.key = [])).imp_right (valid_key_conforms _ hk), hc, extensions_conform defOf rt.ext he⟩

/-- **stored tax summaries**: a summary `(*tax.Total).Validate` accepts has, in every category, a
    code the schema of cbc/code accepts and a non-empty list of rates (so `rates` is printed as an
    array, never `null`), and every rate conforms.  `countries` is the list `TaxCountryCode.Validate`
    accepts (`tax_countries_listed`: each is listed in the schema). -/
theorem stored_total_conforms (countries : List (List Nat)) (defOf : List Nat → Option ExtKeyDef)
    (cats : List CategoryTotalV) (h : totalValidate countries defOf cats = true) :
    ∀ ct ∈ cats, CodeConforms ct.code ∧ ct.rates ≠ [] ∧ ∀ rt ∈ ct.rates, RateConforms countries rt := by
  intro ct hct
  obtain ⟨h1, h2, h3⟩ := categoryTotalValidate_iff.mp (List.all_eq_true.mp h ct hct)
  exact ⟨required_code_conforms _ h1, h2, fun rt hrt => rate_total_conforms countries defOf rt (h3 rt hrt)⟩

def vatCodes : List Nat := NStr.toCodes s%"VAT"
def esCodes : List Nat := NStr.toCodes s%"ES"
def sampleRate : RateTotalV := ⟨NStr.toCodes s%"standard", esCodes, []⟩

/-- non-vacuity; no code, a malformed code, no rates, a malformed rate key, an unknown country
    are refused -/
example : totalValidate [esCodes] (fun _ => none) [⟨vatCodes, [sampleRate]⟩] = true ∧
    totalValidate [esCodes] (fun _ => none) [⟨[], [sampleRate]⟩] = false ∧
    totalValidate [esCodes] (fun _ => none) [⟨NStr.toCodes s%"VAT ", [sampleRate]⟩] = false ∧
    totalValidate [esCodes] (fun _ => none) [⟨vatCodes, []⟩] = false ∧
    totalValidate [esCodes] (fun _ => none) [⟨vatCodes, [⟨NStr.toCodes s%"Std Rate", [], []⟩]⟩] = false ∧
    totalValidate [esCodes] (fun _ => none) [⟨vatCodes, [⟨[], NStr.toCodes s%"ZZ", []⟩]⟩] = false ∧
    totalValidate [esCodes] (fun _ => none) [⟨vatCodes, [⟨[], [], []⟩]⟩] = true := by decide +kernel

/-! ### tax identity codes -/

/-- **identity codes, generic rule**: a non-empty code that passes `Match(IdentityCodePatternRegexp)`
    and `cbc.Code.Validate` (every country outside `IdentityCodeValidationIgnore`) is inside the
    pattern and limits published for `tax.Identity.code` -/
theorem identity_code_generic_conforms (s : List Nat) (h : identityCodeGeneric s = true) (hne : s ≠ []) :
    IdentityCodeConforms s := by
  simp only [identityCodeGeneric, Bool.and_eq_true, Bool.or_eq_true, List.isEmpty_iff] at h
  obtain ⟨h1, h2, _⟩ := codeValidate_spec h.2 hne
  exact ⟨h1, h2, matchL_plus_cls_of_within (h.1.resolve_left hne) (by decide) (by decide)⟩

/-- **identity codes, exempt country**: a non-empty code the Mexican rule accepts — the only rule
    applied to the codes of the country exempt from the generic one, `&` and `Ñ` included — is
    inside the pattern and limits published for `tax.Identity.code` -/
theorem identity_code_mx_conforms (s : List Nat) (h : mxNational s = true) (hne : s ≠ []) :
    IdentityCodeConforms s := by
  simp only [mxNational, Bool.or_eq_true, List.isEmpty_iff] at h
  rcases h with (h | h) | h
  · exact absurd h hne
  -- a person's code has 4 + 6 + 3 characters, a company's 3 + 6 + 3 (`mxCodeRE`)
  · have hl := fixedLen_length ((matchL_iff _ _).mp h) 13 (by decide)
    exact ⟨by omega, by omega, matchL_plus_cls_of_within h (by decide) (by decide)⟩
  · have hl := fixedLen_length ((matchL_iff _ _).mp h) 12 (by decide)
    exact ⟨by omega, by omega, matchL_plus_cls_of_within h (by decide) (by decide)⟩

/-- the code of examples/mx/out/retentions.json: outside `^[A-Z0-9]+$` (the rule Go applies to other
    countries, `identityRE`), inside the published pattern -/
example : mxNational (NStr.toCodes s%"K&A010301I16") = true ∧
    identitySchemaRE.matchL (NStr.toCodes s%"K&A010301I16") = true ∧
    identityRE.matchL (NStr.toCodes s%"K&A010301I16") = false ∧
    codeRE.matchL (NStr.toCodes s%"K&A010301I16") = false ∧
    mxNational (NStr.toCodes s%"ÑAB010301I16") = true ∧
    identityCodeGeneric (NStr.toCodes s%"B98602642") = true ∧
    identityCodeGeneric (NStr.toCodes s%"B-98602642") = false := by decide +kernel

/-! ## obligations over regenerated facts -/
namespace Expect

/-- the published amount / percentage patterns are the ones the leaf theorems are about -/
theorem amount_pattern : strAt f_num_amount [s%"$defs", s%"Amount", s%"pattern"] = goAmountSchemaPattern ∧
    compileL (strAt f_num_amount [s%"$defs", s%"Amount", s%"pattern"]).toCodes = some amountRE := by decide +kernel
theorem percentage_pattern :
    strAt f_num_percentage [s%"$defs", s%"Percentage", s%"pattern"] = goPercentageSchemaPattern ∧
    compileL (strAt f_num_percentage [s%"$defs", s%"Percentage", s%"pattern"]).toCodes = some percentageRE := by decide +kernel
theorem amount_string_formats : amountStringFormats = ["%d", "NA", "", "-", "%s%d.%0*d"] := rfl
theorem date_schema : strAt f_cal_date [s%"$defs", s%"Date", s%"format"] = s%"date" ∧
    strAt f_cal_date [s%"$defs", s%"Date", s%"type"] = s%"string" := by decide +kernel

/-- keys: the Go validator (`Key.Validate`: Match + Length) uses the published pattern and limits,
    which are the ones `Leaves.keyValidate` has -/
theorem key_validator_is_schema :
    strAt f_cbc_key [s%"$defs", s%"Key", s%"pattern"] = goKeyPattern ∧
    natAt f_cbc_key [s%"$defs", s%"Key", s%"minLength"] = some goKeyMin ∧
    natAt f_cbc_key [s%"$defs", s%"Key", s%"maxLength"] = some goKeyMax ∧
    calls_Key_Validate = ["Validate", "string", "Match", "Length", "int", "int"] ∧
    compileL goKeyPattern.toCodes = some keyRE ∧ goKeyMin = 1 ∧ goKeyMax = 64 := by decide +kernel

/-- codes: the Go validator (`Code.Validate`: Length + Match) uses the published pattern and limits,
    which are the ones `Leaves.codeValidate` has -/
theorem code_validator_is_schema :
    strAt f_cbc_code [s%"$defs", s%"Code", s%"pattern"] = goCodePattern ∧
    natAt f_cbc_code [s%"$defs", s%"Code", s%"minLength"] = some goCodeMin ∧
    natAt f_cbc_code [s%"$defs", s%"Code", s%"maxLength"] = some goCodeMax ∧
    calls_Code_Validate = ["Validate", "string", "Length", "int", "Match"] ∧
    compileL goCodePattern.toCodes = some codeRE ∧ goCodeMin = 1 ∧ goCodeMax = 32 := by decide +kernel

/-- the published `cbc.Code` pattern is the expression `normalizeCode_matches_partial` is about, and
    NormalizeCode is still the three steps the model mirrors, with the same two expressions -/
theorem code_pattern_and_normalizer :
    compileL (strAt f_cbc_code [s%"$defs", s%"Code", s%"pattern"]).toCodes = some codeRE ∧
    steps_NormalizeCode = ["c.String", "codeInvalidCharsRegexp.ReplaceAllString",
      "codeSeparatorRegexp.ReplaceAllString", "strings.TrimSpace"] ∧
    codeSeparatorRegexp = s%"([\\.\\-\\/ _\\:])[^A-Za-z0-9]+" ∧
    codeInvalidCharsRegexp = s%"[^A-Za-z0-9\\.\\-\\/ _\\:]" :=
  ⟨code_validator_is_schema.1 ▸ code_validator_is_schema.2.2.2.2.1, rfl, rfl, rfl⟩

/-- tax identity codes: the published `code` property is a string of 1…32 characters with the pattern
    `JSONSchemaExtend` sets (and no `$ref` to cbc/code), which compiles to `identitySchemaRE`;
    Go applies `IdentityCodePattern` (= `identityRE`) except to the countries listed, whose regimes'
    code patterns are the two `identity_code_mx_conforms` is about -/
theorem identity_code_pattern :
    strAt f_tax_identity [s%"$defs", s%"Identity", s%"properties", s%"code", s%"pattern"] = goIdentityCodeSchemaPattern ∧
    compileL goIdentityCodeSchemaPattern.toCodes = some identitySchemaRE ∧
    hasAt f_tax_identity [s%"$defs", s%"Identity", s%"properties", s%"code", s%"$ref"] = false ∧
    strAt f_tax_identity [s%"$defs", s%"Identity", s%"properties", s%"code", s%"type"] = s%"string" ∧
    natAt f_tax_identity [s%"$defs", s%"Identity", s%"properties", s%"code", s%"minLength"] = some 1 ∧
    natAt f_tax_identity [s%"$defs", s%"Identity", s%"properties", s%"code", s%"maxLength"] = some 32 ∧
    compileL goIdentityCodePattern.toCodes = some identityRE ∧
    goIdentityCodeIgnore = [s%"MX"] ∧
    goExemptIdentityPatterns.map (fun p => compileL p.toCodes) = [some mxPersonRE, some mxCompanyRE] ∧
    fields_Identity_Validate = ["Country: validation.Required",
      "Code: validation.Skip.When( id.Country.In(IdentityCodeValidationIgnore...), ), validation.Match(IdentityCodePatternRegexp)",
      "Scheme: validation.Match(IdentityCodePatternRegexp)", "Zone: validation.Empty", "Type:"] := by
  refine ⟨?_, ?_, ?_, ?_, ?_, ?_, ?_, ?_, ?_, rfl⟩ <;> decide +kernel

/-- stored tax summaries: the three `Validate` methods of tax/totals.go have the fields and rules
    `Leaves.totalValidate` models (category: code and rates required; rate: key, country, ext), the
    members have the types whose validators are modelled, `rates` is printed without `omitempty`
    (a nil slice would be `null`), `key`, `country` and `ext` with it -/
theorem stored_total_validators :
    fields_Total_Validate = ["Categories:"] ∧
    fields_CategoryTotal_Validate = ["Code: validation.Required", "Rates: validation.Required"] ∧
    fields_RateTotal_Validate = ["Key:", "Country:", "Ext:"] ∧
    members_CategoryTotal = ["Code cbc.Code code", "Retained bool retained,omitempty", "Rates []*RateTotal rates",
      "Amount num.Amount amount", "Surcharge *num.Amount surcharge,omitempty"] ∧
    members_RateTotal = ["Key cbc.Key key,omitempty", "Country l10n.TaxCountryCode country,omitempty",
      "Ext Extensions ext,omitempty", "Base num.Amount base", "Percent *num.Percentage percent,omitempty",
      "Surcharge *RateTotalSurcharge surcharge,omitempty", "Amount num.Amount amount"] :=
  ⟨rfl, rfl, rfl, rfl, rfl⟩

/-- …and the published tax/total asks exactly that of those members: `code`, `rates`, `amount` required
    in a category, `code` a cbc/code, `rates` an array of rates; `key` a cbc/key, `country` a tax country
    code, `ext` a tax/extensions in a rate, where `base` and `amount` are required -/
theorem stored_total_schema :
    strsAt f_tax_total [s%"$defs", s%"CategoryTotal", s%"required"] = [s%"code", s%"rates", s%"amount"] ∧
    strAt f_tax_total [s%"$defs", s%"CategoryTotal", s%"properties", s%"code", s%"$ref"] = s%"https://gobl.org/draft-0/cbc/code" ∧
    strAt f_tax_total [s%"$defs", s%"CategoryTotal", s%"properties", s%"rates", s%"type"] = s%"array" ∧
    strAt f_tax_total [s%"$defs", s%"CategoryTotal", s%"properties", s%"rates", s%"items", s%"$ref"] = s%"#/$defs/RateTotal" ∧
    strsAt f_tax_total [s%"$defs", s%"RateTotal", s%"required"] = [s%"base", s%"amount"] ∧
    strAt f_tax_total [s%"$defs", s%"RateTotal", s%"properties", s%"key", s%"$ref"] = s%"https://gobl.org/draft-0/cbc/key" ∧
    strAt f_tax_total [s%"$defs", s%"RateTotal", s%"properties", s%"country", s%"$ref"] = s%"https://gobl.org/draft-0/l10n/tax-country-code" ∧
    strAt f_tax_total [s%"$defs", s%"RateTotal", s%"properties", s%"ext", s%"$ref"] = s%"https://gobl.org/draft-0/tax/extensions" := by
  decide +kernel

/-- extension values: `Extensions.Validate` holds every value of a defined key to
    `validation.Required` and to its own `Validate` (cbc.Code) before the list / pattern of the
    definition is consulted; the published tax/extensions refers the value of every member whose
    name is a key to cbc/code -/
theorem extensions_validator :
    steps_Extensions_Validate = ["k.Validate", "k.String", "k.String", "errors.New", "validation.Validate",
      "kd.HasCode", "fmt.Errorf", "regexp.Compile", "re.MatchString", "errors.New"] ∧
    valueRules_Extensions_Validate = ["validation.Validate(ev, validation.Required)"] ∧
    patternRefsAt f_tax_extensions [s%"$defs", s%"Extensions"] = [(goKeyPattern, s%"https://gobl.org/draft-0/cbc/code")] := by
  decide +kernel

end Expect

end GoblVerif.Props.C11
