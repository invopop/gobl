/-
  C19 (b) — the published definition files are coherent.

  `Generated/Defs.lean` is regenerated from /repo/data/** on every run; the
  theorems below are re-proved by kernel evaluation (`decide +kernel`) over
  that data.  Part (a) of C19 (generated output = committed files = what
  data.Content and the bulk `schema` / `regime` actions serve) is a direct
  byte comparison done by the harness: Lean adds nothing to byte equality.
  Part (c) (RegimeDef.Validate, AddonDef.Validate, time.LoadLocation) is run
  by the harness on the real definitions.
-/
import GoblVerif.Spec.C19
import GoblVerif.Generated.Defs

namespace GoblVerif.Props.C19
open GoblVerif.Refs GoblVerif.Spec.C19

/-! ## what "no issues" means (for ANY definitions, not only the shipped ones)

  For the published regimes the hypothesis `regimeIssues d r = []` is an obligation of
  `Expect.regimes_with_tag_sets_have_no_issues`. -/

@[simp] private theorem ite_issue_nil {c : Prop} [Decidable c] {i : Issue} : (if c then [] else [i]) = [] ↔ c := by
  by_cases c <;> simp [*]

private theorem regimeIssues_eq_nil {d : Defs} {r : Regime} :
    regimeIssues d r = [] ↔
      d.currencies.contains r.currency = true ∧
      tagSetIssues d r.tags = [] ∧
      (∀ c ∈ r.categories,
        (∀ k ∈ c.extKeys, keyIssue (visibleExt d r.extensions) ("category " ++ c.code) k = []) ∧
        (∀ kv ∈ c.ext, pairIssue (visibleExt d r.extensions) ("category " ++ c.code) kv = []) ∧
        ∀ rt ∈ c.rates,
          (∀ kv ∈ rt.ext, pairIssue (visibleExt d r.extensions) ("rate " ++ c.code ++ "/" ++ rt.key) kv = []) ∧
          ∀ ve ∈ rt.valueExts, ∀ kv ∈ ve,
            pairIssue (visibleExt d r.extensions) ("rate value " ++ c.code ++ "/" ++ rt.key) kv = []) ∧
      scenarioIssues d (visibleExt d r.extensions)
        (fun schema => tagKeysFor r.tags schema ++ d.addons.flatMap fun a => tagKeysFor a.tags schema) r.scenarios = [] ∧
      correctionIssues d (visibleExt d r.extensions) r.corrections = [] := by
  simp only [regimeIssues, List.append_eq_nil_iff, List.flatMap_eq_nil_iff, ite_issue_nil, and_assoc]

/-- a regime without issues names an existing currency -/
theorem no_issues_currency (d : Defs) (r : Regime) (h : regimeIssues d r = []) :
    d.currencies.contains r.currency = true :=
  (regimeIssues_eq_nil.mp h).1

/-- … every extension key a category lists is defined by the regime, an addon or a catalogue -/
theorem no_issues_category_ext (d : Defs) (r : Regime) (h : regimeIssues d r = [])
    (c : Category) (hc : c ∈ r.categories) (k : String) (hk : k ∈ c.extKeys) :
    (visibleExt d r.extensions).any (·.key == k) = true := by
  obtain ⟨_, _, hcategories, _, _⟩ := regimeIssues_eq_nil.mp h
  exact ite_issue_nil.mp ((hcategories c hc).1 k hk)

/-- … every correction type is a published invoice type, every correction
    extension key is defined -/
theorem no_issues_corrections (d : Defs) (r : Regime) (h : regimeIssues d r = [])
    (c : Correction) (hc : c ∈ r.corrections) :
    d.schemas.contains c.schema = true ∧
    (c.schema = "bill/invoice" → ∀ t ∈ c.types, d.invoiceTypes.contains t = true) ∧
    ∀ k ∈ c.extensions, (visibleExt d r.extensions).any (·.key == k) = true := by
  obtain ⟨_, _, _, _, hcorrections⟩ := regimeIssues_eq_nil.mp h
  simp only [correctionIssues, List.append_eq_nil_iff, List.flatMap_eq_nil_iff, keyIssue, ite_issue_nil] at hcorrections
  obtain ⟨⟨hs, ht⟩, he⟩ := hcorrections c hc
  exact ⟨hs, fun hsch => by simpa [hsch] using ht, he⟩

/-- … every scenario tag is offered for that document type by the regime or an addon,
    every extension pair a scenario writes has a defined key and an allowed code -/
theorem no_issues_scenarios (d : Defs) (r : Regime) (h : regimeIssues d r = [])
    (ss : ScenarioSet) (hss : ss ∈ r.scenarios) (s : Scenario) (hs : s ∈ ss.list) :
    (∀ t ∈ s.tags, (tagKeysFor r.tags ss.schema ++ d.addons.flatMap (fun a => tagKeysFor a.tags ss.schema)).contains t = true) ∧
    (∀ kv ∈ s.ext, ∃ kd, (visibleExt d r.extensions).find? (·.key == kv.1) = some kd ∧
        (kd.codes.isEmpty || kd.codes.contains kv.2) = true) := by
  obtain ⟨_, _, _, hscenarios, _⟩ := regimeIssues_eq_nil.mp h
  simp only [scenarioIssues, List.append_eq_nil_iff, List.flatMap_eq_nil_iff, ite_issue_nil] at hscenarios
  obtain ⟨⟨⟨htags, _⟩, _⟩, hext⟩ := (hscenarios ss hss).2 s hs
  refine ⟨htags, fun kv hkv => ?_⟩
  have := hext kv hkv
  unfold pairIssue at this
  split at this
  · cases this
  · exact ⟨_, ‹_›, ite_issue_nil.mp this⟩

/-! ## obligations over the published files, regenerated on every run -/
namespace Expect
open GoblVerif.Generated.Defs

/-- **every published regime and addon definition is coherent**: it names an
    existing currency, and every reference to a tag, extension key (with its
    code), invoice / correction type, schema or required addon resolves to
    something defined in the file itself, an addon or a catalogue (for an addon
    also: in one of the regimes, with which it is combined).  Two exclusions are
    written into the statement: files marked `stale`, which no registered regime
    stands behind, and, inside a regime, scenario tags for a document type for
    which the regime publishes no tag set at all (`knownTagGap`).  They were made
    for two defects of the published data (`published_file_not_generated`,
    `scenario_tag_without_tag_set` in known_findings.json, both recorded there as
    fixed); whether they exclude anything depends on the data regenerated. -/
theorem all_coherent :
    (defs.liveRegimes.all (regimeCoherent defs) && defs.addons.all (addonCoherent defs)) = true := by
  decide +kernel

/-- the second exclusion reaches no regime that publishes a tag set for invoices:
    every such regime has no unresolved reference whatsoever -/
theorem regimes_with_tag_sets_have_no_issues :
    defs.liveRegimes.all (fun r => (tagKeysFor r.tags "bill/invoice").isEmpty || (regimeIssues defs r).isEmpty) = true := by
  decide +kernel

/-- every published regime file carries a country code of the published code list,
    (and so do its alternative codes) -/
theorem regime_countries_known :
    defs.liveRegimes.all (fun r => defs.countries.contains r.country && r.alt.all (defs.countries.contains ·)) = true := by
  decide +kernel

/-- every published addon key is unique and every `requires` entry names a published addon -/
theorem addon_keys_unique_and_required_exist :
    ((defs.addons.map (·.key)).eraseDups.length == defs.addons.length &&
     defs.addons.all (fun a => a.requires.all fun k => (defs.addonFor k).isSome)) = true := by
  decide +kernel

/-- no extension key is defined twice across the published regimes, addons and catalogues
    (the registry is a map: a second definition would silently replace the first) -/
theorem extension_keys_unique :
    ((defs.allExtDefs.map (·.key)).eraseDups.length == defs.allExtDefs.length) = true := by
  decide +kernel

end Expect

end GoblVerif.Props.C19
