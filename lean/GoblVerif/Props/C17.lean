/-
  C17 — Totals are symmetric under negation and independent of line order.

  Statements about `Calc.calculate exactOps` (Model/Calc.lean).

  Proved: rounding half away from zero is odd, hence every arithmetic
  primitive commutes with negation; `Invoice.Invert`'s sign change on a line
  (quantity, fixed amounts, explicit bases, a charge's own quantity) yields
  exactly the negated line figures; inverting twice is the identity on the
  inputs; the document sum, discount and charge totals do not depend on row
  order, and a row's own figures do not depend on the other rows.
  Whole document (Proofs/CalcInvert.lean): for a document of input lines
  (with or without breakdowns, foreign-currency items, any adjustments) the
  complete recalculation of the inverted document — lines, document discounts
  and charges, the tax summary with included-tax removal, every total, the
  advances and the presentation rounding — is the negated result.
  Order (Proofs/CalcGroups.lean, CalcPermTax.lean): document
  sums and every tax group's base, amount and surcharge (as amounts: value and
  precision) are independent of the order of the rows.
  So is every category amount (`category_amount_perm_invariant`).
  Included-tax removal (Model/CalcRemove.lean, Proofs/CalcRemove.lean):
  `Invoice.RemoveIncludedTaxes` modelled statement by statement on the invoice
  in memory (two or three `calculate` calls, rows rounded in place in between);
  `remove_included_payable…`: payable = original total with tax, the residue
  exactly the rounding field — outside the two domains where the code does not
  do that, both exhibited as kernel-checked counter-examples; the flag, the
  per-amount formula, "nothing to remove".
  Not proved (metamorphic checks on the real code only): order independence
  of the tax total as a whole sum over categories.
-/
import GoblVerif.Spec.C17
import GoblVerif.Generated.CalcFacts
import GoblVerif.Proofs.CalcInvert
import GoblVerif.Proofs.CalcPermTax
import GoblVerif.Proofs.CalcRemove

namespace GoblVerif.Props.C17
open GoblVerif GoblVerif.Calc

/-! ## negation -/

/-- rounding half away from zero is symmetric -/
theorem rounding_odd (n d : ℤ) (hd : 0 < d) : rha (-n) d = - rha n d := rha_neg n d hd

/-- every rounding primitive commutes with negation (the guard on the divisor is not needed: `divX_neg` holds for
every divisor, zero too) -/
theorem primitives_odd (a b : Amount) (e : ℕ) :
    exactOps.mul (neg a) b = neg (exactOps.mul a b) ∧
    exactOps.mul a (neg b) = neg (exactOps.mul a b) ∧
    exactOps.rescale (neg a) e = neg (exactOps.rescale a e) ∧
    (b.value ≠ 0 → exactOps.div (neg a) b = neg (exactOps.div a b)) :=
  ⟨mulX_neg_left a b, mulX_neg_right a b, rescaleX_neg a e, fun _ => divX_neg a b⟩

/-- Recalculating an inverted line gives exactly
the negated sum, total, discount and charge amounts of the original (any
rounding rule, currency, discounts/charges by percentage with or without
base, fixed, or rate × quantity).  `hbd` is not needed: `calcLine_invert` holds for a line with a breakdown too. -/
theorem invert_negates_line (cur : String) (c : ℕ) (rates : List XRate) (r : Rule) (l : Line)
    (hbd : l.breakdown = []) (hs : l.sum = none) (ht : l.total = none) :
    calcLine exactOps cur c rates r (invertLine l) = (calcLine exactOps cur c rates r l).map negLineOut :=
  calcLine_invert cur c rates r l ⟨hs, ht⟩

/-- sums of negated amounts are the negated sums (document sum, discount and charge totals, advances) -/
theorem invert_negates_sums (xs : List Amount) (c : ℕ) :
    (xs.map neg).foldl (accum exactOps) ⟨0, c⟩ = neg (xs.foldl (accum exactOps) ⟨0, c⟩) := by
  have := foldl_accum_neg xs ⟨0, c⟩
  simpa [neg] using this

/-- the sign change is an involution on the inputs -/
theorem invert_invert_line (l : Line) : invertLine (invertLine l) = l :=
  invertLine_invertLine l

/-! ## the whole document under `Invert` -/

/-- The tax summary of negated rows is the negated summary: every group base, amount and surcharge,
every category amount, the precise sum and all presented roundings change sign; grouping, included-tax
removal and the error cases are unchanged. -/
theorem invert_negates_tax_summary (r : Rule) (c : ℕ) (includes : Option String) (rows : List Row) :
    taxTotal exactOps r c includes (rows.map negRow) = (taxTotal exactOps r c includes rows).map negTax :=
  taxTotal_neg r c includes rows

/-- **`Invert` negates the whole calculation.**  `invertDoc` is the sign change `Invoice.Invert`
applies to the inputs; `negOut` negates every computed figure (line sums and totals, line and document
discount/charge amounts and bases, advances, every tax-summary figure, every total).  Payment due
dates are left out of the comparison (`Out.dropDues`): a fixed due amount keeps its sign in the code too.  An
externally supplied rounding amount is inverted with the rest, as `Invert` does (/repo d6d7c00), so there is
no hypothesis on `d.rounding`. -/
theorem invert_negates_document (d : Doc) (h : ∀ l ∈ d.lines, PlainLine l) :
    (calculate exactOps (invertDoc d)).map Out.dropDues =
      ((calculate exactOps d).map negOut).map Out.dropDues := by
  rw [calculate_eq, calculate_eq, pre_invert d h]
  cases pre exactOps d with
  | error e => rfl
  | ok p => exact outOf_neg d p

/-- `negTotals` is a sign change: applying it twice gives the totals back (for every `t`: `negTotals_negTotals`; `h` is
not needed). -/
theorem negate_totals_involutive (t : Totals) (h : t.taxes = none) : negTotals (negTotals t) = t :=
  negTotals_negTotals t

/-! ## non-vacuity -/

/-- a document that meets the hypotheses of `invert_negates_document` and has taxes, a discount,
included-tax removal and an advance -/
def sampleDoc : Doc :=
  { cur := "EUR", c := 2, rule := .precise, includes := some "VAT",
    lines := [{ qty := ⟨3, 0⟩, item := some { price := some ⟨10005, 3⟩, cur := "", sub := 2, alts := [] },
                discounts := [{ percent := some ⟨⟨10, 2⟩⟩, base := none, amount := ⟨0, 0⟩, rate := none, quantity := none }],
                charges := [], breakdown := [],
                taxes := [{ cat := "VAT", country := "", key := "standard", percent := some ⟨⟨21, 2⟩⟩,
                            surcharge := none, ext := "", retained := false }] }],
    discounts := [{ percent := some ⟨⟨5, 2⟩⟩, base := none, amount := ⟨0, 0⟩,
                    taxes := [{ cat := "VAT", country := "", key := "standard", percent := some ⟨⟨21, 2⟩⟩,
                                surcharge := none, ext := "", retained := false }] }],
    charges := [], rates := [], rounding := none, hasPayment := true,
    advances := [{ percent := some ⟨⟨50, 2⟩⟩, amount := ⟨0, 0⟩ }], dues := [] }

example : (∀ l ∈ sampleDoc.lines, PlainLine l) ∧ sampleDoc.rounding = none := by
  simp [sampleDoc, PlainLine]

example : ((calculate exactOps sampleDoc).toOption.bind (·.totals)).map (fun t => (t.sum, t.tax, t.payable, t.due)) =
    some (⟨2701, 2⟩, ⟨445, 2⟩, ⟨2566, 2⟩, some ⟨1283, 2⟩) := by decide +kernel

example : ((calculate exactOps (invertDoc sampleDoc)).toOption.bind (·.totals)).map (fun t => (t.sum, t.tax, t.payable, t.due)) =
    some (⟨-2701, 2⟩, ⟨-445, 2⟩, ⟨-2566, 2⟩, some ⟨-1283, 2⟩) := by decide +kernel

/-- a small document to show that `invert_negates_document` is not vacuous for a supplied rounding -/
def sampleDocR : Doc :=
  { cur := "EUR", c := 2, rule := .precise, includes := none,
    lines := [{ qty := ⟨3, 0⟩, item := some { price := some ⟨10005, 3⟩, cur := "", sub := 2, alts := [] },
                discounts := [], charges := [], breakdown := [],
                taxes := [{ cat := "VAT", country := "", key := "standard", percent := some ⟨⟨21, 2⟩⟩,
                            surcharge := none, ext := "", retained := false }] }],
    discounts := [], charges := [], rates := [], rounding := none, hasPayment := false, advances := [], dues := [] }

/-- with a supplied rounding: the inverted document carries the negated rounding and pays the negated amount -/
example :
    ((calculate exactOps (invertDoc { sampleDocR with rounding := some ⟨-2, 2⟩ })).toOption.bind (·.totals)).map
        (fun t => (t.rounding, t.payable)) =
      (((calculate exactOps { sampleDocR with rounding := some ⟨-2, 2⟩ }).toOption.bind (·.totals)).map
        (fun t => (t.rounding.map neg, neg t.payable))) := by decide +kernel

example : (calcLine exactOps "EUR" 2 [] .precise (invertLine
    { qty := ⟨3, 0⟩, item := some { price := some ⟨10005, 3⟩, cur := "", sub := 2, alts := [] },
      discounts := [{ percent := some ⟨⟨10, 2⟩⟩, base := none, amount := ⟨0, 0⟩, rate := none, quantity := none }],
      charges := [], breakdown := [], taxes := [] })).toOption.map (fun l => (l.sum, l.total)) =
    some (some ⟨-300150, 4⟩, some ⟨-270135, 4⟩) := by decide +kernel

/-! ## order independence -/

/-- the document sum does not depend on the order of the lines -/
theorem sum_perm_invariant (c : ℕ) (ls ls' : List Line) (h : ls.Perm ls') :
    lineSum exactOps c ls = lineSum exactOps c ls' := by
  unfold lineSum
  exact foldl_accum_perm _ _ (h.filterMap _) _

/-- nor do the discount / charge totals depend on the order of their rows -/
theorem adjSum_perm_invariant (c : ℕ) (ds ds' : List DocAdj) (h : ds.Perm ds') :
    adjSum exactOps c ds = adjSum exactOps c ds' := by
  rw [adjSum_eq, adjSum_eq]
  exact optSum_perm c (h.map _)

/-- a line's own figures are computed from that line alone (`calcLines` maps
`calcLine` over the list), so reordering lines cannot change them -/
theorem lines_independent (cur : String) (c : ℕ) (rates : List XRate) (r : Rule) (ls out : List Line)
    (h : calcLines exactOps cur c rates r ls = .ok out) :
    out.length = ls.length ∧
    ∀ i (hi : i < ls.length) (ho : i < out.length), calcLine exactOps cur c rates r ls[i] = .ok out[i] := by
  rw [calcLines_ok_iff] at h
  exact ⟨h.length_eq.symm, fun i hi ho => h.get hi ho⟩

/-- **Reordering rows changes no tax group base.**  For any permutation of the taxable rows (lines,
document discounts, document charges) and any group key, the base accumulated for that key in that
category is the same; with `Props.C02.group_amount` the group's amount is a function of that base. -/
theorem group_base_perm_invariant (r : Rule) (c : ℕ) (cat : String) (k : Key) (rows rows' : List Row)
    (h : rows.Perm rows') :
    catGroupBase cat k (baseRateTotals exactOps r c rows) = catGroupBase cat k (baseRateTotals exactOps r c rows') := by
  rw [baseRateTotals_group, baseRateTotals_group]
  exact (h.map _).sum_eq

/-- **Reordering rows changes no tax group figure.**  For any permutation of the taxable rows and any
category and group key, the group the summary holds for that key has the same base, amount and
surcharge amount — equal as amounts, value and number of decimals — and it exists for one order
exactly when it exists for the other (only the position of the groups in the list may differ). -/
theorem group_figures_perm_invariant (r : Rule) (c : ℕ) (cat : String) (k : Key) (rows rows' : List Row)
    (h : rows.Perm rows') :
    (findGroup cat k ((baseRateTotals exactOps r c rows).map (catAmounts exactOps r c))).map groupView =
      (findGroup cat k ((baseRateTotals exactOps r c rows').map (catAmounts exactOps r c))).map groupView := by
  have hp := basesOf_perm r c cat rows rows' h
  rw [findGroup_catAmounts, findGroup_catAmounts]
  cases h1 : findGroup cat k (baseRateTotals exactOps r c rows) with
  | none =>
    cases h2 : findGroup cat k (baseRateTotals exactOps r c rows') with
    | none => rfl
    | some rt' => exact absurd (hp.mem_iff.mpr (findGroup_some h2).2) (findGroup_none h1 _)
  | some rt =>
    obtain ⟨hk, hm⟩ := findGroup_some h1
    cases h2 : findGroup cat k (baseRateTotals exactOps r c rows') with
    | none => exact absurd (hp.mem_iff.mp hm) (findGroup_none h2 _)
    | some rt' =>
      obtain ⟨hk', hm'⟩ := findGroup_some h2
      simp only [Option.map_some, Option.some.injEq]
      rw [groupView_rateAmounts, groupView_rateAmounts, hk, hk',
        basesOf_functional (baseRateTotals_summaryInv r c rows') (hp.mem_iff.mp hm) hm']

/-- **Reordering rows changes no category amount**: the amount of every tax category (the sum of its
groups' amounts; 0 when the summary has no such category) is the same for every order of the rows. -/
theorem category_amount_perm_invariant (r : Rule) (c : ℕ) (cat : String) (rows rows' : List Row)
    (h : rows.Perm rows') :
    catAmountQ cat ((baseRateTotals exactOps r c rows).map (catAmounts exactOps r c)) =
      catAmountQ cat ((baseRateTotals exactOps r c rows').map (catAmounts exactOps r c)) := by
  rw [catAmountQ_eq, catAmountQ_eq]
  exact ((basesOf_perm r c cat rows rows' h).map _).sum_eq

/-- non-vacuity: two rows at 21 % and one at 10 %; putting the 10 % row first swaps the two groups and
changes none of their figures (21 %: base 300.0000, amount 63.0000; 10 %: base 50.00, amount 5.00) -/
example :
    let vat (p : ℤ) : Combo := { cat := "VAT", country := "", key := "", percent := some ⟨⟨p, 2⟩⟩, surcharge := none, ext := "", retained := false }
    let rows : List Row := [⟨⟨10000, 2⟩, [vat 21]⟩, ⟨⟨5000, 2⟩, [vat 10]⟩, ⟨⟨2000000, 4⟩, [vat 21]⟩]
    ((baseRateTotals exactOps .precise 2 rows).map (catAmounts exactOps .precise 2)).map (fun ct => ct.rates.map groupView)
      = [[(⟨3000000, 4⟩, ⟨630000, 4⟩, none), (⟨5000, 2⟩, ⟨500, 2⟩, none)]] ∧
    let rows' : List Row := [⟨⟨5000, 2⟩, [vat 10]⟩, ⟨⟨2000000, 4⟩, [vat 21]⟩, ⟨⟨10000, 2⟩, [vat 21]⟩]
    ((baseRateTotals exactOps .precise 2 rows').map (catAmounts exactOps .precise 2)).map (fun ct => ct.rates.map groupView)
      = [[(⟨5000, 2⟩, ⟨500, 2⟩, none), (⟨3000000, 4⟩, ⟨630000, 4⟩, none)]] := by
  decide +kernel

/-! ## removing included taxes (`Invoice.RemoveIncludedTaxes`, Model/CalcRemove.lean) -/

/-- **What the removal does to an amount** (a unit price, a fixed line discount/charge amount, a
fixed document discount/charge amount): the gross amount divided by (1 + rate), rounded half away from
zero once, at two more decimals than the amount was stored with (`Upscale(2).Remove(percent)`).  The
same statement for the tax summary's own removal is `Props.C02.included_tax_removed_with_own_percentage`.
`hne` is not needed: `removeAt_rnd` holds for every percentage (dividing by zero gives 0 on both sides). -/
theorem remove_included_amount (a : Amount) (p : Pct) (hne : (factor p).value ≠ 0) :
    (removeAt exactOps a p).exp = a.exp + 2 ∧
    (removeAt exactOps a p).value = Spec.roundTo (a.exp + 2) (a.toRat / (1 + p.amount.toRat)) :=
  eq_rnd_iff.mp (removeAt_rnd a p)

/-- non-vacuity: 21 % is not −100 %; 1.00 gross at 21 % is 0.8264 net -/
example : (factor ⟨⟨21, 2⟩⟩).value ≠ 0 ∧ removeAt exactOps ⟨100, 2⟩ ⟨⟨21, 2⟩⟩ = ⟨8264, 4⟩ := by decide

/-- **A line that carries the included category with a percentage and has a price**: the price and
every line discount/charge amount go through `removeAt` with the combo's own percentage (sub-lines
likewise), alternative prices are dropped, everything else — quantity, percentages, bases, rates, the
tax combos themselves — is kept. -/
theorem remove_included_line (k : String) (l : Line) (cb : Combo) (p : Pct) (it : Item) (pr : Amount)
    (hf : l.taxes.find? (fun cb => cb.cat == k) = some cb) (hp : cb.percent = some p)
    (hi : l.item = some it) (hpr : it.price = some pr) :
    removeLineIncluded exactOps k l =
      { l with item := some { it with alts := [], price := some (removeAt exactOps pr p) },
               breakdown := l.breakdown.map (removeSubLine exactOps p),
               discounts := l.discounts.map (removeLineAdj exactOps p),
               charges := l.charges.map (removeLineAdj exactOps p) } :=
  removeLineIncluded_priced k l cb p it pr hf hp hi hpr

/-- every other line (no combo of the included category, an exempt one, no item, no price) is
returned as it is -/
theorem remove_included_line_untouched (k : String) (l : Line)
    (h : ∀ cb p it pr, l.taxes.find? (fun cb => cb.cat == k) = some cb → cb.percent = some p →
      l.item = some it → it.price = some pr → False) :
    removeLineIncluded exactOps k l = l :=
  removeLineIncluded_untouched k l h

/-- document discounts and charges: the amount only, and only when the row carries the category -/
theorem remove_included_row (k : String) (x : DocAdj) (cb : Combo) (p : Pct)
    (hf : x.taxes.find? (fun cb => cb.cat == k) = some cb) (hp : cb.percent = some p) :
    removeAdjIncluded exactOps k x = { x with amount := removeAt exactOps x.amount p } :=
  removeAdjIncluded_priced k x cb p hf hp

theorem remove_included_row_untouched (k : String) (x : DocAdj)
    (h : ∀ cb p, x.taxes.find? (fun cb => cb.cat == k) = some cb → cb.percent = some p → False) :
    removeAdjIncluded exactOps k x = x :=
  removeAdjIncluded_untouched k x h

/-- **`remove_included_clears_flag`.**  On an invoice with `prices_include = k`, whatever
`removeIncludedTaxes` returns without error either has `prices_include` cleared — and then its totals,
if any, carry no `tax_included`: no row is treated as including a tax any more — or it is the case
"nothing to calculate" (no totals), in which the function returns before touching the flag. -/
theorem remove_included_clears_flag (m m' : Mem) (k : String) (hk : m.doc.includes = some k)
    (h : removeIncludedMem exactOps m = .ok m') :
    (m'.doc.includes = none ∧ ∀ t', m'.totals = some t' → t'.taxIncluded = none) ∨
    (m'.totals = none ∧ m'.doc.includes = some k) := by
  rw [removeIncludedMem_eq hk] at h
  split at h
  · exact .inl (removeFrom_flag k m m' _ h)
  · split at h
    · cases h
    next m1 hcm =>
    obtain ⟨out1, -, rfl⟩ := calcMem_ok hcm
    split at h
    · cases h
      exact .inr ⟨‹_›, hk⟩
    · exact .inl (removeFrom_flag k _ m' _ h)

/-- without `prices_include` the function does nothing (`!canRemoveIncludedTaxes`) -/
theorem remove_included_needs_flag (m : Mem) (h : m.doc.includes = none) :
    removeIncludedMem exactOps m = .ok m := by
  unfold removeIncludedMem
  simp only [h]

/-- **Payable after the removal, general form.**  `removeFrom k m t` is `removeIncludedTaxes` from
the point where the original total with tax `t.totalWithTax` is known, for *any* document in memory
(breakdowns included).  If the rows of the document after the removal are reproduced by
calculate ∘ present ∘ calculate (`RowsFix`: the only thing the known finding
`remove-included-fixed-document-row` violates), then: the result has totals; `prices_include` is
cleared; the rounding field is exactly `original − new` presented total with tax when the two differ and
absent when they do not; and the amount payable is the original total with tax unless the residue is
carried across zero (the new presented total with tax non-zero, the original zero or of the other
sign: the known finding `remove-included-residue-across-zero`). -/
theorem remove_included_payable_core (k : String) (m m' : Mem) (t : Totals)
    (hc : t.totalWithTax.exp = m.doc.c)
    (h : removeFrom exactOps k m t = .ok m')
    (hfix : ∀ p, pre exactOps (removedDoc k m.doc) = .ok p → RowsFix (removedDoc k m.doc) p) :
    ∃ t', m'.totals = some t' ∧ m'.doc.includes = none ∧ t'.taxIncluded = none ∧
      t'.totalWithTax.exp = m.doc.c ∧ t'.payable.exp = m.doc.c ∧
      t'.rounding = (if t'.totalWithTax = t.totalWithTax then none
                     else some ⟨t.totalWithTax.value - t'.totalWithTax.value, m.doc.c⟩) ∧
      ((t'.totalWithTax.value = 0 ∨ 0 < t.totalWithTax.value * t'.totalWithTax.value) →
        t'.payable = t.totalWithTax) := by
  obtain ⟨out2, t2, hcal, ht2, -⟩ := removeFrom_cases h
  obtain ⟨p2, tx2, ⟨hpre2, hne2, htx2, -, -⟩⟩ := calculated hcal ht2
  rw [removeFrom_eq k m t p2 tx2 hpre2 hne2 htx2 (hfix p2 hpre2)] at h
  cases h
  -- the recalculation has no `tax_included`; its total with tax is presented from `raw`, whatever the rounding
  set d2 := removedDoc k m.doc
  simp only [roundTotals_twt, show d2.c = m.doc.c from rfl]
  set raw := (rawTotals exactOps d2 p2 tx2).totalWithTax with hraw
  have hrawexp : m.doc.c ≤ raw.exp := by
    obtain ⟨lines2, -, hp2⟩ := pre_ok_iff.mp hpre2
    rw [hraw, (rawTotals_exps exactOps d2 p2 tx2).2.1, hp2]
    show _ ≤ (total2Of _ _ _ _).exp
    rw [total2Of_exp]
    exact lineSum_exp_ge _ _
  have hexp2 : (raw.rescaleX m.doc.c).exp = t.totalWithTax.exp := (rescaleX_exp _ _).trans hc.symm
  rw [amtEq_same_exp _ _ hexp2.symm]
  by_cases heq : t.totalWithTax.value = (raw.rescaleX m.doc.c).value
  · -- no residue: the first recalculation is the result
    have hsame : raw.rescaleX m.doc.c = t.totalWithTax := amount_eq_of_value heq.symm hexp2
    rw [if_pos (by simpa using heq)]
    exact ⟨_, rfl, rfl, rfl, rescaleX_exp _ _, rescaleX_exp _ _, (if_pos hsame).symm, fun _ => hsame⟩
  · -- a residue: the same calculation with the residue as rounding
    rw [if_neg (by simpa using heq), sub_same _ _ hexp2, hc]
    set rnd : Amount := ⟨t.totalWithTax.value - (raw.rescaleX m.doc.c).value, m.doc.c⟩
    refine ⟨_, rfl, rfl, rfl, rescaleX_exp _ _, rescaleX_exp _ _, (if_neg fun hh => heq (by rw [← hh]; rfl)).symm,
      fun hsign => ?_⟩
    have hval := rescale_add_rounding raw rnd m.doc.c rfl hrawexp (hsign.imp_right fun hpos => by
      rwa [show (raw.rescaleX m.doc.c).value + rnd.value = t.totalWithTax.value by simp [rnd]])
    exact amount_eq_of_value (hval.trans (by simp [rnd])) ((rescaleX_exp _ _).trans hc.symm)

/-- **`remove_included_payable`.**  For every document (lines with or without breakdown into
sub-lines, items in any currency, any line and document discounts and charges, both rounding rules):

Hypotheses, all on the input document: `prices_include = k`; no externally supplied rounding (the
document has no totals yet, so the function calculates first — exactly what `Calculate` followed by
`RemoveIncludedTaxes` does); the model's well-formedness conditions (`LineWF`: an item priced in the
document's currency is given with that currency's decimals, a sub-line without item carries no figures;
`RatesWF`: an exchange rate into the document's currency is given with that currency's decimals); and
the *visible exclusion of the known finding* `remove-included-fixed-document-row`: the rounding rule is
`currency`, or no document discount/charge with a fixed amount carries the included category with a
percentage (`FixedIncludedRow`).  The other known finding about stored amounts,
`invert-after-in-place-rounding` (fixed amounts finer than presented), is *not* excluded: the original
total with tax is the one of the same first calculation the removal starts from, so what that
calculation rounds in place does not matter here.

Conclusion: if `calculate d = ok out` with totals `t` and `removeIncludedDoc d = ok out'`, then `out'`
has totals `t'` without `tax_included`, presented with the currency's decimals; `t'.rounding` is
exactly `t.totalWithTax − t'.totalWithTax` when they differ and `none` otherwise; and
`t'.payable = t.totalWithTax` provided the residue is not carried across zero (`t'.totalWithTax` is
zero, or has the strict sign of `t.totalWithTax`) — the complement is the known finding
`remove-included-residue-across-zero`, exhibited by `remove_included_residue_across_zero` below. -/
theorem remove_included_payable (d : Doc) (k : String) (out out' : Out) (t : Totals)
    (hk : d.includes = some k) (hr : d.rounding = none)
    (hwf : ∀ l ∈ d.lines, LineWF d.cur d.c l) (hrates : RatesWF d.c d.rates)
    (hrows : d.rule = .currency ∨ ∀ x ∈ d.discounts ++ d.charges, ¬ FixedIncludedRow k x)
    (h1 : calculate exactOps d = .ok out) (ht : out.totals = some t)
    (h2 : removeIncludedDoc exactOps d = .ok out') :
    ∃ t', out'.totals = some t' ∧ t'.taxIncluded = none ∧
      t'.totalWithTax.exp = d.c ∧ t'.payable.exp = d.c ∧
      t'.rounding = (if t'.totalWithTax = t.totalWithTax then none
                     else some ⟨t.totalWithTax.value - t'.totalWithTax.value, d.c⟩) ∧
      ((t'.totalWithTax.value = 0 ∨ 0 < t.totalWithTax.value * t'.totalWithTax.value) →
        t'.payable = t.totalWithTax) := by
  rw [removeIncludedDoc_eq d k out t hk hr h1 ht] at h2
  cases hm : removeFrom exactOps k (Mem.after d out) t with
  | error e => simp [hm, Except.map] at h2
  | ok m' =>
    rw [hm] at h2
    cases h2
    obtain ⟨p1, tx1, ⟨hpre1, -, -, rfl, -⟩⟩ := calculated h1 ht
    obtain ⟨t', h1', -, h3⟩ := remove_included_payable_core k _ m' t (calculate_twt_exp d _ t h1 ht) hm
      (removed_rowsFix d k p1 tx1 hpre1 hwf hrates hrows)
    exact ⟨t', h1', h3⟩

/-- **`RemoveIncludedTaxes` returns normally** in the domain of `remove_included_payable`: under the
same hypotheses, none of the model's error exits is taken — no recalculation fails, and the totals the
function dereferences after its first recalculation are never nil (`RemErr.nilTotals`, a panic in the
Go code).  So the hypothesis `removeIncludedDoc d = ok out'` of `remove_included_payable` always holds
there and the theorem is not true for want of results. -/
theorem remove_included_returns_normally (d : Doc) (k : String) (out : Out) (t : Totals)
    (hk : d.includes = some k) (hr : d.rounding = none)
    (hwf : ∀ l ∈ d.lines, LineWF d.cur d.c l) (hrates : RatesWF d.c d.rates)
    (hrows : d.rule = .currency ∨ ∀ x ∈ d.discounts ++ d.charges, ¬ FixedIncludedRow k x)
    (h1 : calculate exactOps d = .ok out) (ht : out.totals = some t) :
    ∃ out', removeIncludedDoc exactOps d = .ok out' := by
  obtain ⟨p1, tx1, ⟨hpre1, hne1, -, rfl, -⟩⟩ := calculated h1 ht
  obtain ⟨p2, hpre2, hne2⟩ := removed_pre_ok d k p1 tx1 hpre1 hne1 hwf hrates
  rw [removeIncludedDoc_eq d k _ t hk hr h1 ht,
    removeFrom_eq k (Mem.after d _) t p2 _ hpre2 hne2 rfl
      (removed_rowsFix d k p1 tx1 hpre1 hwf hrates hrows p2 hpre2)]
  exact ⟨_, rfl⟩

/-- what the harness runs, `Calculate` and then `RemoveIncludedTaxes` with the totals present
(`calculateThenRemove`, driver request `rm`), is `removeIncludedDoc`, the function the theorems are
about, whenever prices include a tax, no rounding was supplied and the calculation has totals -/
theorem calculate_then_remove (d : Doc) (k : String) (out : Out) (t : Totals)
    (hk : d.includes = some k) (hr : d.rounding = none)
    (h1 : calculate exactOps d = .ok out) (ht : out.totals = some t) :
    (calculateThenRemove exactOps d).map Mem.out = removeIncludedDoc exactOps d := by
  rw [removeIncludedDoc_eq d k out t hk hr h1 ht]
  unfold calculateThenRemove memOfDoc
  simp only [hr, Option.map_none]
  rw [calcMem_fresh d hr, h1]
  simp only [Except.map, removeIncludedMem_eq (m := Mem.after d out) hk, Mem.after_totals, ht]

/-- every line, with or without sub-lines, after a calculation and after the removal that follows it, is reproduced by
calculate ∘ present ∘ calculate (`LineFix`): the fact about lines behind `remove_included_payable` -/
theorem removed_line_is_fixpoint (cur : String) (c : ℕ) (rates : List XRate) (r : Rule) (k : String) (l0 l1 : Line)
    (hwf : LineWF cur c l0) (hr : RatesWF c rates) (h : calcLine exactOps cur c rates r l0 = .ok l1) :
    LineFix cur c rates r (removeLineIncluded exactOps k (roundLine exactOps l1)) :=
  lineFix_of _ _ _ _ _ (settled_remove _ _ k _ (settled_of_calcLine _ _ _ _ l0 l1 hwf hr h)).fixable

/-- what is looked at in the examples: presented total with tax, rounding, payable -/
def removalView (r : Except RemErr Out) : Option (Amount × Option Amount × Amount) :=
  match r with
  | .ok o => o.totals.map (fun t => (t.totalWithTax, t.rounding, t.payable))
  | .error _ => none

/-- non-vacuity: `sampleDoc` (a 10 % line discount, a 5 % document discount carrying VAT, an advance,
21 % VAT included) meets every hypothesis of `remove_included_payable` … -/
example : sampleDoc.includes = some "VAT" ∧ sampleDoc.rounding = none ∧
    (∀ l ∈ sampleDoc.lines, LineWF sampleDoc.cur sampleDoc.c l) ∧ RatesWF sampleDoc.c sampleDoc.rates ∧
    (sampleDoc.rule = .currency ∨ ∀ x ∈ sampleDoc.discounts ++ sampleDoc.charges, ¬ FixedIncludedRow "VAT" x) := by
  simp [sampleDoc, LineWF, ItemWF, SubWF, RatesWF, FixedIncludedRow, pctIsZero]

/-- … total with tax 25.66 before; the removal leaves no residue here: payable 25.66, no rounding -/
example : ((calculate exactOps sampleDoc).toOption.bind (·.totals)).map (·.totalWithTax) = some ⟨2566, 2⟩ ∧
    removalView (removeIncludedDoc exactOps sampleDoc) = some (⟨2566, 2⟩, none, ⟨2566, 2⟩) := by decide +kernel

/-- 100 × 1.00 with 21 % VAT included, and (optionally) a fixed document charge of 0.01 carrying the
same tax -/
def residueDoc (r : Rule) (withCharge : Bool) : Doc :=
  let vat : Combo := { cat := "VAT", country := "", key := "", percent := some ⟨⟨21, 2⟩⟩, surcharge := none, ext := "", retained := false }
  { cur := "EUR", c := 2, rule := r, includes := some "VAT",
    lines := [{ qty := ⟨100, 0⟩, item := some { price := some ⟨100, 2⟩, cur := "", sub := 2, alts := [] },
                discounts := [], charges := [], breakdown := [], taxes := [vat] }],
    discounts := [],
    charges := if withCharge then [{ percent := none, base := none, amount := ⟨1, 2⟩, taxes := [vat] }] else [],
    rates := [], rounding := none, hasPayment := false, advances := [], dues := [] }

/-- non-vacuity with a residue: 100.00 before; the net price 0.8264 × 100 plus 21 % is 99.99; the
residue 0.01 is recorded and payable is 100.00 (the document has no document rows, so `hrows` holds) -/
example : (∀ x ∈ (residueDoc .precise false).discounts ++ (residueDoc .precise false).charges, ¬ FixedIncludedRow "VAT" x) ∧
    ((calculate exactOps (residueDoc .precise false)).toOption.bind (·.totals)).map (·.totalWithTax) = some ⟨10000, 2⟩ ∧
    removalView (removeIncludedDoc exactOps (residueDoc .precise false)) = some (⟨9999, 2⟩, some ⟨1, 2⟩, ⟨10000, 2⟩) :=
  ⟨by simp [residueDoc], by decide +kernel, by decide +kernel⟩

/-- a line priced by a breakdown (2 × 10.00 and 1 × 5.005, the second with a fixed discount of
0.015), with a fixed line discount of 0.105 and 21 % VAT included -/
def breakdownDoc : Doc :=
  let vat : Combo := { cat := "VAT", country := "", key := "", percent := some ⟨⟨21, 2⟩⟩, surcharge := none, ext := "", retained := false }
  { cur := "EUR", c := 2, rule := .precise, includes := some "VAT",
    lines := [{ qty := ⟨333, 0⟩, item := some { price := none, cur := "", sub := 2, alts := [] },
                discounts := [{ percent := none, base := none, amount := ⟨105, 3⟩, rate := none, quantity := none }],
                charges := [],
                breakdown := [{ qty := ⟨2, 0⟩, item := some { price := some ⟨1000, 2⟩, cur := "", sub := 2, alts := [] },
                                discounts := [], charges := [] },
                              { qty := ⟨1, 0⟩, item := some { price := some ⟨5005, 3⟩, cur := "", sub := 2, alts := [] },
                                discounts := [{ percent := none, base := none, amount := ⟨15, 3⟩, rate := none, quantity := none }],
                                charges := [] }],
                taxes := [vat] }],
    discounts := [], charges := [], rates := [], rounding := none, hasPayment := false, advances := [], dues := [] }

/-- non-vacuity for lines with a breakdown: `breakdownDoc` meets the hypotheses of
`remove_included_payable`; 8321.57 before, 8321.59 after the removal, the residue −0.02 recorded,
payable 8321.57 -/
example : (∀ l ∈ breakdownDoc.lines, LineWF breakdownDoc.cur breakdownDoc.c l) ∧ RatesWF breakdownDoc.c breakdownDoc.rates ∧
    (∀ x ∈ breakdownDoc.discounts ++ breakdownDoc.charges, ¬ FixedIncludedRow "VAT" x) ∧
    ((calculate exactOps breakdownDoc).toOption.bind (·.totals)).map (·.totalWithTax) = some ⟨832157, 2⟩ ∧
    removalView (removeIncludedDoc exactOps breakdownDoc) = some (⟨832159, 2⟩, some ⟨-2, 2⟩, ⟨832157, 2⟩) :=
  ⟨by simp [breakdownDoc, LineWF, ItemWF, SubWF], by simp [breakdownDoc, RatesWF], by simp [breakdownDoc],
    by decide +kernel, by decide +kernel⟩

/-- **Nothing to remove.**  If no line, document discount or document charge carries a combo of the
included category, and the document is one whose second calculation reproduces the first
(`InputStable`: every line `LineStable` — no fixed line discount/charge amount finer than the line is
presented with, the visible exclusion of the known finding `invert-after-in-place-rounding` — or already
in the shape a calculation leaves; every fixed document discount/charge amount not finer than it is
presented with, unless the rule is `currency`; fixed advances likewise), then `RemoveIncludedTaxes`
returns exactly the calculated document: every row, every total, no rounding.  Together with
`remove_included_clears_flag`: the removal changes nothing but the flag. -/
theorem remove_included_nothing_to_remove (d : Doc) (k : String) (out : Out) (t : Totals)
    (hk : d.includes = some k) (hr : d.rounding = none) (hs : InputStable d) (hn : NothingIncluded k d)
    (h1 : calculate exactOps d = .ok out) (ht : out.totals = some t) :
    removeIncludedDoc exactOps d = .ok out := by
  obtain ⟨p1, tx1, ⟨hpre1, hne1, htx1, rfl, -⟩⟩ := calculated h1 ht
  -- "prices include `k`" makes no difference to a summary that has no category `k`
  obtain ⟨htt1, htt2⟩ := taxTotal_noCat d.rule d.c k p1.rows (pre_noCat hn hpre1).2.2
  have htxn : taxTotal exactOps d.rule d.c none p1.rows = .ok tx1 := by rw [← htt1, ← hk]; exact htx1
  -- the removal leaves every row alone, and the recalculation reproduces the calculation
  have hcalc2 := calculate_reread_eq d p1 tx1 none hpre1 hne1 (hs.rowsFix hpre1) htxn
    (by simp [taxIncluded, hk, htt2 tx1 htxn]) hs.2.2
  rw [hr, ← removedDoc_nothing tx1 hn hpre1] at hcalc2
  rw [removeIncludedDoc_eq d k _ t hk hr h1 ht, removeFrom_def, Mem.after_doc, hcalc2]
  simp only [ht, amtEq_same_exp _ _ rfl, beq_self_eq_true, Bool.not_true, Bool.false_eq_true, if_false]
  rfl

/-- non-vacuity: `sampleDoc` with its combos moved to IGIC while prices include VAT -/
def nothingDoc : Doc :=
  let igic : Combo := { cat := "IGIC", country := "", key := "", percent := some ⟨⟨7, 2⟩⟩, surcharge := none, ext := "", retained := false }
  { sampleDoc with lines := sampleDoc.lines.map (fun l => { l with taxes := [igic] }),
                   discounts := sampleDoc.discounts.map (fun x => { x with taxes := [igic] }) }

example : InputStable nothingDoc ∧ NothingIncluded "VAT" nothingDoc ∧
    ((calculate exactOps nothingDoc).toOption.bind (·.totals)).map (fun t => (t.totalWithTax, t.rounding, t.payable)) =
      removalView (removeIncludedDoc exactOps nothingDoc) ∧
    removalView (removeIncludedDoc exactOps nothingDoc) = some (⟨2746, 2⟩, none, ⟨2746, 2⟩) :=
  ⟨by simp [InputStable, nothingDoc, sampleDoc, InputLineStable, LineStable, DiscountStable, DocAdjStable', AdvanceStable],
    by simp [NothingIncluded, nothingDoc, sampleDoc, NoCat], by decide +kernel, by decide +kernel⟩

/-- a document whose total with tax is 0 (JPY: 1.00 gross at 50 % VAT included, and −0.5001 untaxed)
and whose unrounded total after the removal is exactly 0.5000 -/
def acrossZeroDoc : Doc :=
  { cur := "JPY", c := 0, rule := .precise, includes := some "VAT",
    lines := [{ qty := ⟨1, 0⟩, item := some { price := some ⟨100, 2⟩, cur := "", sub := 0, alts := [] },
                discounts := [], charges := [], breakdown := [],
                taxes := [{ cat := "VAT", country := "", key := "", percent := some ⟨⟨50, 2⟩⟩,
                            surcharge := none, ext := "", retained := false }] },
              { qty := ⟨1, 0⟩, item := some { price := some ⟨-5001, 4⟩, cur := "", sub := 0, alts := [] },
                discounts := [], charges := [], breakdown := [], taxes := [] }],
    discounts := [], charges := [], rates := [], rounding := none, hasPayment := false, advances := [], dues := [] }

/-- **Counter-example: the residue carried across zero** (known finding
`remove-included-residue-across-zero`, reproduced on the real code by the harness).  The document
meets every hypothesis of `remove_included_payable` except the sign condition: its total with
tax is 0; after the removal the total with tax is presented as 1 (0.5000 rounded half away from zero),
the rounding field is −1 as it should be, and `calculate` presents payable = Rescale(0.5000 − 1) = −1,
not 0: rounding half away from zero does not commute with a shift across zero. -/
theorem remove_included_residue_across_zero :
    ((calculate exactOps acrossZeroDoc).toOption.bind (·.totals)).map (·.totalWithTax) = some ⟨0, 0⟩ ∧
    removalView (removeIncludedDoc exactOps acrossZeroDoc) = some (⟨1, 0⟩, some ⟨-1, 0⟩, ⟨-1, 0⟩) := by decide +kernel

/-- **Counter-example: the fixed document row** (known finding `remove-included-fixed-document-row`;
`residueDoc … true` is a `FixedIncludedRow` document).  Under the `precise` rule: total with tax 100.01;
the first recalculation gives 100.00 and records 0.01, but it also presents the charge
0.0100 / 1.21 = 0.0083 as 0.01 in place, so the second recalculation finds 100.01 and pays 100.02.  Under
the `currency` rule (first disjunct of `hrows`) the same document keeps its 100.01. -/
theorem remove_included_fixed_row_counterexample :
    ((calculate exactOps (residueDoc .precise true)).toOption.bind (·.totals)).map (·.totalWithTax) = some ⟨10001, 2⟩ ∧
    removalView (removeIncludedDoc exactOps (residueDoc .precise true)) = some (⟨10001, 2⟩, some ⟨1, 2⟩, ⟨10002, 2⟩) ∧
    ((calculate exactOps (residueDoc .currency true)).toOption.bind (·.totals)).map (·.totalWithTax) = some ⟨10001, 2⟩ ∧
    removalView (removeIncludedDoc exactOps (residueDoc .currency true)) = some (⟨10001, 2⟩, none, ⟨10001, 2⟩) := by decide +kernel

/-! ## pinned source shapes (regenerated facts; tools/pin_calc_expect.py) -/

namespace ExpectCalc
open GoblVerif.Generated.Calc

theorem calls_Invoice_Invert_as_modelled : calls_Invoice_Invert =
    ["New", "Invert", "Invert", "Invert", "invertAmountPtr", "Invert", "invertAmountPtr", "invertAmountPtr", "Invert", "invertAmountPtr", "Invert", "invertAmountPtr", "Invert", "invertAmountPtr", "Calculate", "New", "Equals", "Errorf", "String", "String"] := rfl
theorem conds_Invoice_Invert_as_modelled : conds_Invoice_Invert =
    ["inv.Totals == nil", "inv.Payment != nil", "rnd := invertAmountPtr(inv.Totals.Rounding); rnd != nil", "err := inv.Calculate(); err != nil", "inv.Totals == nil", "!payable.Equals(inv.Totals.Payable)"] := rfl
theorem stmts_Invoice_Invert_as_modelled : stmts_Invoice_Invert =
    ["return errors.New(\"cannot invert an invoice without totals\")", "payable := inv.Totals.Payable.Invert()", "row.Quantity = row.Quantity.Invert()", "d.Amount = d.Amount.Invert()", "d.Base = invertAmountPtr(d.Base)", "c.Amount = c.Amount.Invert()", "c.Base = invertAmountPtr(c.Base)", "c.Quantity = invertAmountPtr(c.Quantity)", "row.Amount = row.Amount.Invert()", "row.Base = invertAmountPtr(row.Base)", "row.Amount = row.Amount.Invert()", "row.Base = invertAmountPtr(row.Base)", "row.Amount = row.Amount.Invert()", "rnd := invertAmountPtr(inv.Totals.Rounding)", "inv.Totals = &Totals{Rounding: rnd}", "inv.Totals = nil", "err := inv.Calculate()", "return err", "return errors.New(\"cannot invert an invoice without lines, discounts or charges\")", "return fmt.Errorf(\"inverted invoice totals do not match %s != %s\", payable.String(), inv.Totals.Payable.String())", "return nil"] := rfl
theorem calls_removeIncludedTaxes_as_modelled : calls_removeIncludedTaxes =
    ["canRemoveIncludedTaxes", "getTax", "getTotals", "calculate", "getTotals", "getTotals", "setTotals", "new", "getLines", "getLines", "removeLineIncludedTaxes", "getDiscounts", "len", "removeIncludedTaxes", "getCharges", "len", "removeIncludedTaxes", "getTax", "calculate", "getTotals", "Equals", "Subtract", "calculate"] := rfl
theorem conds_removeIncludedTaxes_as_modelled : conds_removeIncludedTaxes =
    ["!canRemoveIncludedTaxes(doc)", "doc.getTotals() == nil", "err := calculate(doc); err != nil", "doc.getTotals() == nil", "len(discounts) > 0", "len(charges) > 0", "err := calculate(doc); err != nil", "t == nil", "!totalWithTax.Equals(t.TotalWithTax)", "err := calculate(doc); err != nil"] := rfl
theorem stmts_removeIncludedTaxes_as_modelled : stmts_removeIncludedTaxes =
    ["return nil", "tpi := doc.getTax().PricesInclude", "err := calculate(doc)", "return err", "return nil", "totalWithTax := doc.getTotals().TotalWithTax", "lines := doc.getLines()", "lines[i] = removeLineIncludedTaxes(l, tpi)", "discounts := doc.getDiscounts()", "discounts[i] = l.removeIncludedTaxes(tpi)", "charges := doc.getCharges()", "charges[i] = l.removeIncludedTaxes(tpi)", "tx := doc.getTax()", "tx.PricesInclude = \"\"", "err := calculate(doc)", "return err", "t := doc.getTotals()", "return nil", "rnd := totalWithTax.Subtract(t.TotalWithTax)", "t.Rounding = &rnd", "err := calculate(doc)", "return err", "return nil"] := rfl
theorem calls_Discount_removeIncludedTaxes_as_modelled : calls_Discount_removeIncludedTaxes =
    ["Get", "Remove", "Upscale"] := rfl
theorem conds_Discount_removeIncludedTaxes_as_modelled : conds_Discount_removeIncludedTaxes =
    ["rate == nil || rate.Percent == nil"] := rfl
theorem stmts_Discount_removeIncludedTaxes_as_modelled : stmts_Discount_removeIncludedTaxes =
    ["accuracy := defaultTaxRemovalAccuracy", "rate := m.Taxes.Get(cat)", "return m", "m2 := *m", "m2.Amount = m2.Amount.Upscale(accuracy).Remove(*rate.Percent)", "return &m2"] := rfl
theorem calls_Charge_removeIncludedTaxes_as_modelled : calls_Charge_removeIncludedTaxes =
    ["Get", "Remove", "Upscale"] := rfl
theorem conds_Charge_removeIncludedTaxes_as_modelled : conds_Charge_removeIncludedTaxes =
    ["rate == nil || rate.Percent == nil"] := rfl
theorem stmts_Charge_removeIncludedTaxes_as_modelled : stmts_Charge_removeIncludedTaxes =
    ["accuracy := defaultTaxRemovalAccuracy", "rate := m.Taxes.Get(cat)", "return m", "m2 := *m", "m2.Amount = m2.Amount.Upscale(accuracy).Remove(*rate.Percent)", "return &m2"] := rfl
theorem calls_Invoice_RemoveIncludedTaxes_as_modelled : calls_Invoice_RemoveIncludedTaxes =
    ["removeIncludedTaxes"] := rfl
theorem conds_Invoice_RemoveIncludedTaxes_as_modelled : conds_Invoice_RemoveIncludedTaxes =
    [] := rfl
theorem stmts_Invoice_RemoveIncludedTaxes_as_modelled : stmts_Invoice_RemoveIncludedTaxes =
    ["return removeIncludedTaxes(inv)"] := rfl
theorem calls_canRemoveIncludedTaxes_as_modelled : calls_canRemoveIncludedTaxes =
    ["getTax", "IsEmpty", "getTax"] := rfl
theorem conds_canRemoveIncludedTaxes_as_modelled : conds_canRemoveIncludedTaxes =
    [] := rfl
theorem stmts_canRemoveIncludedTaxes_as_modelled : stmts_canRemoveIncludedTaxes =
    ["return doc.getTax() != nil && !doc.getTax().PricesInclude.IsEmpty()"] := rfl
theorem calls_removeLineIncludedTaxes_as_modelled : calls_removeLineIncludedTaxes =
    ["Get", "Remove", "Upscale", "removeSubLinesIncludedTaxes", "removeLineDiscountsIncludedTaxes", "removeLineChargesIncludedTaxes", "removeSubLinesIncludedTaxes"] := rfl
theorem conds_removeLineIncludedTaxes_as_modelled : conds_removeLineIncludedTaxes =
    ["rate == nil || rate.Percent == nil", "line.Item == nil || line.Item.Price == nil"] := rfl
theorem stmts_removeLineIncludedTaxes_as_modelled : stmts_removeLineIncludedTaxes =
    ["accuracy := defaultTaxRemovalAccuracy", "rate := line.Taxes.Get(cat)", "return line", "return line", "l2 := *line", "l2i := *line.Item", "l2i.AltPrices = nil", "price := line.Item.Price.Upscale(accuracy).Remove(*rate.Percent)", "l2i.Price = &price", "l2.Breakdown = removeSubLinesIncludedTaxes(line.Breakdown, rate, accuracy)", "l2.Discounts = removeLineDiscountsIncludedTaxes(line.Discounts, rate, accuracy)", "l2.Charges = removeLineChargesIncludedTaxes(line.Charges, rate, accuracy)", "l2.Substituted = removeSubLinesIncludedTaxes(line.Substituted, rate, accuracy)", "l2.Item = &l2i", "return &l2"] := rfl
theorem calls_removeSubLinesIncludedTaxes_as_modelled : calls_removeSubLinesIncludedTaxes =
    ["len", "make", "len", "Remove", "Upscale", "removeLineDiscountsIncludedTaxes", "removeLineChargesIncludedTaxes"] := rfl
theorem conds_removeSubLinesIncludedTaxes_as_modelled : conds_removeSubLinesIncludedTaxes =
    ["len(sls) == 0", "sl == nil || sl.Item == nil || sl.Item.Price == nil"] := rfl
theorem stmts_removeSubLinesIncludedTaxes_as_modelled : stmts_removeSubLinesIncludedTaxes =
    ["return nil", "rows := make([]*SubLine, len(sls))", "rows[i] = sl", "sl2 := *sl", "sl2i := *sl.Item", "sl2i.AltPrices = nil", "price := sl.Item.Price.Upscale(exp).Remove(*tc.Percent)", "sl2i.Price = &price", "sl2.Discounts = removeLineDiscountsIncludedTaxes(sl.Discounts, tc, exp)", "sl2.Charges = removeLineChargesIncludedTaxes(sl.Charges, tc, exp)", "sl2.Item = &sl2i", "rows[i] = &sl2", "return rows"] := rfl
theorem calls_removeLineDiscountsIncludedTaxes_as_modelled : calls_removeLineDiscountsIncludedTaxes =
    ["len", "make", "len", "Remove", "Upscale"] := rfl
theorem conds_removeLineDiscountsIncludedTaxes_as_modelled : conds_removeLineDiscountsIncludedTaxes =
    ["len(discounts) == 0"] := rfl
theorem stmts_removeLineDiscountsIncludedTaxes_as_modelled : stmts_removeLineDiscountsIncludedTaxes =
    ["return nil", "rows := make([]*LineDiscount, len(discounts))", "d := *v", "d.Amount = d.Amount.Upscale(exp).Remove(*tc.Percent)", "rows[i] = &d", "return rows"] := rfl
theorem calls_removeLineChargesIncludedTaxes_as_modelled : calls_removeLineChargesIncludedTaxes =
    ["len", "make", "len", "Remove", "Upscale"] := rfl
theorem conds_removeLineChargesIncludedTaxes_as_modelled : conds_removeLineChargesIncludedTaxes =
    ["len(charges) == 0"] := rfl
theorem stmts_removeLineChargesIncludedTaxes_as_modelled : stmts_removeLineChargesIncludedTaxes =
    ["return nil", "rows := make([]*LineCharge, len(charges))", "d := *v", "d.Amount = d.Amount.Upscale(exp).Remove(*tc.Percent)", "rows[i] = &d", "return rows"] := rfl
theorem const_defaultTaxRemovalAccuracy_as_modelled : const_defaultTaxRemovalAccuracy = toString removalAccuracy := rfl
theorem const_linePrecisionExtra_as_modelled : const_linePrecisionExtra = toString E := rfl

end ExpectCalc

end GoblVerif.Props.C17
