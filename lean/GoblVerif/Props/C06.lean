/-
  C06 — Amount and percentage text codec round-trips and accepts only the schema.

  The property theorems, their private helpers and what needs `pctBody`, which is defined here
  (helper lemmas: Proofs/Codec.lean, Proofs/CodecMinimal.lean; for `namespace Src` Proofs/CodecSrc.lean).  They
  are about the model of /repo/num's codec in Model/Codec.lean and relate it to
  the specification in Spec/C06.lean: the hand-written recognisers of the two
  published patterns, the exact decimal reading of a pattern member, and the
  64-bit condition `fits64` (−2^63 … 2^63−1, at most 18 decimals).
-/
import GoblVerif.Spec.C06
import GoblVerif.Generated.CodecFacts
import GoblVerif.Proofs.Codec
import GoblVerif.Proofs.CodecMinimal
import GoblVerif.Generated.CodecSrc
import GoblVerif.Proofs.CodecSrc
import GoblVerif.Proofs.Num

namespace GoblVerif.Props.C06
open GoblVerif GoblVerif.Codec GoblVerif.Spec.C06

/-! ## amounts: writing then reading -/

/-- Writing **any** int64 amount with at most 18 decimals and reading the text back
    gives the same value **and** the same exponent — the most negative value
    included. -/
theorem amount_roundtrip (a : Amount) (he : a.exp ≤ 18)
    (hlo : -(2 : ℤ) ^ 63 ≤ a.value) (hhi : a.value < (2 : ℤ) ^ 63) :
    amountFromString (amountToString a) = .ok a := by
  obtain ⟨v, e⟩ := a
  obtain ⟨A, M, hd, hlen, hval⟩ := amountToString_dec v e he hlo hhi
  rw [hd.parse, hval, hlen, sg_natAbs]
  exact ⟨he, natAbs_le_lim v hlo hhi, rfl⟩

/-- The written text of every int64 amount is a member of `^\-?[0-9]+(\.[0-9]+)?$`. -/
theorem amount_text_matches (a : Amount) (he : a.exp ≤ 18)
    (hlo : -(2 : ℤ) ^ 63 ≤ a.value) (hhi : a.value < (2 : ℤ) ^ 63) :
    isAmountText (amountToString a) = true := by
  obtain ⟨v, e⟩ := a
  obtain ⟨A, M, hd, -, -⟩ := amountToString_dec v e he hlo hhi
  exact hd.reading.1

/-- The end point of the range: −2^63 is written as the decimal expansion of the
    value at every precision and read back unchanged. -/
theorem min_int64_roundtrips (e : ℕ) (he : e ≤ 18) :
    isAmountText (amountToString ⟨-2 ^ 63, e⟩) = true ∧
    amountFromString (amountToString ⟨-2 ^ 63, e⟩) = .ok ⟨-2 ^ 63, e⟩ :=
  ⟨amount_text_matches _ he (by norm_num) (by norm_num), amount_roundtrip _ he (by norm_num) (by norm_num)⟩

/-- … with the texts written out for 0, 2 and 18 decimals (kernel-evaluated). -/
theorem min_int64_texts :
    amountToString ⟨-2 ^ 63, 0⟩ = "-9223372036854775808".toList ∧
    amountToString ⟨-2 ^ 63, 2⟩ = "-92233720368547758.08".toList ∧
    amountToString ⟨-2 ^ 63, 18⟩ = "-9.223372036854775808".toList := by
  refine ⟨by decide +kernel, by decide +kernel, by decide +kernel⟩

/-! ## amounts: the minimal text -/

/-- `MinimalString` (trailing zeros of the decimals and a left-over point removed) of **any**
    int64 amount with at most 18 decimals is a member of the published pattern … -/
theorem minimal_string_matches (a : Amount) (he : a.exp ≤ 18)
    (hlo : -(2 : ℤ) ^ 63 ≤ a.value) (hhi : a.value < (2 : ℤ) ^ 63) :
    isAmountText (amountMinimalString a) = true := by
  obtain ⟨v, e⟩ := a
  obtain ⟨A, M, b, hd, -, -⟩ := amountMinimalString_parse v e he hlo hhi
  exact hd.reading.1

/-- … and it is read back as an amount of the **same value** (the exponent is the number of
    decimals that are left). -/
theorem minimal_string_preserves_value (a : Amount) (he : a.exp ≤ 18)
    (hlo : -(2 : ℤ) ^ 63 ≤ a.value) (hhi : a.value < (2 : ℤ) ^ 63) :
    ∃ b, amountFromString (amountMinimalString a) = .ok b ∧ b.toRat = a.toRat := by
  obtain ⟨v, e⟩ := a
  obtain ⟨A, M, b, -, hparse, hval⟩ := amountMinimalString_parse v e he hlo hhi
  exact ⟨b, hparse, hval⟩

example : amountMinimalString ⟨-1250, 2⟩ = "-12.5".toList ∧ amountMinimalString ⟨1000, 3⟩ = "1".toList ∧
    amountMinimalString ⟨10, 0⟩ = "10".toList ∧ amountMinimalString ⟨0, 4⟩ = "0".toList := by decide +kernel

/-! ## amounts: reading -/

/-- `AmountFromString` accepts **exactly** the members of the published pattern
    that fit: at most 18 decimals, and the digits without the point, with the
    sign of the text, are an int64 (`fits64`: −2^63 … 2^63−1). -/
theorem amount_accepts_iff (s : Text) :
    (∃ a, amountFromString s = .ok a) ↔ (isAmountText s = true ∧ fits64 s = true) := by
  constructor
  · rintro ⟨a, h⟩
    obtain ⟨h1, h2, _⟩ := (amountFromString_ok_iff s a).mp h
    exact ⟨h1, h2⟩
  · rintro ⟨h1, h2⟩
    exact ⟨_, (amountFromString_ok_iff s _).mpr ⟨h1, h2, rfl⟩⟩

/-- What is accepted is read as the number the text denotes, at the written
    precision — never as a different number. -/
theorem amount_reads_value (s : Text) (a : Amount) (h : amountFromString s = .ok a) :
    a.toRat = decimalValue s ∧ a.exp = decimals s := by
  obtain ⟨_, _, rfl⟩ := (amountFromString_ok_iff s a).mp h
  refine ⟨?_, rfl⟩
  unfold Amount.toRat decimalValue signedUnscaled pow10
  simp only
  by_cases hn : negative s = true
  · simp only [hn, if_true]
    push_cast
    ring
  · simp only [hn]
    simp

/-- every rejection is an error value, and the model function is total: for every
    text exactly one of "accepted with the denoted value" / "rejected" holds -/
theorem amount_rejects_otherwise (s : Text) (h : ¬ (isAmountText s = true ∧ fits64 s = true)) :
    ∃ e, amountFromString s = .error e := by
  cases hr : amountFromString s with
  | error e => exact ⟨e, rfl⟩
  | ok a => exact absurd ((amount_accepts_iff s).mp ⟨a, hr⟩) h

/-- The range is the int64 range, not a symmetric one: −2^63 is read, 2^63 and
    −2^63−1 are not, with or without decimals. -/
theorem amount_range_boundaries :
    amountFromString "-9223372036854775808".toList = .ok ⟨-2 ^ 63, 0⟩ ∧
    amountFromString "-92233720368547758.08".toList = .ok ⟨-2 ^ 63, 2⟩ ∧
    amountFromString "9223372036854775808".toList = .error .major ∧
    amountFromString "92233720368547758.08".toList = .error .range ∧
    amountFromString "-9223372036854775809".toList = .error .major ∧
    amountFromString "-92233720368547758.09".toList = .error .range := by
  refine ⟨by decide +kernel, by decide +kernel, by decide +kernel, by decide +kernel, by decide +kernel,
    by decide +kernel⟩

/-! ## percentages -/

/-- the text body the percentage parser hands to `AmountFromString` -/
def pctBody (s : Text) : Text := if s.getLast? == some '%' then s.dropLast else s

theorem percentageFromString_eq (s : Text) (hne : s ≠ []) :
    percentageFromString s =
      match amountFromString (pctBody s) with
      | .error e => .error e
      | .ok a => .ok (if s.getLast? == some '%' then Pct.ofAmount a else ⟨a⟩) := by
  unfold percentageFromString
  rw [if_neg (by simpa using hne)]
  rfl

private theorem pct_parse_snoc (x : Text) :
    percentageFromString (x ++ ['%']) =
      match amountFromString x with
      | .error e => .error e
      | .ok a => .ok (Pct.ofAmount a) := by
  rw [percentageFromString_eq _ (by simp)]
  simp [pctBody]

private theorem toAmount_int64 (p : Pct) (he : p.amount.exp ≤ 20)
    (hlo : -(2 : ℤ) ^ 63 ≤ p.amount.value * 10 ^ (2 - p.amount.exp))
    (hhi : p.amount.value * 10 ^ (2 - p.amount.exp) < (2 : ℤ) ^ 63) :
    p.toAmount.exp ≤ 18 ∧ -(2 : ℤ) ^ 63 ≤ p.toAmount.value ∧ p.toAmount.value < (2 : ℤ) ^ 63 :=
  ⟨by rw [p.toAmount_exp]; omega, by rwa [p.toAmount_value], by rwa [p.toAmount_value]⟩

/-- Writing a percentage (at most 20 decimals; the percent figure `value·10^(2−exp)`
    an int64 — for two or more decimals that is the value itself, i.e. **every**
    int64 value) and reading the text back gives a percentage of the same value.
    For ≥ 2 decimals it is the identical percentage; below that the exponent is
    normalised to 2.  No magnitude bound: the conversions only move the decimal
    point, nothing goes through float64. -/
theorem percentage_roundtrip_value (p : Pct) (he : p.amount.exp ≤ 20)
    (hlo : -(2 : ℤ) ^ 63 ≤ p.amount.value * 10 ^ (2 - p.amount.exp))
    (hhi : p.amount.value * 10 ^ (2 - p.amount.exp) < (2 : ℤ) ^ 63) :
    ∃ q, percentageFromString (pctToString p) = .ok q ∧ q.amount.toRat = p.amount.toRat ∧
      (2 ≤ p.amount.exp → q = p) := by
  obtain ⟨d1, d2, d3⟩ := toAmount_int64 p he hlo hhi
  have hrt := amount_roundtrip p.toAmount d1 d2 d3
  unfold pctToString
  rw [pct_parse_snoc, hrt]
  refine ⟨Pct.ofAmount p.toAmount, rfl, ?_, fun h2 => ?_⟩
  · rw [Pct.ofAmount_toRat, p.toAmount_toRat, mul_div_cancel_right₀ _ (by norm_num)]
  · obtain ⟨⟨v, e⟩⟩ := p
    rw [Pct.toAmount_eq]
    simp only at h2 ⊢
    rw [show 2 - e = 0 by omega, pow_zero, mul_one, Pct.ofAmount, Nat.sub_add_cancel h2]

/-- The text of a percentage is stable: writing, reading and writing again gives
    the same text. -/
theorem percentage_text_stable (p : Pct) (he : p.amount.exp ≤ 20)
    (hlo : -(2 : ℤ) ^ 63 ≤ p.amount.value * 10 ^ (2 - p.amount.exp))
    (hhi : p.amount.value * 10 ^ (2 - p.amount.exp) < (2 : ℤ) ^ 63) :
    ∃ q, percentageFromString (pctToString p) = .ok q ∧ pctToString q = pctToString p := by
  obtain ⟨d1, d2, d3⟩ := toAmount_int64 p he hlo hhi
  have hrt := amount_roundtrip p.toAmount d1 d2 d3
  refine ⟨Pct.ofAmount p.toAmount, by unfold pctToString; rw [pct_parse_snoc, hrt], ?_⟩
  unfold pctToString
  rw [Pct.toAmount_eq (Pct.ofAmount p.toAmount), Pct.ofAmount]
  simp

/-- The written text is a member of `^\-?[0-9]+(\.[0-9]+)?%$`. -/
theorem percentage_text_matches (p : Pct) (he : p.amount.exp ≤ 20)
    (hlo : -(2 : ℤ) ^ 63 ≤ p.amount.value * 10 ^ (2 - p.amount.exp))
    (hhi : p.amount.value * 10 ^ (2 - p.amount.exp) < (2 : ℤ) ^ 63) :
    isPercentageText (pctToString p) = true := by
  unfold pctToString isPercentageText
  rw [List.getLast?_concat]
  simp only [List.dropLast_concat]
  obtain ⟨d1, d2, d3⟩ := toAmount_int64 p he hlo hhi
  exact amount_text_matches p.toAmount d1 d2 d3

/-! ## percentages: reading -/

/-- What `PercentageFromString` accepts, exactly: the empty text, or a text whose
    body (the text without one trailing `%`, if there is one) is a fitting amount
    text.  This is what the code does; the published pattern demands less — see
    the next two theorems for the gap. -/
theorem percentage_accepts_iff (s : Text) :
    (∃ q, percentageFromString s = .ok q) ↔
      (s = [] ∨ (isAmountText (pctBody s) = true ∧ fits64 (pctBody s) = true)) := by
  by_cases he : s = []
  · subst he; simp [percentageFromString]
  · rw [percentageFromString_eq s he, ← amount_accepts_iff]
    cases amountFromString (pctBody s) <;> simp [he]

/-- every fitting member of the published percentage pattern is accepted -/
theorem percentage_accepts_pattern (s : Text) (h : isPercentageText s = true) (hf : fits64 s.dropLast = true) :
    ∃ q, percentageFromString s = .ok q := by
  obtain ⟨h1, h2⟩ := (isPercentageText_iff s).mp h
  rw [percentage_accepts_iff]
  right
  unfold pctBody
  simp [h1, h2, hf]

/-- THE GAP (known findings `percentage-empty-text`, `percentage-without-symbol`):
    what is accepted although it is not in the published pattern is the empty text
    or a fitting *amount* text (no `%`), and nothing else. -/
theorem percentage_leniency_exact (s : Text) (q : Pct) (h : percentageFromString s = .ok q)
    (hn : isPercentageText s = false) :
    s = [] ∨ (isAmountText s = true ∧ fits64 s = true) := by
  rcases (percentage_accepts_iff s).mp ⟨q, h⟩ with h0 | ⟨h1, h2⟩
  · exact Or.inl h0
  · right
    unfold pctBody at h1 h2
    by_cases hl : s.getLast? = some '%'
    · simp only [hl, beq_self_eq_true, if_true] at h1
      have := (isPercentageText_iff s).mpr ⟨hl, h1⟩
      rw [this] at hn; exact absurd hn (by decide)
    · have : (s.getLast? == some '%') = false := by simpa using hl
      simp only [this, Bool.false_eq_true, if_false] at h1 h2
      exact ⟨h1, h2⟩

/-- the empty text really is accepted (as 0%) and "0.16" really is read as 16% -/
theorem percentage_leniency_witnesses :
    percentageFromString [] = .ok ⟨⟨0, 0⟩⟩ ∧
    percentageFromString ['0', '.', '1', '6'] = .ok ⟨⟨16, 2⟩⟩ ∧
    isPercentageText [] = false ∧ isPercentageText ['0', '.', '1', '6'] = false := by
  refine ⟨by decide +kernel, by decide +kernel, by decide +kernel, by decide +kernel⟩

/-- Every text `x%` whose `x` is accepted as an amount — i.e. every fitting member
    of the percentage pattern — is read as the number of hundredths it denotes,
    two decimals finer.  No bound on the digits: nothing is multiplied and
    nothing goes through float64. -/
theorem percentage_reads_value (x : Text) (a : Amount) (ha : amountFromString x = .ok a) :
    ∃ q, percentageFromString (x ++ ['%']) = .ok q ∧
      q.amount.toRat = decimalValue x / 100 ∧ q.amount.exp = decimals x + 2 ∧ q.amount.value = a.value := by
  obtain ⟨hval, hexp⟩ := amount_reads_value x a ha
  rw [pct_parse_snoc, ha]
  refine ⟨_, rfl, ?_, ?_, ?_⟩
  · rw [Pct.ofAmount_toRat, ← hval]
  · rw [← hexp]; rfl
  · rfl

/-- so a fitting member of the published percentage pattern is never read as a
    different number -/
theorem percentage_pattern_reads_value (s : Text) (q : Pct) (h : isPercentageText s = true)
    (hq : percentageFromString s = .ok q) :
    q.amount.toRat = decimalValue s.dropLast / 100 ∧ q.amount.exp = decimals s.dropLast + 2 := by
  obtain ⟨h1, _⟩ := (isPercentageText_iff s).mp h
  have hsplit : s = s.dropLast ++ ['%'] := (List.dropLast_append_getLast? '%' (by simpa using h1)).symm
  rw [hsplit, pct_parse_snoc] at hq
  cases ha : amountFromString s.dropLast with
  | error e => rw [ha] at hq; simp at hq
  | ok a =>
    obtain ⟨q', hq', h2, h3, _⟩ := percentage_reads_value s.dropLast a ha
    rw [pct_parse_snoc, ha] at hq'
    rw [ha] at hq
    simp only [Except.ok.injEq] at hq hq'
    rw [← hq, hq']
    exact ⟨h2, h3⟩

/-- without the `%` sign the accepted text is read as a plain factor ("0.160 ≡ 16.0%") -/
theorem percentage_no_symbol_value (s : Text) (a : Amount) (hne : s ≠ []) (hl : s.getLast? ≠ some '%')
    (ha : amountFromString s = .ok a) : percentageFromString s = .ok ⟨a⟩ := by
  have h2 : (s.getLast? == some '%') = false := by simpa using hl
  simp only [percentageFromString_eq s hne, pctBody, h2, Bool.false_eq_true, if_false, ha]

/-! ## JSON layer: a string is read by its value, only the literal `null` is a no-op

`jsonSpelling mask s` (Spec/C06) is the text `s` written as a JSON string token
in which the characters selected by `mask` are spelled `\u00XX`; `jsonPlain`
are the ASCII characters that may also stand for themselves (everything a
pattern member consists of: `isAmountText_plain`, `isPercentageText_plain`). -/

/-- A JSON string is read exactly as `AmountFromString` reads its *value*,
    whichever of its characters are written as escapes. -/
theorem json_string_read_by_value (cur : Amount) (mask : List Bool) (s : Text)
    (hs : ∀ c ∈ s, jsonPlain c = true) :
    amountUnmarshalJSON cur (jsonSpelling mask s) = amountFromString s := by
  unfold amountUnmarshalJSON
  rw [jsonText_spelling mask s hs]
  simp

/-- So a JSON string is accepted as an amount iff its value is a fitting member of
    the published pattern — for every spelling of that value. -/
theorem json_string_accepts_iff (cur : Amount) (mask : List Bool) (s : Text)
    (hs : ∀ c ∈ s, jsonPlain c = true) :
    (∃ a, amountUnmarshalJSON cur (jsonSpelling mask s) = .ok a) ↔
      (isAmountText s = true ∧ fits64 s = true) := by
  rw [json_string_read_by_value cur mask s hs]
  exact amount_accepts_iff s

private theorem member_head (s : Text) (h : isAmountText s = true) : s.head? ≠ some '"' := fun hc =>
  (jsonPlain_spec _ (isAmountText_plain s h _ (List.mem_of_mem_head? hc))).1 rfl

/-- For every member of the amount pattern every spelling of the quoted JSON
    string and the bare JSON number are read identically, namely as
    `AmountFromString` reads the text. -/
theorem json_quoted_and_bare_agree (cur : Amount) (mask : List Bool) (s : Text) (h : isAmountText s = true) :
    amountUnmarshalJSON cur (jsonSpelling mask s) = amountFromString s ∧
    amountUnmarshalJSON cur s = amountFromString s := by
  refine ⟨json_string_read_by_value cur mask s (isAmountText_plain s h), ?_⟩
  have hnull : (s == nullText) = false := by
    rw [beq_eq_false_iff_ne]
    intro e; subst e; revert h; decide
  unfold amountUnmarshalJSON
  rw [jsonText_bare s (member_head s h), hnull]
  simp

/-- Only the JSON literal `null` leaves the receiver untouched; the JSON *string*
    "null", however spelled, is rejected like any other text outside the pattern. -/
theorem json_null_literal_only (cur : Amount) (mask : List Bool) :
    amountUnmarshalJSON cur nullText = .ok cur ∧
    amountUnmarshalJSON cur (jsonSpelling mask nullText) = .error .major := by
  constructor
  · unfold amountUnmarshalJSON
    rw [jsonText_bare nullText (by decide)]
    simp
  · rw [json_string_read_by_value cur mask nullText (by decide)]
    decide

/-- A value that starts with a quote but is not one JSON string (unterminated, raw
    control character, bad escape, text after the closing quote) is an error for
    both types, whatever the receiver. -/
theorem json_malformed_string_rejected (cur : Amount) (curP : Pct) (v : Text)
    (hq : v.head? = some '"') (hd : jsonDecodeString v = none) :
    amountUnmarshalJSON cur v = .error .json ∧ pctUnmarshalJSON curP v = .error .json := by
  have : jsonText v = .error .json := by
    unfold jsonText
    simp [hq, hd]
  unfold amountUnmarshalJSON pctUnmarshalJSON
  rw [this]
  exact ⟨rfl, rfl⟩

/-- Percentages: a non-empty JSON string is read as `PercentageFromString` reads
    its value, whichever of its characters are written as escapes … -/
theorem json_percentage_read_by_value (cur : Pct) (mask : List Bool) (s : Text)
    (hs : ∀ c ∈ s, jsonPlain c = true) (hne : s ≠ []) :
    pctUnmarshalJSON cur (jsonSpelling mask s) = percentageFromString s := by
  unfold pctUnmarshalJSON
  rw [jsonText_spelling mask s hs]
  have : s.isEmpty = false := by simpa using hne
  simp [this]

/-- … and the empty JSON string is rejected: the leniency of `PercentageFromString`
    for the empty text (known finding `percentage-empty-text`) does not reach JSON. -/
theorem json_percentage_empty_rejected (cur : Pct) (mask : List Bool) :
    pctUnmarshalJSON cur (jsonSpelling mask []) = .error .empty := by
  unfold pctUnmarshalJSON
  rw [jsonText_spelling mask [] (by simp)]
  simp

/-- What is accepted from a JSON string as a percentage, exactly: a value whose
    body (without one trailing `%`, if any) is a fitting amount text. -/
theorem json_percentage_accepts_iff (cur : Pct) (mask : List Bool) (s : Text)
    (hs : ∀ c ∈ s, jsonPlain c = true) :
    (∃ q, pctUnmarshalJSON cur (jsonSpelling mask s) = .ok q) ↔
      (isAmountText (pctBody s) = true ∧ fits64 (pctBody s) = true) := by
  by_cases hne : s = []
  · subst hne
    rw [json_percentage_empty_rejected]
    simp [pctBody]
    decide
  · rw [json_percentage_read_by_value cur mask s hs hne, percentage_accepts_iff]
    simp [hne]

/-- every fitting member of the published percentage pattern is accepted from JSON,
    in every spelling -/
theorem json_percentage_accepts_pattern (cur : Pct) (mask : List Bool) (s : Text)
    (h : isPercentageText s = true) (hf : fits64 s.dropLast = true) :
    ∃ q, pctUnmarshalJSON cur (jsonSpelling mask s) = .ok q := by
  have hne : s ≠ [] := by intro e; subst e; revert h; decide
  rw [json_percentage_read_by_value cur mask s (isPercentageText_plain s h) hne]
  exact percentage_accepts_pattern s h hf

/-- the literal `null` is a no-op for percentages too, the string "null" an error -/
theorem json_percentage_null_literal_only (cur : Pct) (mask : List Bool) :
    pctUnmarshalJSON cur nullText = .ok cur ∧
    pctUnmarshalJSON cur (jsonSpelling mask nullText) = .error .major := by
  constructor
  · unfold pctUnmarshalJSON
    rw [jsonText_bare nullText (by decide)]
    simp
  · rw [json_percentage_read_by_value cur mask nullText (by decide) (by decide)]
    decide

/-! ## non-vacuity: the hypotheses are satisfiable, at boundaries and with signs -/

example : amountFromString "-12.50".toList = .ok ⟨-1250, 2⟩ := by decide +kernel
example : amountToString ⟨-1250, 2⟩ = "-12.50".toList := by decide +kernel
example : amountToString ⟨5, 3⟩ = "0.005".toList := by decide +kernel
example : amountFromString "9223372036854775807".toList = .ok ⟨9223372036854775807, 0⟩ := by decide +kernel
example : amountFromString "9.223372036854775807".toList = .ok ⟨9223372036854775807, 18⟩ := by decide +kernel
example : amountFromString "9223372036854775808".toList = .error .major := by decide +kernel
example : amountFromString "9.223372036854775808".toList = .error .range := by decide +kernel
example : amountFromString "1.0000000000000000000".toList = .error .decimals := by decide +kernel
example : amountFromString "+5".toList = .error .majorDigits := by decide +kernel
example : amountFromString "1.-5".toList = .error .minorDigits := by decide +kernel
example : amountFromString "--5".toList = .error .major := by decide +kernel
example : amountFromString "-+5".toList = .error .major := by decide +kernel
example : amountFromString "-0.50".toList = .ok ⟨-50, 2⟩ ∧ amountFromString "-0".toList = .ok ⟨0, 0⟩ := by decide +kernel
example : amountFromString "-.5".toList = .error .major ∧ amountFromString "-5.-3".toList = .error .minorDigits := by decide +kernel
example : (isAmountText "1.-5".toList, isAmountText "٣".toList, isAmountText "1e2".toList, isAmountText "-0.50".toList)
    = (false, false, false, true) := by decide +kernel
example : fits64 "922337203685477580.7".toList = true ∧ fits64 "922337203685477580.8".toList = false := by decide +kernel
example : fits64 "-922337203685477580.8".toList = true ∧ fits64 "-922337203685477580.9".toList = false := by decide +kernel
example : amountToString ⟨-2 ^ 63, 1⟩ = "-922337203685477580.8".toList := by decide +kernel
example : percentageFromString "16.0%".toList = .ok ⟨⟨160, 3⟩⟩ := by decide +kernel
example : pctToString ⟨⟨160, 3⟩⟩ = "16.0%".toList ∧ pctToString ⟨⟨5, 0⟩⟩ = "500%".toList ∧
    pctToString ⟨⟨-5, 1⟩⟩ = "-50%".toList := by decide +kernel
example : percentageFromString "0.123456789012345678%".toList = .ok ⟨⟨123456789012345678, 20⟩⟩ := by decide +kernel
example : percentageFromString "123456789012345.67%".toList = .ok ⟨⟨12345678901234567, 4⟩⟩ := by decide +kernel
example : pctToString ⟨⟨12345678901234567, 4⟩⟩ = "123456789012345.67%".toList := by decide +kernel
example : pctToString ⟨⟨-2 ^ 63, 2⟩⟩ = "-9223372036854775808%".toList ∧
    percentageFromString "-9223372036854775808%".toList = .ok ⟨⟨-2 ^ 63, 2⟩⟩ := by
  constructor <;> decide +kernel
example : (-(2 : ℤ) ^ 63 ≤ (-2 ^ 63 : ℤ) * 10 ^ (2 - 2)) ∧ ((-2 ^ 63 : ℤ) * 10 ^ (2 - 2) < 2 ^ 63) := by decide +kernel
example : jsonSpelling [true, false, true] "1.5".toList = "\"\\u0031.\\u0035\"".toList := by decide +kernel
example : amountUnmarshalJSON ⟨7, 1⟩ "\"\\u0031.5\"".toList = .ok ⟨15, 1⟩ := by decide +kernel
example : amountUnmarshalJSON ⟨7, 1⟩ "\"\\u0031\\u002E5\"".toList = .ok ⟨15, 1⟩ := by decide +kernel
example : amountUnmarshalJSON ⟨7, 1⟩ "1.5".toList = .ok ⟨15, 1⟩ := by decide +kernel
example : pctUnmarshalJSON ⟨⟨7, 1⟩⟩ "\"16\\u0025\"".toList = .ok ⟨⟨16, 2⟩⟩ := by decide +kernel
example : pctUnmarshalJSON ⟨⟨7, 1⟩⟩ "\"\"".toList = .error .empty := by decide +kernel
example : jsonDecodeString "\"\\ud83d\\ude00\"".toList = some ([0xF0, 0x9F, 0x98, 0x80].map Char.ofNat) := by decide +kernel
example : jsonDecodeString "\"\\ud83d\"".toList = some replacementBytes := by decide +kernel
example : jsonDecodeString ['"', Char.ofNat 0xFF, '"'] = some replacementBytes := by decide +kernel
example : jsonDecodeString "\"a\\n\\/\" \n".toList = some ['a', Char.ofNat 10, '/'] := by decide +kernel
example : ∀ c ∈ "-12.50%".toList, jsonPlain c = true := by decide +kernel
example : ["\"1", "\"1\\x\"", "\"1\"2\"", "\"\\u12g4\"", "\"1\t\"", "\"1\" x"].map (fun v => jsonDecodeString v.toList)
    = [none, none, none, none, none, none] := by decide +kernel

/-! ## expectations over facts regenerated from /repo on every run

The recognisers of Spec/C06 were written for exactly these two pattern strings,
published twice (Go `JSONSchema()` methods and data/schemas/num/*.json); the
model of the parser and printer relies on exactly these library calls.  If any
of them changes, an obligation here breaks and the check searches for a witness. -/
namespace Expect
open GoblVerif.Generated.Codec

theorem amount_pattern_go : amountPatternGo = "^\\-?[0-9]+(\\.[0-9]+)?$" := rfl
theorem amount_pattern_file : amountPatternFile = "^\\-?[0-9]+(\\.[0-9]+)?$" := rfl
theorem percentage_pattern_go : percentagePatternGo = "^\\-?[0-9]+(\\.[0-9]+)?%$" := rfl
theorem percentage_pattern_file : percentagePatternFile = "^\\-?[0-9]+(\\.[0-9]+)?%$" := rfl
theorem schema_types : [amountSchemaTypeGo, amountSchemaTypeFile, percentageSchemaTypeGo, percentageSchemaTypeFile]
    = ["string", "string", "string", "string"] := rfl
theorem max_decimals : GoblVerif.Generated.Codec.maxAmountExp = GoblVerif.Codec.maxAmountExp := rfl
theorem parser_library_calls : libcalls_AmountFromString =
    ["strings.HasPrefix(_,\"-\")", "strings.Split(_,\".\")", "strconv.ParseInt(_,10,64)",
     "strings.TrimPrefix(_,\"-\")", "strconv.ParseInt(_,10,64)"] := rfl
/-- the checks of the parser in source order: the major part's digits are checked
    without its sign, and each side of zero has its own range check -/
theorem parser_conditions : conds_AmountFromString =
    ["l > 2", "err != nil", "!isDigits(strings.TrimPrefix(x[0], \"-\"))", "l == 2", "err != nil",
     "!isDigits(x[1])", "e > maxAmountExp", "n", "v < (math.MinInt64+v2)/p", "v > (math.MaxInt64-v2)/p"] := rfl
/-- the printer decides the sign on the value itself, not on a negated copy -/
theorem printer_conditions : conds_Amount_String = ["a.exp == 0", "a.exp > 1000", "a.value < 0"] := rfl
/-- the two conversions between amounts and percentages only move the decimal point -/
theorem percentage_conversions_shift_the_point :
    calls_PercentageFromAmount = [] ∧ calls_Percentage_Amount = ["RescaleUp"] := ⟨rfl, rfl⟩
theorem printer_library_calls : libcalls_Amount_String =
    ["fmt.Sprintf(\"%d\",_)", "fmt.Sprintf(\"%s%d.%0*d\",_,_,_,_)"] := rfl
theorem minimal_library_calls : libcalls_Amount_MinimalString =
    ["strings.Contains(_,\".\")", "strings.TrimRight(_,\"0\")", "strings.TrimSuffix(_,\".\")"] := rfl
theorem percentage_parser_calls : calls_PercentageFromString = ["len", "AmountFromString", "PercentageFromAmount"] := rfl
theorem percentage_printer_calls : calls_Percentage_String = ["StringWithoutSymbol"] ∧
    calls_Percentage_StringWithoutSymbol = ["String", "Amount"] := ⟨rfl, rfl⟩
theorem json_text_shape : calls_jsonText = ["len", "Unmarshal", "string", "string"] ∧
    conds_jsonText = ["len(value) > 0 && value[0] == '\"'", "err := json.Unmarshal(value, &text); err != nil"] := ⟨rfl, rfl⟩
theorem unmarshal_json_calls : calls_Amount_UnmarshalJSON = ["jsonText", "AmountFromString"] ∧
    conds_Amount_UnmarshalJSON = ["err != nil || null", "err != nil"] ∧
    calls_Percentage_UnmarshalJSON = ["jsonText", "New", "PercentageFromString"] ∧
    conds_Percentage_UnmarshalJSON = ["err != nil || null", "text == \"\"", "err != nil"] :=
  ⟨rfl, rfl, rfl, rfl⟩

end Expect

/-! ## Src — the codec as it stands now, translated on this run

`Generated/CodecSrc.lean` is written by the go2lean translator
(harness/cmd/extract/go2lean*.go in string mode, configuration codecsrc.go,
extension go2lean_codec.go) from /repo/num/amount.go and percentage.go on
EVERY run of the check.  This namespace proves each regenerated definition
equal to the corresponding function of Model/Codec.lean — the parser, its
wrappers and the percentage reader for ALL arguments, the printers on every
int64 value with at most 18 decimals (where `int64` arithmetic, unbounded in
the translation, does not wrap) — and restates the headline theorems of C06
directly over the regenerated definitions.  The parser and the printer go through the
model on unbounded integers (`partsZ`, `toStringZ` of Proofs/Codec.lean): the regenerated
definition equals that form for every argument (`src_AmountFromString_Z`, `src_String_Z`),
and `amountFromString_eq_Z` / `amountToString_eq_Z` say where the 64-bit model equals it.  A change of the Go source changes
the regenerated definitions and breaks a theorem here.

Result shapes (Proofs/CodecSrc.lean): `toGo`, `toGoP` put an `Except Err _` of
the model into Go's `(value, error)` pair (zero value and the FORMAT text of
`fmt.Errorf` on an error), `toGoU cur` into the `(error, receiver afterwards)`
pair of the in-out translation of `Unmarshal*` (the receiver keeps `cur` on an
error), `jsonTextGo` the triple of `jsonText`.  A `[]byte` argument is
`GoStrings.toBytes value` for a text `value` (every byte list is of that form). -/

namespace Src
open GoblVerif.Generated GoblVerif.GoSem GoblVerif.GoStr GoblVerif.CodecTie

/-! ### the translation is complete; what it rests on -/

theorem all_translated : CodecSrc.untranslated = [] := rfl

theorem translated_functions : CodecSrc.translated =
    ["intPow", "isDigits", "AmountFromString", "Amount.String", "Amount.MinimalString", "Amount.MarshalText",
     "jsonText", "Amount.UnmarshalText", "Amount.UnmarshalJSON", "PercentageFromAmount", "PercentageFromString",
     "Amount.Rescale", "Amount.RescaleUp", "Percentage.Amount", "Percentage.StringWithoutSymbol",
     "Percentage.String", "Percentage.MarshalText", "Percentage.UnmarshalText", "Percentage.UnmarshalJSON"] := rfl

theorem struct_Amount_as_mapped :
    CodecSrc.struct_Amount = [("value", "int64"), ("exp", "uint32")] ∧
    CodecSrc.structLean_Amount = ("GoblVerif.Amount", ["value", "exp"]) ∧
    CodecSrc.structOmitted_Amount = [] := ⟨rfl, rfl, rfl⟩

theorem struct_Percentage_as_mapped :
    CodecSrc.struct_Percentage = [("amount", "Amount")] ∧
    CodecSrc.structLean_Percentage = ("GoblVerif.Pct", ["amount"]) ∧
    CodecSrc.structOmitted_Percentage = [] := ⟨rfl, rfl, rfl⟩

/-- every subtraction on `uint32` (truncated in the translation, wrapping in Go):
    three are guarded syntactically, the fourth by `pct_amount_subtraction_guarded` -/
theorem nat_subtractions_as_reviewed :
    CodecSrc.natSubs = [
      ("intPow", "exp--", ["exp != 0"]),
      ("Amount.Rescale", "a.exp - exp", ["a.exp > exp"]),
      ("Amount.Rescale", "exp - a.exp", ["a.exp < exp"]),
      ("Percentage.Amount", "a.exp - 2", [])] := rfl

/-- the two loops (`intPow`, the digit scan of `isDigits`) and their fuel twins -/
theorem fuel_checks_listed : CodecSrc.fuelChecks = ["intPow_fuelOK", "isDigits_fuelOK"] := rfl

/-- the four `Unmarshal*` methods write through their receiver: translated with the
    receiver as a value that is also returned -/
theorem in_out_params_as_reviewed :
    CodecSrc.inOutParams = [("Amount.UnmarshalText", "a"), ("Amount.UnmarshalJSON", "a"),
      ("Percentage.UnmarshalText", "p"), ("Percentage.UnmarshalJSON", "p")] := rfl

/-- `error` is the only opaque type (an `Option` of the message text); no maps, no nil-free slices -/
theorem opaque_types_as_reviewed :
    CodecSrc.namedTypes = [("error", "interface{Error() string}", "Option GoblVerif.GoStr.Str")] ∧
    CodecSrc.nonNilElems = [] ∧ CodecSrc.mapRanges = [] ∧ CodecSrc.mapWrites = [] ∧ CodecSrc.mapNilTests = [] :=
  ⟨rfl, rfl, rfl, rfl, rfl⟩

/-! ### each regenerated definition is the function of the model -/

theorem src_intPow (base : Int) (e : Nat) : CodecSrc.intPow base e = base ^ e := by
  unfold CodecSrc.intPow
  simp only [Id.run]
  rw [forIn_range_fuel _ (fun _ _ => rfl)]
  simp only [bind, pure]
  rw [forFuel_pow _ base (by intro k s; simp [Id.run])]
  simp

theorem intPow_fuel_suffices (base : Int) (e : Nat) : CodecSrc.intPow_fuelOK base e = true := by
  unfold CodecSrc.intPow_fuelOK
  simp only [Id.run]
  rw [forIn_range_fuel _ (fun _ _ => rfl)]
  simp only [bind, pure]
  rw [forFuel_pow _ base (by intro k s; simp [Id.run])]
  simp

/-- `isDigits` (the byte scan `for i := 0; i < len(s); i++`) is the model's `isDigits`, for every text -/
theorem src_isDigits (s : Text) : CodecSrc.isDigits s = Codec.isDigits s := by
  unfold CodecSrc.isDigits
  simp only [Id.run]
  by_cases h0 : (s.length : Int) = 0
  · obtain rfl := (len_eq_zero s).mp h0; rfl
  · simp only [h0, if_false]
    rw [forIn_range_fuel _ (fun _ _ => rfl)]
    simp only [bind, pure]
    rw [forFuel_congr _ (digitScanStep s false) (by intro b; simp only [digitScanStep, Id.run]), (forFuel_digitScan0 s false).1]
    have hne : s ≠ [] := mt (len_eq_zero s).mpr h0
    by_cases ha : s.all isDigitC = true <;> simp [ha, hne, ← Bool.not_eq_true, isDigits_iff]

theorem isDigits_fuel_suffices (s : Text) : CodecSrc.isDigits_fuelOK s = true := by
  unfold CodecSrc.isDigits_fuelOK
  simp only [Id.run]
  by_cases h0 : (s.length : Int) = 0
  · simp [h0, id_pure]
  · simp only [h0, if_false]
    rw [forIn_range_fuel _ (fun _ _ => rfl)]
    simp only [bind, pure]
    rw [forFuel_congr _ (digitScanStep s true) (by intro b; simp only [digitScanStep, Id.run])]
    obtain ⟨k1, k2⟩ := forFuel_digitScan0 s true
    by_cases ha : s.all isDigitC = true
    · simp only [ha, if_true] at k1
      rw [k1, k2 k1]
      simp
    · simp only [ha] at k1
      rw [k1]
      rfl

theorem src_AmountFromString_Z (val : Text) :
    CodecSrc.AmountFromString val = toGo (partsZ (hasPrefixMinus val) (splitOn '.' val)) := by
  unfold CodecSrc.AmountFromString partsZ
  simp only [Id.run, hasPrefix_minus, split_dot, parseInt_eq, trimPrefix_minus, src_isDigits, src_intPow]
  match hs : splitOn '.' val with
  | [] => exact absurd hs (splitOn_ne_nil '.' val)
  | [x0] =>
    simp only [apply_ite toGo, toGo_intPart]
    simp [toGo, errFormat, id_pure]
  | [x0, x1] =>
    simp only [apply_ite toGo, toGo_intPart]
    simp [toGo, errFormat, id_pure, maxAmountExp, minInt64, maxInt64]
    rfl  -- the same tests on both sides, decided by different instances
  | x0 :: x1 :: x2 :: r =>
    have : ((x0 :: x1 :: x2 :: r).length : Int) > 2 := by simp; omega
    have h2 : (x0 :: x1 :: x2 :: r).length > 2 := by simp
    simp only [this, if_true, h2, toGo, errFormat]
    rfl

/-- **`AmountFromString` is the model's `amountFromString` for EVERY text** — the value, the
    exponent, and on an error the zero amount with the format text of the error
    (`errFormat`).  The translation computes on unbounded integers, the model wraps at 64
    bits: the equality says that no product or sum of the parser can overflow (the range
    guard `v > (math.MaxInt64-v2)/p`, its mirror on the negative side, the 18-decimal cap
    and `ParseInt`'s own range error see to it). -/
theorem src_AmountFromString (val : Text) : CodecSrc.AmountFromString val = toGo (amountFromString val) := by
  rw [src_AmountFromString_Z, amountFromString_eq_Z]

theorem src_String_Z (a : Amount) : CodecSrc.Amount_String a = toStringZ a := by
  unfold CodecSrc.Amount_String toStringZ
  simp only [Id.run, itoa_eq, fmtPad0_eq, src_intPow]
  by_cases h0 : a.exp = 0
  · simp [h0, id_pure]
  by_cases h1 : a.exp > 1000
  · simp [h0, h1, id_pure]
  by_cases hneg : a.value < 0 <;> simp [h0, h1, hneg, id_pure]

/-- `Amount.String` is the model's `amountToString` on every int64 value with at most 18
    decimals (and beyond 1000, where both say "NA"); for 19 … 1000 decimals the Go code
    works with a wrapped `10^exp`, which the unbounded translation does not show. -/
theorem src_String (a : Amount) (he : a.exp ≤ 18 ∨ 1000 < a.exp)
    (hlo : minInt64 ≤ a.value) (hhi : a.value ≤ maxInt64) :
    CodecSrc.Amount_String a = amountToString a := by
  obtain ⟨h1, h2⟩ := (int64_iff a.value).mpr ⟨hlo, hhi⟩
  rw [src_String_Z, amountToString_eq_Z a he h1 h2]

theorem src_MinimalString (a : Amount) (he : a.exp ≤ 18 ∨ 1000 < a.exp)
    (hlo : -(2 : ℤ) ^ 63 ≤ a.value) (hhi : a.value < (2 : ℤ) ^ 63) :
    CodecSrc.Amount_MinimalString a = amountMinimalString a := by
  unfold CodecSrc.Amount_MinimalString amountMinimalString
  simp only [Id.run, src_String_Z, ← amountToString_eq_Z a he hlo hhi, contains_dot, trimRight_zeros, trimSuffix_dot]
  by_cases h : (amountToString a).contains '.' = true <;> simp [id_pure]

theorem src_MarshalText (a : Amount) (he : a.exp ≤ 18 ∨ 1000 < a.exp)
    (hlo : -(2 : ℤ) ^ 63 ≤ a.value) (hhi : a.value < (2 : ℤ) ^ 63) :
    CodecSrc.Amount_MarshalText a = (GoStrings.toBytes (amountToString a), none) := by
  unfold CodecSrc.Amount_MarshalText
  rw [src_String_Z, amountToString_eq_Z a he hlo hhi]

/-- `jsonText` (a value that starts with a quote goes through `json.Unmarshal`, anything
    else is taken as it is; only the literal `null` is null), for every byte string -/
theorem src_jsonText (value : Text) :
    CodecSrc.jsonText (GoStrings.toBytes value) = jsonTextGo (Codec.jsonText value) := by
  unfold CodecSrc.jsonText Codec.jsonText
  simp only [Id.run, ofBytes_toBytes, toBytes_length]
  cases value with
  | nil => simp [jsonTextGo, nullText, id_pure]
  | cons c r =>
    have i0 : (GoStrings.toBytes (c :: r))[Int.toNat 0]! = c.toNat := rfl
    simp only [i0, toNat_eq_34, List.head?_cons]
    by_cases hq : c = '"'
    · subst hq
      simp only [GoJson.unmarshalString, ofBytes_toBytes]
      cases hd : jsonDecodeString ('"' :: r) with
      | none => simp [jsonTextGo, id_pure]
      | some t => simp [jsonTextGo, id_pure]
    · have : (some c == some '"') = false := by simp [hq]
      simp [hq, this, jsonTextGo, id_pure, nullText, beq_eq_decide]

theorem src_UnmarshalText (cur : Amount) (value : Text) :
    CodecSrc.Amount_UnmarshalText cur (GoStrings.toBytes value) = toGoU cur (amountUnmarshalText cur value) := by
  unfold CodecSrc.Amount_UnmarshalText amountUnmarshalText
  simp only [Id.run, ofBytes_toBytes, src_AmountFromString]
  by_cases hn : value = nullText
  · subst hn; simp [toGoU, nullText, id_pure]
  · have : ¬ value = ['n', 'u', 'l', 'l'] := hn
    simp only [this, hn, if_false]
    generalize amountFromString value = x
    cases x <;> rfl

theorem src_UnmarshalJSON (cur : Amount) (value : Text) :
    CodecSrc.Amount_UnmarshalJSON cur (GoStrings.toBytes value) = toGoU cur (amountUnmarshalJSON cur value) := by
  unfold CodecSrc.Amount_UnmarshalJSON amountUnmarshalJSON
  simp only [Id.run, src_jsonText, src_AmountFromString]
  cases hj : Codec.jsonText value with
  | error e => 
    have he := jsonText_error value e hj
    subst he
    simp [jsonTextGo, toGoU, id_pure, errJson_eq]
  | ok p =>
    obtain ⟨t, null⟩ := p
    simp only [jsonTextGo]
    cases null
    · obtain ⟨x, hx⟩ : ∃ x, amountFromString t = x := ⟨_, rfl⟩
      simp only [hx]
      cases x <;> rfl
    · simp [toGoU, id_pure]

theorem src_PercentageFromAmount (a : Amount) : CodecSrc.PercentageFromAmount a = Pct.ofAmount a := rfl

/-- `PercentageFromString` is the model's `percentageFromString` for EVERY text -/
theorem src_PercentageFromString (str : Text) :
    CodecSrc.PercentageFromString str = toGoP (percentageFromString str) := by
  unfold CodecSrc.PercentageFromString
  simp only [Id.run, src_AmountFromString, src_PercentageFromAmount, take_last_eq]
  by_cases h0 : str = []
  · subst h0; simp [toGoP, percentageFromString, id_pure]
  have hl : ¬ ((str.length : Int) = 0) := mt (len_eq_zero str).mp h0
  simp only [hl, if_false, drop_last_eq str '%' h0, percentageFromString_eq str h0, pctBody, beq_iff_eq]
  by_cases hp : str.getLast? = some '%' <;> simp only [hp, if_true, if_false] <;>
    cases amountFromString _ <;> simp [toGo, toGoP, GoStr.errNew, id_pure]

theorem src_Rescale (a : Amount) (e : Nat) : CodecSrc.Amount_Rescale a e = a.rescale e := by
  unfold CodecSrc.Amount_Rescale Amount.rescale
  simp only [src_intPow]
  rfl

theorem src_RescaleUp (a : Amount) (e : Nat) : CodecSrc.Amount_RescaleUp a e = a.rescaleUp e := by
  unfold CodecSrc.Amount_RescaleUp Amount.rescaleUp
  simp only [src_Rescale]
  rfl

theorem src_Percentage_Amount (p : Pct) : CodecSrc.Percentage_Amount p = p.toAmount := by
  unfold CodecSrc.Percentage_Amount Pct.toAmount
  simp only [src_RescaleUp]
  rfl

/-- the subtraction `a.exp - 2` in `Percentage.Amount` never truncates: `RescaleUp(2)` came first -/
theorem pct_amount_subtraction_guarded (p : Pct) : 2 ≤ (CodecSrc.Amount_RescaleUp p.amount 2).exp := by
  rw [src_RescaleUp]; exact le_rescaleUp_exp _ 2

/-- `Percentage.StringWithoutSymbol` / `String` are the model's, wherever the percent figure
    `p.toAmount` is an int64 with at most 18 decimals -/
theorem src_StringWithoutSymbol (p : Pct) (he : p.toAmount.exp ≤ 18 ∨ 1000 < p.toAmount.exp)
    (hlo : -(2 : ℤ) ^ 63 ≤ p.toAmount.value) (hhi : p.toAmount.value < (2 : ℤ) ^ 63) :
    CodecSrc.Percentage_StringWithoutSymbol p = amountToString p.toAmount := by
  unfold CodecSrc.Percentage_StringWithoutSymbol
  rw [src_Percentage_Amount, src_String_Z, amountToString_eq_Z _ he hlo hhi]

theorem src_Percentage_String (p : Pct) (he : p.toAmount.exp ≤ 18 ∨ 1000 < p.toAmount.exp)
    (hlo : -(2 : ℤ) ^ 63 ≤ p.toAmount.value) (hhi : p.toAmount.value < (2 : ℤ) ^ 63) :
    CodecSrc.Percentage_String p = pctToString p := by
  unfold CodecSrc.Percentage_String pctToString
  rw [src_StringWithoutSymbol p he hlo hhi]

theorem src_Percentage_MarshalText (p : Pct) (he : p.toAmount.exp ≤ 18 ∨ 1000 < p.toAmount.exp)
    (hlo : minInt64 ≤ p.toAmount.value) (hhi : p.toAmount.value ≤ maxInt64) :
    CodecSrc.Percentage_MarshalText p = (GoStrings.toBytes (pctToString p), none) := by
  unfold CodecSrc.Percentage_MarshalText
  obtain ⟨h1, h2⟩ := (int64_iff p.toAmount.value).mpr ⟨hlo, hhi⟩
  rw [src_Percentage_String p he h1 h2]

theorem src_Percentage_UnmarshalText (cur : Pct) (value : Text) :
    CodecSrc.Percentage_UnmarshalText cur (GoStrings.toBytes value) = toGoU cur (pctUnmarshalText cur value) := by
  unfold CodecSrc.Percentage_UnmarshalText pctUnmarshalText
  simp only [Id.run, ofBytes_toBytes, src_PercentageFromString]
  by_cases hn : value = nullText
  · subst hn; simp [toGoU, nullText, id_pure]
  · have : ¬ value = ['n', 'u', 'l', 'l'] := hn
    simp only [this, hn, if_false]
    generalize percentageFromString value = x
    cases x <;> rfl

theorem src_Percentage_UnmarshalJSON (cur : Pct) (value : Text) :
    CodecSrc.Percentage_UnmarshalJSON cur (GoStrings.toBytes value) = toGoU cur (pctUnmarshalJSON cur value) := by
  unfold CodecSrc.Percentage_UnmarshalJSON pctUnmarshalJSON
  simp only [Id.run, src_jsonText, src_PercentageFromString]
  cases hj : Codec.jsonText value with
  | error e =>
    have he := jsonText_error value e hj
    subst he
    simp [jsonTextGo, toGoU, id_pure, errJson_eq]
  | ok p =>
    obtain ⟨t, null⟩ := p
    simp only [jsonTextGo]
    cases null
    · by_cases ht : t = []
      · subst ht; simp [toGoU, errFormat, id_pure]
      · have hte : t.isEmpty = false := by cases t <;> simp_all
        obtain ⟨x, hx⟩ : ∃ x, percentageFromString t = x := ⟨_, rfl⟩
        simp only [hx]
        cases x <;> simp [ht, hte, toGoP, toGoU, GoStr.errNew, id_pure]
    · simp [toGoU, id_pure]

/-! ### the headline theorems of C06, read off the regenerated code -/

/-- ROUND TRIP, over the translated `String` and `AmountFromString`: every int64 amount
    with at most 18 decimals (−2^63 included) is written and read back unchanged, without
    an error. -/
theorem roundtrip_of_the_source (a : Amount) (he : a.exp ≤ 18)
    (hlo : -(2 : ℤ) ^ 63 ≤ a.value) (hhi : a.value < (2 : ℤ) ^ 63) :
    CodecSrc.AmountFromString (CodecSrc.Amount_String a) = (a, none) := by
  rw [src_String_Z, ← amountToString_eq_Z a (.inl he) hlo hhi, src_AmountFromString, amount_roundtrip a he hlo hhi]
  rfl

example : CodecSrc.AmountFromString (CodecSrc.Amount_String ⟨-2 ^ 63, 18⟩) = (⟨-2 ^ 63, 18⟩, none) :=
  roundtrip_of_the_source _ (by decide) (by norm_num) (by norm_num)

/-- the same through `MarshalText` / `UnmarshalText`, whatever the receiver held before -/
theorem marshal_unmarshal_of_the_source (cur a : Amount) (he : a.exp ≤ 18)
    (hlo : -(2 : ℤ) ^ 63 ≤ a.value) (hhi : a.value < (2 : ℤ) ^ 63) :
    CodecSrc.Amount_UnmarshalText cur (CodecSrc.Amount_MarshalText a).1 = (none, a) := by
  rw [src_MarshalText a (.inl he) hlo hhi, src_UnmarshalText]
  unfold amountUnmarshalText
  have hne : amountToString a ≠ nullText := by
    intro e
    have := amount_text_matches a he hlo hhi
    rw [e] at this
    revert this; decide
  simp only [hne, if_false, amount_roundtrip a he hlo hhi]
  rfl

/-- the written text of the translated `String` is a member of the published pattern -/
theorem text_matches_of_the_source (a : Amount) (he : a.exp ≤ 18)
    (hlo : -(2 : ℤ) ^ 63 ≤ a.value) (hhi : a.value < (2 : ℤ) ^ 63) :
    isAmountText (CodecSrc.Amount_String a) = true := by
  rw [src_String_Z, ← amountToString_eq_Z a (.inl he) hlo hhi]
  exact amount_text_matches a he hlo hhi

/-- ACCEPTS ↔ PATTERN ∧ FITS, over the translated `AmountFromString`: the error is nil
    exactly on the members of `^\-?[0-9]+(\.[0-9]+)?$` whose signed digits are an int64
    with at most 18 decimals. -/
theorem accepts_iff_of_the_source (s : Text) :
    (CodecSrc.AmountFromString s).2 = none ↔ (isAmountText s = true ∧ fits64 s = true) := by
  rw [src_AmountFromString, toGo_snd_eq_none, amount_accepts_iff]

example : (CodecSrc.AmountFromString "-12.50".toList).2 = none ∧
    (CodecSrc.AmountFromString "9.223372036854775808".toList).2 ≠ none ∧
    (CodecSrc.AmountFromString "+5".toList).2 ≠ none := by
  refine ⟨(accepts_iff_of_the_source _).mpr (by decide +kernel), ?_, ?_⟩
  · intro h; exact absurd ((accepts_iff_of_the_source _).mp h) (by decide +kernel)
  · intro h; exact absurd ((accepts_iff_of_the_source _).mp h) (by decide +kernel)

/-- … and what it accepts it reads as the number the text denotes, at the written precision;
    what it rejects comes back as the zero amount -/
theorem reads_value_of_the_source (s : Text) :
    ((CodecSrc.AmountFromString s).2 = none →
      (CodecSrc.AmountFromString s).1.toRat = decimalValue s ∧ (CodecSrc.AmountFromString s).1.exp = decimals s) ∧
    ((CodecSrc.AmountFromString s).2 ≠ none → (CodecSrc.AmountFromString s).1 = ⟨0, 0⟩) := by
  rw [src_AmountFromString]
  cases h : amountFromString s with
  | ok a => simpa [toGo] using amount_reads_value s a h
  | error e => simp [toGo, GoStr.errNew]

/-- PERCENTAGES, over the translated `String` and `PercentageFromString`: writing and reading
    back gives a percentage of the same value (the identical one from two decimals on) -/
theorem percentage_roundtrip_of_the_source (p : Pct) (he : p.amount.exp ≤ 20)
    (hlo : -(2 : ℤ) ^ 63 ≤ p.amount.value * 10 ^ (2 - p.amount.exp))
    (hhi : p.amount.value * 10 ^ (2 - p.amount.exp) < (2 : ℤ) ^ 63) :
    (CodecSrc.PercentageFromString (CodecSrc.Percentage_String p)).2 = none ∧
    (CodecSrc.PercentageFromString (CodecSrc.Percentage_String p)).1.amount.toRat = p.amount.toRat ∧
    (2 ≤ p.amount.exp → (CodecSrc.PercentageFromString (CodecSrc.Percentage_String p)).1 = p) := by
  obtain ⟨q, hq, hv, hs⟩ := percentage_roundtrip_value p he hlo hhi
  obtain ⟨d1, d2, d3⟩ := toAmount_int64 p he hlo hhi
  rw [src_Percentage_String p (.inl d1) d2 d3, src_PercentageFromString, hq]
  exact ⟨rfl, hv, hs⟩

/-- what the translated `PercentageFromString` accepts, exactly -/
theorem percentage_accepts_iff_of_the_source (s : Text) :
    (CodecSrc.PercentageFromString s).2 = none ↔
      (s = [] ∨ (isAmountText (pctBody s) = true ∧ fits64 (pctBody s) = true)) := by
  rw [src_PercentageFromString, toGoP_snd_eq_none, percentage_accepts_iff]

/-- JSON, over the translated `UnmarshalJSON`: a JSON string is read exactly as
    `AmountFromString` reads its VALUE, whichever characters are spelled as `\u00XX` -/
theorem json_string_read_by_value_of_the_source (cur : Amount) (mask : List Bool) (s : Text)
    (hs : ∀ c ∈ s, jsonPlain c = true) :
    CodecSrc.Amount_UnmarshalJSON cur (GoStrings.toBytes (jsonSpelling mask s)) =
      ((CodecSrc.AmountFromString s).2, if (CodecSrc.AmountFromString s).2 = none then (CodecSrc.AmountFromString s).1 else cur) := by
  rw [src_UnmarshalJSON, json_string_read_by_value cur mask s hs, src_AmountFromString]
  cases h : amountFromString s with
  | ok a => simp [toGo, toGoU]
  | error e => simp [toGo, toGoU, GoStr.errNew]

/-- only the literal `null` leaves the receiver alone without an error; the STRING "null" is an error -/
theorem json_null_of_the_source (cur : Amount) :
    CodecSrc.Amount_UnmarshalJSON cur (GoStrings.toBytes "null".toList) = (none, cur) ∧
    (CodecSrc.Amount_UnmarshalJSON cur (GoStrings.toBytes "\"null\"".toList)).1 ≠ none := by
  rw [src_UnmarshalJSON, src_UnmarshalJSON]
  constructor
  · rfl
  · have : amountUnmarshalJSON cur "\"null\"".toList = .error .major := rfl
    rw [this]
    simp [toGoU, GoStr.errNew]

/-- MINIMAL STRING, over the translated `MinimalString` and `AmountFromString`: the text of every
    int64 amount with at most 18 decimals is a member of the pattern and is read back, without an
    error, as an amount of the same value -/
theorem minimal_string_of_the_source (a : Amount) (he : a.exp ≤ 18)
    (hlo : -(2 : ℤ) ^ 63 ≤ a.value) (hhi : a.value < (2 : ℤ) ^ 63) :
    isAmountText (CodecSrc.Amount_MinimalString a) = true ∧
    (CodecSrc.AmountFromString (CodecSrc.Amount_MinimalString a)).2 = none ∧
    (CodecSrc.AmountFromString (CodecSrc.Amount_MinimalString a)).1.toRat = a.toRat := by
  rw [src_MinimalString a (.inl he) hlo hhi, src_AmountFromString]
  obtain ⟨b, hb, hv⟩ := minimal_string_preserves_value a he hlo hhi
  rw [hb]
  exact ⟨minimal_string_matches a he hlo hhi, rfl, hv⟩

end Src

end GoblVerif.Props.C06
