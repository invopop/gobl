/-
  C04 — Calculation is a deterministic fixpoint and serialisation is lossless.

  PARTIAL by design (DESIGN.md section 6, C04): the ~35 regime/addon
  normalisers and scenario tables are not modelled; for whole documents the
  check is the byte-level differential run of the real code.  What the model
  carries is proved here:
    * presentation rounding is idempotent (a presented figure re-presents to
      itself) and determinism is trivial for a function;
    * every plain line whose fixed amounts are not finer than the figure it
      is presented with is a fixpoint of calculate ∘ present ∘ re-read
      (`line_fixpoint`, from `lineFix_of` of Proofs/CalcFix.lean; all
      quantities, prices, percentages, bases, charge rates and both rules),
      and so is a line priced by a breakdown (`line_fixpoint_breakdown`);
    * a whole document of such lines, rows and advances read back from its
      result calculates to that result again, any number of times
      (`document_fixpoint`, `document_fixpoint_iterates`, from
      `calculate_fixpoint_of` of Proofs/CalcSettled.lean);
    * the one non-fixpoint of the unchanged code that the model exhibits — a
      fixed line discount finer than the item price — as a kernel-checked
      counter-example (known finding `fixed-amount-finer-than-presented`);
    * the `customer-rates` tag (Model/CustomerRates.lean, parametric in the
      normalisers), for the code as it is: the customer's country reaches the
      tax combos inside `calculate`, AFTER the lines were normalised; one
      `Calculate` sends every combo through one fixed function (closed
      form); for regime PT with pt-saft-v1 the first calculation is NOT a
      fixpoint (kernel-checked counter-example backing the known finding
      `c04.customerRatesThenCountryNormaliser`), the second and every later
      one is, and untagged documents are fixpoints at once; the source order
      is pinned over Generated/CustomerRatesFacts.lean.  Clearly separated
      (`repair_*`): what a possible repair — customer rates applied while
      normalising — would give; that order is not adopted, because it also
      changes what es-verifactu-v1 does to documents that validate today.
-/
import GoblVerif.Spec.C04
import GoblVerif.Generated.CalcFacts
import GoblVerif.Proofs.CalcSettled
import GoblVerif.Generated.CustomerRatesFacts
import GoblVerif.Proofs.CustomerRates

namespace GoblVerif.Props.C04
open GoblVerif GoblVerif.Calc GoblVerif.Spec.C04

/-- rescaling to an exponent twice is rescaling once -/
theorem rescale_idem (a : Amount) (e : ℕ) : exactOps.rescale (exactOps.rescale a e) e = exactOps.rescale a e :=
  rescaleX_idem a e

/-- `RescaleDown` twice is once -/
theorem down_idem (a : Amount) (e : ℕ) : down exactOps (down exactOps a e) e = down exactOps a e :=
  down_self _ e (down_exp_le a e)

/-- presenting presented totals changes nothing -/
theorem presentation_idem (c : ℕ) (t : Totals) :
    roundTotals exactOps c (roundTotals exactOps c t) = roundTotals exactOps c t := by
  have ho : ∀ o : Option Amount, (o.map (·.rescaleX c)).map (·.rescaleX c) = o.map (·.rescaleX c) := by
    intro o; cases o <;> simp [rescaleX_idem]
  simp only [roundTotals, exact_rescale, rescaleX_idem, ho]

/-- raising precision is idempotent (item prices, bases and fixed amounts are only ever raised in place) -/
theorem up_idem (a : Amount) (e : ℕ) : up (up a e) e = up a e :=
  up_up a e

/-- the calculation is a function: equal inputs give equal outputs (repetition, process and
    map-iteration order cannot matter for the modelled part) -/
theorem calc_deterministic (d d' : Doc) (h : d = d') : calculate exactOps d = calculate exactOps d' := by rw [h]

/-- stored `sum` and `total` of a priced line are outputs only: the calculation does not read them -/
theorem stored_line_totals_ignored (cur : String) (c : ℕ) (rates : List XRate) (r : Rule) (l : Line) (it : Item)
    (hi : l.item = some it) :
    calcLine exactOps cur c rates r (reread l) = calcLine exactOps cur c rates r l := by
  cases l
  simp only at hi
  subst hi
  rfl

/-- For every plain line in the document currency whose fixed discount/charge amounts
have no more decimals than the line is presented with (percentages, bases, charge rates, any
quantity, price, rule): serialising the presented line and calculating it again gives the very same
presented line.  The excluded lines are exactly the known finding below. -/
theorem line_fixpoint (cur : String) (c : ℕ) (rates : List XRate) (r : Rule) (l l2 : Line) (it : Item)
    (p : Amount) (hb : l.breakdown = []) (hi : l.item = some it) (hp : it.price = some p)
    (hcur : (it.cur == "" || it.cur == cur) = true) (hsub : c ≤ it.sub)
    (hd : ∀ d ∈ l.discounts, DiscountStable (max p.exp it.sub) d)
    (hc : ∀ d ∈ l.charges, ChargeStable (max p.exp it.sub) d)
    (h1 : present cur c rates r l = .ok l2) :
    present cur c rates r (reread l2) = .ok l2 := by
  unfold present at h1 ⊢
  cases hcl : calcLine exactOps cur c rates r l with
  | error e => rw [hcl] at h1; cases h1
  | ok l1 =>
    rw [hcl] at h1
    cases h1
    have hfix := lineFix_of cur c rates r l
      (LineStable.fixable (.inl ⟨hb, by rw [hi]; exact ⟨p, hp, hcur, hsub, hd, hc⟩⟩)) l1 hcl
    obtain ⟨it', hit'⟩ : ∃ it', (roundLine exactOps l1).item = some it' := by
      rw [roundLine_item]
      obtain ⟨bd, -, ⟨-, rfl⟩ | ⟨_, _, -, -, rfl⟩⟩ := calcLine_out _ _ _ _ _ hcl hi <;> exact ⟨_, rfl⟩
    rw [stored_line_totals_ignored cur c rates r _ it' hit', hfix]
    rfl

/-- For every document of stable lines, document discounts/charges and advances (any number of them,
any quantities, prices, percentages, bases, tax combos, included-tax removal, both
rules, with or without payment details): if it calculates to `out`, then the document read back from
`out` (presented lines, discounts, charges, advances, due dates) calculates to exactly `out` again —
same lines, same tax summary, same totals.  "Stable" (`LineStable`, `DocAdjStable`, `AdvanceStable`) admits plain lines priced in the
document currency and lines priced by a breakdown of sub-lines; it excludes only fixed amounts with
more decimals than they are presented with (the known finding) and foreign-currency items, which the
byte-level differential run covers. -/
theorem document_fixpoint (d : Doc) (out : Out) (t : Totals) (hs : DocStable d)
    (h : calculate exactOps d = .ok out) (ht : out.totals = some t) :
    calculate exactOps (rereadDoc d out) = .ok out :=
  calculate_fixpoint_of d out t hs.inputStable h ht

/-- reading the same `out` back twice is reading it back once (`rereadDoc (rereadDoc x out) out = rereadDoc x out`),
so the fixpoint holds for any number of rounds -/
theorem document_fixpoint_iterates (d : Doc) (out : Out) (t : Totals) (hs : DocStable d)
    (h : calculate exactOps d = .ok out) (ht : out.totals = some t) (n : ℕ) :
    calculate exactOps ((fun x => rereadDoc x out)^[n] d) = .ok out := by
  induction n with
  | zero => exact h
  | succ n ih =>
    rw [Function.iterate_succ_apply']
    -- reading back the same `out` twice is reading it back once
    have hidem : ∀ x : Doc, rereadDoc (rereadDoc x out) out = rereadDoc x out := fun x => rfl
    cases n with
    | zero => exact document_fixpoint d out t hs h ht
    | succ m =>
      rw [Function.iterate_succ_apply', hidem]
      rw [Function.iterate_succ_apply'] at ih
      exact ih

/-- the same for a line priced by a breakdown — sub-lines in the document
currency with any discounts and charges of their own; the line's own fixed amounts at currency
precision -/
theorem line_fixpoint_breakdown (cur : String) (c : ℕ) (rates : List XRate) (r : Rule) (l l1 : Line) (it0 : Item)
    (hi : l.item = some it0) (hne : l.breakdown ≠ []) (hsl : ∀ sl ∈ l.breakdown, SubLineStable cur sl)
    (hd : ∀ d ∈ l.discounts, DiscountStable c d) (hc : ∀ d ∈ l.charges, ChargeStable c d)
    (h1 : calcLine exactOps cur c rates r l = .ok l1) :
    calcLine exactOps cur c rates r (roundLine exactOps l1) = .ok l1 :=
  lineFix_of cur c rates r l (LineStable.fixable (.inr ⟨hne, ⟨it0, hi⟩, hsl, hd, hc⟩)) l1 h1

/-- **counter-example (known finding)**: price 10.00, quantity 1, fixed line
discount 0.005: the first calculation presents total 10.00 and stores the
discount as 0.01; calculating the re-read line presents 9.99. -/
theorem fixed_amount_finer_than_price_is_not_a_fixpoint :
    let l : Line := { qty := ⟨1, 0⟩, item := some { price := some ⟨1000, 2⟩, cur := "", sub := 2, alts := [] },
                      discounts := [{ percent := none, base := none, amount := ⟨5, 3⟩, rate := none, quantity := none }],
                      charges := [], breakdown := [], taxes := [] }
    ((present "EUR" 2 [] .precise l).toOption.map (·.total) = some (some ⟨1000, 2⟩)) ∧
    ((present "EUR" 2 [] .precise l).toOption.bind
        (fun l1 => (present "EUR" 2 [] .precise (reread l1)).toOption.map (·.total)) = some (some ⟨999, 2⟩)) := by
  decide +kernel

/-- a line without fixed amounts finer than the price *is* a fixpoint (instance) -/
example :
    let l : Line := { qty := ⟨3, 0⟩, item := some { price := some ⟨10005, 3⟩, cur := "", sub := 2, alts := [] },
                      discounts := [{ percent := some ⟨⟨10, 2⟩⟩, base := none, amount := ⟨0, 0⟩, rate := none, quantity := none }],
                      charges := [{ percent := none, base := none, amount := ⟨100, 2⟩, rate := none, quantity := none }],
                      breakdown := [], taxes := [] }
    (present "EUR" 2 [] .precise l).toOption.bind (fun l1 => (present "EUR" 2 [] .precise (reread l1)).toOption)
      = (present "EUR" 2 [] .precise l).toOption := by decide +kernel

/-- non-vacuity of `document_fixpoint`: a document with two taxed lines (one with a percentage discount
and a fixed charge), a document discount with an explicit base, included VAT, an advance and a due
date; the examples show that it meets `DocStable` and what its first calculation gives -/
def stableDoc : Doc :=
  { cur := "EUR", c := 2, rule := .precise, includes := some "VAT",
    lines := [{ qty := ⟨3, 0⟩, item := some { price := some ⟨10005, 3⟩, cur := "", sub := 2, alts := [] },
                discounts := [{ percent := some ⟨⟨10, 2⟩⟩, base := none, amount := ⟨0, 0⟩, rate := none, quantity := none }],
                charges := [{ percent := none, base := none, amount := ⟨125, 2⟩, rate := none, quantity := none }],
                breakdown := [],
                taxes := [{ cat := "VAT", country := "", key := "standard", percent := some ⟨⟨21, 2⟩⟩,
                            surcharge := none, ext := "", retained := false }] },
              { qty := ⟨15, 1⟩, item := some { price := some ⟨799, 2⟩, cur := "", sub := 2, alts := [] },
                discounts := [], charges := [], breakdown := [],
                taxes := [{ cat := "VAT", country := "", key := "reduced", percent := some ⟨⟨10, 2⟩⟩,
                            surcharge := none, ext := "", retained := false }] }],
    discounts := [{ percent := some ⟨⟨5, 2⟩⟩, base := some ⟨2000, 2⟩, amount := ⟨0, 0⟩,
                    taxes := [{ cat := "VAT", country := "", key := "standard", percent := some ⟨⟨21, 2⟩⟩,
                                surcharge := none, ext := "", retained := false }] }],
    charges := [], rates := [], rounding := none, hasPayment := true,
    advances := [{ percent := none, amount := ⟨1000, 2⟩ }], dues := [{ percent := some ⟨⟨100, 2⟩⟩, amount := ⟨0, 0⟩ }] }

example : DocStable stableDoc := by
  simp [DocStable, stableDoc, LineStable, DiscountStable, ChargeStable, DocAdjStable, AdvanceStable]

example : ((calculate exactOps stableDoc).toOption.bind (·.totals)).map (fun t => (t.sum, t.payable, t.due)) =
    some (⟨4025, 2⟩, ⟨3925, 2⟩, some ⟨2925, 2⟩) := by decide +kernel

/-! ## pinned source shapes (regenerated facts; tools/pin_calc_expect.py) -/

namespace ExpectCalc
open GoblVerif.Generated.Calc

theorem calls_Line_round_as_modelled : calls_Line_round =
    ["Exp", "RescaleDown", "Exp", "RescaleDown", "round", "round", "round", "round"] := rfl
theorem conds_Line_round_as_modelled : conds_Line_round =
    ["l.Item == nil || l.Item.Price == nil", "l.Sum != nil", "l.Total != nil"] := rfl
theorem stmts_Line_round_as_modelled : stmts_Line_round =
    ["e := l.Item.Price.Exp()", "sum := l.Sum.RescaleDown(e)", "l.Sum = &sum", "e := l.Item.Price.Exp()", "total := l.Total.RescaleDown(e)", "l.Total = &total"] := rfl
theorem calls_SubLine_round_as_modelled : calls_SubLine_round =
    ["RescaleDown", "RescaleDown"] := rfl
theorem conds_SubLine_round_as_modelled : conds_SubLine_round =
    ["sl.Sum != nil", "sl.Total != nil"] := rfl
theorem stmts_SubLine_round_as_modelled : stmts_SubLine_round =
    ["sum := sl.Sum.RescaleDown(e)", "sl.Sum = &sum", "total := sl.Total.RescaleDown(e)", "sl.Total = &total"] := rfl
theorem calls_LineDiscount_round_as_modelled : calls_LineDiscount_round =
    ["RescaleDown"] := rfl
theorem conds_LineDiscount_round_as_modelled : conds_LineDiscount_round =
    [] := rfl
theorem stmts_LineDiscount_round_as_modelled : stmts_LineDiscount_round =
    ["d.Amount = d.Amount.RescaleDown(e)"] := rfl
theorem calls_LineCharge_round_as_modelled : calls_LineCharge_round =
    ["RescaleDown"] := rfl
theorem conds_LineCharge_round_as_modelled : conds_LineCharge_round =
    [] := rfl
theorem stmts_LineCharge_round_as_modelled : stmts_LineCharge_round =
    ["c.Amount = c.Amount.RescaleDown(e)"] := rfl
theorem calls_Discount_round_as_modelled : calls_Discount_round =
    ["Def", "Exp", "Exp", "RescaleDown"] := rfl
theorem conds_Discount_round_as_modelled : conds_Discount_round =
    ["m.Base != nil && m.Base.Exp() > e"] := rfl
theorem stmts_Discount_round_as_modelled : stmts_Discount_round =
    ["e := cur.Def().Subunits", "e = m.Base.Exp()", "m.Amount = m.Amount.RescaleDown(e)"] := rfl
theorem calls_Charge_round_as_modelled : calls_Charge_round =
    ["Def", "Exp", "Exp", "RescaleDown"] := rfl
theorem conds_Charge_round_as_modelled : conds_Charge_round =
    ["m.Base != nil && m.Base.Exp() > e"] := rfl
theorem stmts_Charge_round_as_modelled : stmts_Charge_round =
    ["e := cur.Def().Subunits", "e = m.Base.Exp()", "m.Amount = m.Amount.RescaleDown(e)"] := rfl
theorem calls_Totals_reset_as_modelled : calls_Totals_reset =
    [] := rfl
theorem conds_Totals_reset_as_modelled : conds_Totals_reset =
    [] := rfl
theorem stmts_Totals_reset_as_modelled : stmts_Totals_reset =
    ["t.Sum = zero", "t.Discount = nil", "t.Charge = nil", "t.TaxIncluded = nil", "t.Total = zero", "t.Taxes = nil", "t.Tax = zero", "t.TotalWithTax = zero", "t.Payable = zero", "t.Advances = nil", "t.Due = nil"] := rfl

end ExpectCalc

/-! ## the customer-rates tag (the code as it is) -/

/-- one `Calculate` of a billable document leaves the customer normalised
    and sends every tax combo of lines, discounts and charges through one function, `step`: normalisers on
    the combo as written, then the customer's country, then `Combo.calculate` — whatever the normalisers
    are -/
theorem customer_rates_closed_form (n : CustomerRates.Norms) (k : CustomerRates.Combo → CustomerRates.Combo)
    (d : CustomerRates.Doc) :
    CustomerRates.pass n k d =
      CustomerRates.mapCombos (CustomerRates.step n k (CustomerRates.effective n d)) (CustomerRates.normCustomer n d) := by
  rw [CustomerRates.pass, CustomerRates.normalize_eq, CustomerRates.calculate, CustomerRates.rates_step_eq]
  simp only [CustomerRates.mapCombos_tagged, CustomerRates.mapCombos_customer, CustomerRates.mapCombos_mapCombos]
  rfl

/-- if normalising a tax identity twice is normalising it once and a
    combo that went through `step` twice is not changed by a third time, then the second calculation of a
    document is a fixpoint: calculating three times is calculating twice -/
theorem customer_rates_later_calculations (n : CustomerRates.Norms) (k : CustomerRates.Combo → CustomerRates.Combo)
    (d : CustomerRates.Doc)
    (hp : ∀ c, n.party (n.party c) = n.party c)
    (hs : ∀ t, CustomerRates.step n k (CustomerRates.effective n d)
                 (CustomerRates.step n k (CustomerRates.effective n d) (CustomerRates.step n k (CustomerRates.effective n d) t))
             = CustomerRates.step n k (CustomerRates.effective n d) (CustomerRates.step n k (CustomerRates.effective n d) t)) :
    CustomerRates.pass n k (CustomerRates.pass n k (CustomerRates.pass n k d))
      = CustomerRates.pass n k (CustomerRates.pass n k d) :=
  CustomerRates.settles n (customer_rates_closed_form n k) hp d 2 1 hs

/-- for regime PT, with or without pt-saft-v1, every document — tagged or
    not, any customer country, any combos — is settled by its second calculation (countries and extensions) -/
theorem pt_later_calculations_fixpoint (saft : Bool) (d : CustomerRates.Doc) :
    CustomerRates.pass (CustomerRates.ptNorms saft) (CustomerRates.comboCalculate "PT")
        (CustomerRates.pass (CustomerRates.ptNorms saft) (CustomerRates.comboCalculate "PT")
          (CustomerRates.pass (CustomerRates.ptNorms saft) (CustomerRates.comboCalculate "PT") d))
      = CustomerRates.pass (CustomerRates.ptNorms saft) (CustomerRates.comboCalculate "PT")
          (CustomerRates.pass (CustomerRates.ptNorms saft) (CustomerRates.comboCalculate "PT") d) :=
  customer_rates_later_calculations _ _ d CustomerRates.partyCountry_idem (CustomerRates.pt_step_settles saft _)

/-- without the tag the first calculation already is a fixpoint (regime PT, with or
    without pt-saft-v1) -/
theorem pt_untagged_fixpoint (saft : Bool) (d : CustomerRates.Doc) (ht : d.tagged = false) :
    CustomerRates.pass (CustomerRates.ptNorms saft) (CustomerRates.comboCalculate "PT")
        (CustomerRates.pass (CustomerRates.ptNorms saft) (CustomerRates.comboCalculate "PT") d)
      = CustomerRates.pass (CustomerRates.ptNorms saft) (CustomerRates.comboCalculate "PT") d := by
  refine CustomerRates.settles _ (customer_rates_closed_form _ _) CustomerRates.partyCountry_idem d 1 0 ?_
  rw [CustomerRates.effective_untagged _ ht]
  exact CustomerRates.pt_step_none_idem saft

/-- the PT normalisers do not touch category, country and rate key of a combo -/
theorem pt_normalisers_change_extensions_only (saft : Bool) (t : CustomerRates.Combo) :
    ((CustomerRates.ptNorms saft).combo t).cat = t.cat ∧ ((CustomerRates.ptNorms saft).combo t).country = t.country
      ∧ ((CustomerRates.ptNorms saft).combo t).rate = t.rate := by
  rw [CustomerRates.ptNorms_combo_eq]
  exact ⟨rfl, rfl, rfl⟩

/-- the counter-example behind the known finding
    `c04.customerRatesThenCountryNormaliser` (`$tags` customer-rates, `$addons` pt-saft-v1, customer in NL, one
    standard-rate VAT combo).  The code applies the customer rates only inside `calculate`, after the
    normalisers: the first calculation stores `pt-saft-tax-rate` NOR and `pt-region` PT next to country NL,
    the next one rewrites both to OUT and NL — the calculated document is not a fixpoint -/
theorem current_order_not_a_fixpoint :
    let d : CustomerRates.Doc := ⟨true, some "NL", [[⟨"VAT", "", "standard", fun _ => ""⟩]], [], []⟩
    let once := CustomerRates.pass (CustomerRates.ptNorms true) (CustomerRates.comboCalculate "PT") d
    let twice := CustomerRates.pass (CustomerRates.ptNorms true) (CustomerRates.comboCalculate "PT") once
    once.lines.map (·.map fun t => (t.country, t.ext "pt-saft-tax-rate", t.ext "pt-region")) = [[("NL", "NOR", "PT")]]
    ∧ twice.lines.map (·.map fun t => (t.country, t.ext "pt-saft-tax-rate", t.ext "pt-region")) = [[("NL", "OUT", "NL")]]
    ∧ twice ≠ once := by
  intro d once twice
  have h1 : once.lines.map (·.map fun t => (t.country, t.ext "pt-saft-tax-rate", t.ext "pt-region")) =
      [[("NL", "NOR", "PT")]] := by decide +kernel
  have h2 : twice.lines.map (·.map fun t => (t.country, t.ext "pt-saft-tax-rate", t.ext "pt-region")) =
      [[("NL", "OUT", "NL")]] := by decide +kernel
  -- the two views differ, so the documents do
  exact ⟨h1, h2, fun h => absurd (h1.symm.trans (h ▸ h2)) (by decide)⟩

/-- the same without the addon: the PT regime's own `pt-region` is PT after the first calculation and NL
    after the second -/
theorem current_order_not_a_fixpoint_without_addon :
    let d : CustomerRates.Doc := ⟨true, some "NL", [[⟨"VAT", "", "standard", fun _ => ""⟩]], [], []⟩
    let once := CustomerRates.pass (CustomerRates.ptNorms false) (CustomerRates.comboCalculate "PT") d
    let twice := CustomerRates.pass (CustomerRates.ptNorms false) (CustomerRates.comboCalculate "PT") once
    once.lines.map (·.map fun t => (t.country, t.ext "pt-region")) = [[("NL", "PT")]]
    ∧ twice.lines.map (·.map fun t => (t.country, t.ext "pt-region")) = [[("NL", "NL")]] := by
  decide +kernel

/-- non-vacuity of `customer_rates_later_calculations` / `pt_later_calculations_fixpoint`: a tagged document
    with a Greek customer written as GR (normalised to EL), a line with two combos (one not VAT), a
    discount with a pre-set region and a charge with its own country: first and second calculation differ
    in the charge, the customer is EL after the first -/
example :
    let d : CustomerRates.Doc := ⟨true, some "GR",
      [[⟨"VAT", "", "reduced", fun _ => ""⟩, ⟨"IRS", "", "", fun _ => ""⟩]],
      [[⟨"VAT", "", "", fun x => if x = "pt-region" then "PT-AC" else ""⟩]],
      [[⟨"VAT", "ES", "standard", fun _ => ""⟩]]⟩
    let once := CustomerRates.pass (CustomerRates.ptNorms true) (CustomerRates.comboCalculate "PT") d
    let twice := CustomerRates.pass (CustomerRates.ptNorms true) (CustomerRates.comboCalculate "PT") once
    d.tagged = true ∧ once.customer = some "EL"
    ∧ once.charges.map (·.map fun t => (t.country, t.ext "pt-saft-tax-rate", t.ext "pt-region")) = [[("EL", "OUT", "ES")]]
    ∧ twice.charges.map (·.map fun t => (t.country, t.ext "pt-saft-tax-rate", t.ext "pt-region")) = [[("EL", "OUT", "GR")]] := by
  decide +kernel

namespace ExpectCustomerRates
open GoblVerif.Generated.CustomerRates

/-- `Invoice.Normalize`: the customer, then lines, discounts and charges; no customer rates -/
theorem invoice_rows_normalized_without_rates :
    CustomerRates.rowsNormalizedWithoutRates "inv" callexprs_Invoice_Normalize = true := by decide +kernel
/-- `Order.Normalize`: the same -/
theorem order_rows_normalized_without_rates :
    CustomerRates.rowsNormalizedWithoutRates "ord" callexprs_Order_Normalize = true := by decide +kernel
/-- `Delivery.Normalize`: the same -/
theorem delivery_rows_normalized_without_rates :
    CustomerRates.rowsNormalizedWithoutRates "dlv" callexprs_Delivery_Normalize = true := by decide +kernel

/-- the three `Calculate` methods normalise first and calculate afterwards -/
theorem normalize_before_calculate :
    CustomerRates.before "inv.Normalize(tax.ExtractNormalizers(inv))" "calculate(inv)" callexprs_Invoice_Calculate = true
    ∧ CustomerRates.before "ord.Normalize(ord.normalizers())" "calculate(ord)" callexprs_Order_Calculate = true
    ∧ CustomerRates.before "dlv.Normalize(dlv.normalizers())" "calculate(dlv)" callexprs_Delivery_Calculate = true := by
  decide +kernel

/-- `calculate` is where the customer rates are applied, under the tag, before the lines and the tax
    summary are calculated -/
theorem calculate_applies_customer_rates :
    "doc.HasTags(tax.TagCustomerRates)" ∈ GoblVerif.Generated.Calc.conds_calculate
    ∧ CustomerRates.before "applyCustomerRates" "calculateLines" GoblVerif.Generated.Calc.calls_calculate = true
    ∧ CustomerRates.before "applyCustomerRates" "Calculate" GoblVerif.Generated.Calc.calls_calculate = true := by
  decide +kernel

theorem callexprs_Invoice_Normalize_as_modelled : callexprs_Invoice_Normalize =
    ["cbc.NormalizeCode(inv.Series)", "cbc.NormalizeCode(inv.Code)", "normalizers.Each(inv)", "tax.Normalize(normalizers, inv.Tax)", "tax.Normalize(normalizers, inv.Supplier)", "tax.Normalize(normalizers, inv.Customer)", "tax.Normalize(normalizers, inv.Preceding)", "tax.Normalize(normalizers, inv.Lines)", "tax.Normalize(normalizers, inv.Discounts)", "tax.Normalize(normalizers, inv.Charges)", "tax.Normalize(normalizers, inv.Ordering)", "tax.Normalize(normalizers, inv.Payment)"] := rfl
theorem callexprs_Order_Normalize_as_modelled : callexprs_Order_Normalize =
    ["cbc.NormalizeCode(ord.Series)", "cbc.NormalizeCode(ord.Code)", "normalizers.Each(ord)", "tax.Normalize(normalizers, ord.Tax)", "tax.Normalize(normalizers, ord.Supplier)", "tax.Normalize(normalizers, ord.Customer)", "tax.Normalize(normalizers, ord.Buyer)", "tax.Normalize(normalizers, ord.Seller)", "tax.Normalize(normalizers, ord.Preceding)", "tax.Normalize(normalizers, ord.Lines)", "tax.Normalize(normalizers, ord.Discounts)", "tax.Normalize(normalizers, ord.Charges)", "tax.Normalize(normalizers, ord.Payment)", "tax.Normalize(normalizers, ord.Delivery)"] := rfl
theorem callexprs_Delivery_Normalize_as_modelled : callexprs_Delivery_Normalize =
    ["cbc.NormalizeCode(dlv.Series)", "cbc.NormalizeCode(dlv.Code)", "normalizers.Each(dlv)", "tax.Normalize(normalizers, dlv.Tax)", "tax.Normalize(normalizers, dlv.Supplier)", "tax.Normalize(normalizers, dlv.Customer)", "tax.Normalize(normalizers, dlv.Despatcher)", "tax.Normalize(normalizers, dlv.Receiver)", "tax.Normalize(normalizers, dlv.Preceding)", "tax.Normalize(normalizers, dlv.Lines)", "tax.Normalize(normalizers, dlv.Discounts)", "tax.Normalize(normalizers, dlv.Charges)"] := rfl
theorem callexprs_Invoice_Calculate_as_modelled : callexprs_Invoice_Calculate =
    ["inv.Regime.IsEmpty()", "inv.SetRegime(partyTaxCountry(inv.Supplier))", "partyTaxCountry(inv.Supplier)", "inv.Normalize(tax.ExtractNormalizers(inv))", "tax.ExtractNormalizers(inv)", "calculate(inv)", "inv.prepareScenarios()"] := rfl
theorem callexprs_Order_Calculate_as_modelled : callexprs_Order_Calculate =
    ["ord.Regime.IsEmpty()", "ord.SetRegime(partyTaxCountry(ord.Supplier))", "partyTaxCountry(ord.Supplier)", "ord.Normalize(ord.normalizers())", "ord.normalizers()", "calculate(ord)"] := rfl
theorem callexprs_Delivery_Calculate_as_modelled : callexprs_Delivery_Calculate =
    ["dlv.Regime.IsEmpty()", "dlv.SetRegime(partyTaxCountry(dlv.Supplier))", "partyTaxCountry(dlv.Supplier)", "dlv.Normalize(dlv.normalizers())", "dlv.normalizers()", "calculate(dlv)"] := rfl
theorem applyCustomerRates_as_modelled :
    callexprs_applyCustomerRates = ["doc.getCustomer()", "doc.getCustomer()", "doc.getCustomer()", "doc.getLines()", "addCountryToTaxes(l.Taxes, country)", "doc.getDiscounts()", "addCountryToTaxes(d.Taxes, country)", "doc.getCharges()", "addCountryToTaxes(c.Taxes, country)"]
    ∧ conds_applyCustomerRates = ["doc.getCustomer() == nil || doc.getCustomer().TaxID == nil"]
    ∧ stmts_applyCustomerRates = ["country := doc.getCustomer().TaxID.Country"] := ⟨rfl, rfl, rfl⟩
theorem addCountryToTaxes_as_modelled :
    callexprs_addCountryToTaxes = [] ∧ conds_addCountryToTaxes = [] ∧ stmts_addCountryToTaxes = ["t.Country = country"] :=
  ⟨rfl, rfl, rfl⟩

end ExpectCustomerRates

/-! ## a possible repair — statements about `passAlt`, NOT about the code

The alternative order — customer rates applied while normalising (after the customer, before lines,
discounts and charges) — would make the first calculation a fixpoint, but it also changes what
es-verifactu-v1 does to tagged documents that validate today.  What that order would give is stated here
for whoever takes the decision. -/

/-- (possible repair) one `Calculate` would send every combo through `stepAlt` -/
theorem repair_closed_form (n : CustomerRates.Norms) (k : CustomerRates.Combo → CustomerRates.Combo)
    (d : CustomerRates.Doc) :
    CustomerRates.passAlt n k d =
      CustomerRates.mapCombos (CustomerRates.stepAlt n k (CustomerRates.effective n d)) (CustomerRates.normCustomer n d) := by
  rw [CustomerRates.passAlt, CustomerRates.normalizeAlt_eq, CustomerRates.calculate,
    CustomerRates.rates_step_eq (CustomerRates.normCustomer n d), CustomerRates.rates_step_eq]
  simp only [CustomerRates.mapCombos_tagged, CustomerRates.mapCombos_customer, CustomerRates.mapCombos_mapCombos]
  rfl

/-- (possible repair) if normalising a tax identity twice is normalising it
    once and `stepAlt` settles a combo in one application, the first calculation would already be a fixpoint -/
theorem repair_would_be_a_fixpoint (n : CustomerRates.Norms) (k : CustomerRates.Combo → CustomerRates.Combo)
    (d : CustomerRates.Doc)
    (hp : ∀ c, n.party (n.party c) = n.party c)
    (hs : ∀ t, CustomerRates.stepAlt n k (CustomerRates.effective n d) (CustomerRates.stepAlt n k (CustomerRates.effective n d) t)
             = CustomerRates.stepAlt n k (CustomerRates.effective n d) t) :
    CustomerRates.passAlt n k (CustomerRates.passAlt n k d) = CustomerRates.passAlt n k d :=
  CustomerRates.settles n (repair_closed_form n k) hp d 1 0 hs

/-- (possible repair) for regime PT, with or without pt-saft-v1, every document would be a fixpoint after
    one calculation -/
theorem repair_would_be_a_fixpoint_pt (saft : Bool) (d : CustomerRates.Doc) :
    CustomerRates.passAlt (CustomerRates.ptNorms saft) (CustomerRates.comboCalculate "PT")
        (CustomerRates.passAlt (CustomerRates.ptNorms saft) (CustomerRates.comboCalculate "PT") d)
      = CustomerRates.passAlt (CustomerRates.ptNorms saft) (CustomerRates.comboCalculate "PT") d :=
  repair_would_be_a_fixpoint _ _ d CustomerRates.partyCountry_idem (CustomerRates.pt_stepAlt_idem saft _)

/-- (possible repair, related to the code) what the repaired order would
    give for a tagged document is what the code gives TODAY for the document in which the customer's
    (normalised) country was written on every combo by hand -/
theorem repair_is_todays_explicit_country (n : CustomerRates.Norms) (k : CustomerRates.Combo → CustomerRates.Combo)
    (d : CustomerRates.Doc) (c : String) (ht : d.tagged = true) (hc : d.customer = some c) :
    CustomerRates.passAlt n k d = CustomerRates.pass n k (CustomerRates.mapCombos (CustomerRates.setCountry (n.party c)) d) := by
  rw [repair_closed_form n k d, customer_rates_closed_form n k]
  rw [CustomerRates.effective_mapCombos, CustomerRates.normCustomer_mapCombos, CustomerRates.mapCombos_mapCombos]
  apply CustomerRates.mapCombos_congr
  intro t
  rw [CustomerRates.effective_tagged n ht hc]
  rfl

end GoblVerif.Props.C04
