/-
  C02 — The tax summary partitions taxable amounts and sums them correctly.

  Statements about the tax part of `Calc.calculate exactOps`
  (`baseRateTotals`, `catAmounts`, `finalSum`; Model/Calc.lean mirrors
  tax/totals_calculator.go and tax/totals.go).  Helper lemmas:
  Proofs/CalcTax.lean (amounts, tax sum), Proofs/CalcGroups.lean (keys, sums of
  bases, the invariant of the accumulation).

  The currency-rule forms of the sums are in Props/C03.  The statement for the
  whole `calculate` — the executable oracle `Spec.C02.summaryOk` holds of every
  calculated document — is `tax_summary_spec` (glue through `taxTotal`,
  `roundTax` and `finish`: Proofs/CalcSummary.lean).
-/
import GoblVerif.Spec.C02
import GoblVerif.Generated.CalcFacts
import GoblVerif.Proofs.CalcTax
import GoblVerif.Proofs.CalcGroups
import GoblVerif.Proofs.CalcSummary
import GoblVerif.Proofs.CalcExample
import GoblVerif.Generated.TaxTotalsSrc
import GoblVerif.Proofs.TaxTotalsSrc
import GoblVerif.Proofs.TaxTotalsCalc

namespace GoblVerif.Props.C02
open GoblVerif GoblVerif.Calc GoblVerif.Spec.C02

/-- **partition** (any number of rows, categories and groups): for every
category, the bases of its rate groups add up to exactly what its rows
contribute — the row's tax-exclusive total under `precise`, that total rounded
to the currency under `currency` — each (row, combo) pair being counted once. -/
theorem partition (r : Rule) (c : ℕ) (k : String) (rows : List Row) :
    catBase k (baseRateTotals exactOps r c rows) = (rows.map (rowContrib r c k)).sum := by
  rw [catBase_eq_sel, baseRateTotals_sel]
  simp only [and_true, Bool.decide_eq_true]; rfl

/-- under `precise` the contribution is the exact tax-exclusive total -/
theorem partition_precise (c : ℕ) (k : String) (rows : List Row) :
    catBase k (baseRateTotals exactOps .precise c rows) = (rowsOf k rows).sum := by
  rw [partition]
  induction rows with
  | nil => simp [rowsOf]
  | cons rw rows ih =>
    have : rowsOf k (rw :: rows) = (rw.taxes.filter (·.cat == k)).map (fun _ => rw.total.toRat) ++ rowsOf k rows := by
      simp [rowsOf, List.flatMap_cons]
    rw [this, List.sum_append, ← ih]
    simp [rowContrib, contrib]

/-- **groups_pairwise_distinct**: within a category no two groups share a key
(country, extensions, percentage, surcharge percentage | exempt): every row
combo found the one group it matches. -/
theorem groups_pairwise_distinct (r : Rule) (c : ℕ) (rows : List Row) :
    ∀ ct ∈ baseRateTotals exactOps r c rows, Distinct ct.rates := by
  intro ct hct
  refine (List.pairwise_map.mp ((baseRateTotals_summaryInv r c rows).each ct hct).keys).imp ?_
  intro a b hab
  rw [rtMatches_false_iff, comboKey_keyCombo]
  exact hab

/-- **group_amount**: a group's amount is its percentage of its base, rounded
half away from zero once at the base's precision; exempt groups have none. -/
theorem group_amount (rt : RateTotal) (c : ℕ) :
    (∀ p, rt.percent = some p →
      (rateAmounts exactOps rt c).amount.exp = rt.base.exp ∧
      (rateAmounts exactOps rt c).amount.value = Spec.roundTo rt.base.exp (rt.base.toRat * p.amount.toRat)) ∧
    (rt.percent = none → (rateAmounts exactOps rt c).amount = ⟨0, c⟩) :=
  rateAmounts_amount rt c

/-- the same for the surcharge of a group that has one -/
theorem surcharge_amount (rt : RateTotal) (c : ℕ) (p sp : Pct) (sa : Amount)
    (hp : rt.percent = some p) (hs : rt.surcharge = some (sp, sa)) :
    ∃ sa', (rateAmounts exactOps rt c).surcharge = some (sp, sa') ∧ sa'.exp = rt.base.exp ∧
      sa'.value = Spec.roundTo rt.base.exp (rt.base.toRat * sp.amount.toRat) := by
  refine ⟨pctOf exactOps sp rt.base, ?_, rfl, mulX_spec rt.base sp.amount⟩
  simp [rateAmounts, hp, hs]

/-- **category_sum**: a category's amount is the sum of its groups' amounts
(under `currency`: of the amounts rounded to the currency). -/
theorem category_sum (r : Rule) (c : ℕ) (ct : CatTotal) :
    (catAmounts exactOps r c ct).amount.toRat =
      (((catAmounts exactOps r c ct).rates).map (taxedAmount r c)).sum :=
  catAmounts_amount r c ct

/-- **tax_sum** (stated for every rule but `currency`; `finalSum_toRat_any` holds for that one too): for the
categories the pipeline builds from any
rows, the tax total is exactly the sum of the ordinary categories' amounts and
surcharges minus the retained ones — no rounding happens in this sum. -/
theorem tax_sum (r : Rule) (hr : r ≠ .currency) (c : ℕ) (rows : List Row) :
    let cats := (baseRateTotals exactOps r c rows).map (catAmounts exactOps r c)
    (finalSum exactOps r c cats).toRat = (cats.map catSignedQ).sum := by
  exact (finalSum_toRat_any r c _).1

/-- **included_only_total_with_tax**: when prices include a tax and the tax
total of the document is exactly the amount of that included category (no
other category, no surcharge on it — every other tax would be added on top),
taking the included tax out of the total and adding the tax total back cancels
exactly, whatever the precisions involved: the total with tax is the gross
sum − discounts + charges of the rows. -/
theorem included_only_total_with_tax (d : Doc) (p : Pre) (tx : TaxTotal) (ti : Amount)
    (hti : taxIncluded d.includes tx = some ti) (heq : ti.toRat = tx.precise.toRat) :
    (rawTotals exactOps d p tx).totalWithTax = p.total2 := by
  rw [rawTotals_totalWithTax_included hti, add_sub_cancel_toRat _ _ _ heq]

/-- the tax total of a summary with a single ordinary category without
surcharge is that category's amount -/
theorem single_category_sum (r : Rule) (c : ℕ) (ct : CatTotal) (hr : ct.retained = false)
    (hs : ct.surcharge = none) (hc : r ≠ .currency) :
    (finalSum exactOps r c [ct]).toRat = ct.amount.toRat := by
  rw [(finalSum_toRat_of r c [ct] (by simp [hs]) fun h => absurd h hc).1]
  simp [catSignedQ, hr, hs]

/-- **included tax is taken out with its own percentage**: a row carrying the included category at
`p` % (also −100 %, where the exact layer answers 0: `hne` is not needed, `remove_rnd`) leaves the removal with `total / (1 + p)` rounded half away from zero once at the
row's working precision; the other rows and the row's combos are untouched, a retained included
category is refused. -/
theorem included_tax_removed_with_own_percentage (k : String) (rw : Row) (cb : Combo) (p : Pct)
    (hfind : rw.taxes.find? (fun cb => cb.cat == k) = some cb) (hret : cb.retained = false)
    (hp : cb.percent = some p) (hne : (factor p).value ≠ 0) :
    ∃ rw', removeIncludedRow exactOps k rw = .ok rw' ∧ rw'.taxes = rw.taxes ∧ rw'.total.exp = rw.total.exp ∧
      rw'.total.value = Spec.roundTo rw.total.exp (rw.total.toRat / (1 + p.amount.toRat)) := by
  refine ⟨{ rw with total := remove exactOps rw.total p }, ?_, rfl, ?_, ?_⟩
  · simp [removeIncludedRow, hfind, hret, hp]
  all_goals rw [remove_rnd]; rfl

/-- rows without the included category, and exempt combos of it, pass through unchanged -/
theorem included_removal_leaves_other_rows (k : String) (rw : Row)
    (h : rw.taxes.find? (fun cb => cb.cat == k) = none) :
    removeIncludedRow exactOps k rw = .ok rw := by
  simp [removeIncludedRow, h]

/-- **matching is equality of keys**: `RateTotal.matches` holds exactly when the group and the combo
have the same extensions, country and — unless both are exempt — percentage and surcharge percentage
by value.  An exempt combo never matches a 0 % group, a surcharged rate never an unsurcharged one. -/
theorem matches_iff_same_key (rt : RateTotal) (cb : Combo) :
    rtMatches rt cb = true ↔ rtKey rt = comboKey cb := rtMatches_iff rt cb

/-- **partition_by_key** (any rows, any rule): the base of the group with key `k` in category `cat`
is exactly the sum of the contributions of the combos with that category and that key — every combo
of every row is counted in the one group with its key and in no other. -/
theorem partition_by_key (r : Rule) (c : ℕ) (cat : String) (k : Key) (rows : List Row) :
    catGroupBase cat k (baseRateTotals exactOps r c rows) = (rows.map (rowGroupContrib r c cat k)).sum :=
  baseRateTotals_group r c cat k rows

/-- a combo contributes nothing to a group with another key or another category -/
theorem other_groups_untouched (r : Rule) (c : ℕ) (cb : Combo) (t : Amount) (cat : String) (k : Key)
    (cats : List CatTotal) (hok : CatsOk r c cats) (h : ¬ (cb.cat == cat ∧ comboKey cb = k)) :
    catGroupBase cat k (addToCats exactOps r c cb t cats) = catGroupBase cat k cats := by
  rw [addToCats_group r c cb t cat k cats hok, if_neg h, add_zero]

/-- non-vacuity of the key: an exempt combo and a 0 % combo have different keys; `20%` and `20.0%`
the same -/
example : comboKey { cat := "VAT", country := "", key := "", percent := none, surcharge := none, ext := "", retained := false }
    ≠ comboKey { cat := "VAT", country := "", key := "", percent := some ⟨⟨0, 2⟩⟩, surcharge := none, ext := "", retained := false } := by
  simp [comboKey]

example : comboKey { cat := "VAT", country := "", key := "", percent := some ⟨⟨20, 2⟩⟩, surcharge := none, ext := "", retained := false }
    = comboKey { cat := "VAT", country := "", key := "", percent := some ⟨⟨200, 3⟩⟩, surcharge := none, ext := "", retained := false } := by
  simp [comboKey, Amount.toRat, pow10]
  norm_num

/-- non-vacuity: two rows at 21 %, one at 10 %, one exempt -/
example :
    (baseRateTotals exactOps .precise 2
      [ { total := ⟨10000, 4⟩, taxes := [{ cat := "VAT", country := "", key := "", percent := some ⟨⟨21, 2⟩⟩, surcharge := none, ext := "", retained := false }] },
        { total := ⟨5000, 4⟩, taxes := [{ cat := "VAT", country := "", key := "", percent := some ⟨⟨210, 3⟩⟩, surcharge := none, ext := "", retained := false }] },
        { total := ⟨700, 4⟩, taxes := [{ cat := "VAT", country := "", key := "", percent := some ⟨⟨10, 2⟩⟩, surcharge := none, ext := "", retained := false }] },
        { total := ⟨300, 4⟩, taxes := [{ cat := "VAT", country := "", key := "", percent := none, surcharge := none, ext := "", retained := false }] } ]).map
      (fun ct => ct.rates.map (·.base)) = [[⟨15000, 4⟩, ⟨700, 4⟩, ⟨300, 4⟩]] := by decide

/-- **the rate key takes no part in grouping**: whatever rate keys the group and the combo carry,
`RateTotal.matches` answers the same — groups are distinguished by extensions, country, percentage and
surcharge (`matches_iff_same_key`), never by the key the percentage was asked for with. -/
theorem matches_ignores_rate_key (rt : RateTotal) (cb : Combo) (k k' : String) :
    rtMatches { rt with key := k } { cb with key := k' } = rtMatches rt cb := rfl

/-- hence a group and a combo with different percentages never match, whatever their rate keys — in
particular under the SAME rate key (a key whose percentage the issuer supplies; satisfiable: the
`example` below) … -/
theorem same_rate_key_other_percentage_no_match (rt : RateTotal) (cb : Combo) (p q : Pct)
    (hp : rt.percent = some p) (hq : cb.percent = some q)
    (hne : p.amount.toRat ≠ q.amount.toRat) : rtMatches rt cb = false := by
  refine (rtMatches_false_iff rt cb).mpr fun hk => ?_
  simp only [rtKey, comboKey, hp, hq, Option.map_some, Prod.mk.injEq, Option.some.injEq] at hk
  exact hne hk.2.2.1

/-- … while different rate keys with one percentage do (same extensions and country). -/
theorem other_rate_key_same_percentage_match (rt : RateTotal) (cb : Combo)
    (h : rtKey rt = comboKey cb) : rtMatches rt cb = true := (rtMatches_iff rt cb).2 h

/-- non-vacuity: rate key `other` at 5 % and at 12 % on two rows, `other` at 12.0 % on a third and a
key-less 5 % on a fourth: two groups, 5 % and 12 %, each with two rows -/
example :
    (baseRateTotals exactOps .precise 2
      [ { total := ⟨10000, 4⟩, taxes := [{ cat := "VAT", country := "", key := "other", percent := some ⟨⟨5, 2⟩⟩, surcharge := none, ext := "", retained := false }] },
        { total := ⟨5000, 4⟩, taxes := [{ cat := "VAT", country := "", key := "other", percent := some ⟨⟨12, 2⟩⟩, surcharge := none, ext := "", retained := false }] },
        { total := ⟨700, 4⟩, taxes := [{ cat := "VAT", country := "", key := "other", percent := some ⟨⟨120, 3⟩⟩, surcharge := none, ext := "", retained := false }] },
        { total := ⟨300, 4⟩, taxes := [{ cat := "VAT", country := "", key := "", percent := some ⟨⟨5, 2⟩⟩, surcharge := none, ext := "", retained := false }] } ]).map
      (fun ct => ct.rates.map (·.base)) = [[⟨10300, 4⟩, ⟨5700, 4⟩]] := by decide

example : ∃ (rt : RateTotal) (cb : Combo) (p q : Pct), rt.key = cb.key ∧ rt.key ≠ "" ∧ rt.percent = some p ∧
    cb.percent = some q ∧ p.amount.toRat ≠ q.amount.toRat :=
  ⟨{ key := "other", country := "", ext := "", base := ⟨0, 2⟩, percent := some ⟨⟨5, 2⟩⟩, surcharge := none, amount := ⟨0, 2⟩ },
   { cat := "VAT", country := "", key := "other", percent := some ⟨⟨12, 2⟩⟩, surcharge := none, ext := "", retained := false },
   ⟨⟨5, 2⟩⟩, ⟨⟨12, 2⟩⟩, rfl, by decide, rfl, rfl, by simp [Amount.toRat, pow10]⟩

/-- **tax_summary_spec** (capstone): for EVERY document the model calculates, under
either rounding rule, the executable oracle `Spec.C02.summaryOk` — the whole
statement of C02, and the function that judges the output of the real
`Invoice.Calculate` in harness/props/c02 — holds of the input document and what
`Calc.calculate` returns.  In exact rationals, over the contributions of the
(row, combo) pairs (the row's working total with the included tax taken out
with the row's own percentage, `included_tax_removed_with_own_percentage`;
rounded to the currency under the currency rule):

* categories have pairwise distinct codes, the groups of a category pairwise
  distinct keys (`groups_pairwise_distinct`, `matches_iff_same_key`), and every
  contribution finds its category and the group with its key: each taxed row
  total lands in exactly one rate group of its category;
* every presented base is the sum of the contributions with that category and
  key (the per-group form of `partition_by_key`; hence also Σ of the group
  bases of a category = Σ of all contributions to it, `partition`), rounded to
  the currency;
* every group amount and surcharge is the percentage of that sum rounded half
  away from zero once at the group's working precision (`group_amount`,
  `surcharge_amount`), presented rounded to the currency;
* category amount = Σ group amounts, category surcharge = Σ group surcharges
  (`category_sum`), presented exactly when a group carries one;
* tax sum = Σ ordinary − Σ retained categories including surcharges (`tax_sum`,
  and its currency-rule form), and it is the document's `tax`;
* `tax_included` is the presented amount of the included category, and when that
  category is the only one, ordinary and without surcharge, total with tax is
  the gross total of the rows (`included_only_total_with_tax`).

No hypothesis besides `h`: a document the calculation refuses (no exchange rate,
a retained category included in prices) has no output.  The glue through
`taxTotal` / `roundTax` / `finish` is Proofs/CalcSummary.lean. -/
theorem tax_summary_spec (d : Doc) (out : Out) (h : calculate exactOps d = .ok out) :
    summaryOk d out = true := by
  obtain ⟨p, hp, -⟩ := calculate_ok h
  simp only [summaryOk, hp]
  exact summaryRowsOk_calculate d out p hp h

/-- non-vacuity of `tax_summary_spec`: `Calc.readdExample` (tax-included prices, two
VAT 21 % groups that differ in the surcharge, VAT 10 % fed by a line and a
document discount, a retained category) is calculated under both rules … -/
example : ((calculate exactOps readdExample).toOption.isSome &&
    (calculate exactOps { readdExample with rule := .precise }).toOption.isSome) = true := by decide

/-- … the oracle evaluates to true on both outputs (as the theorem says) … -/
example : ((calculate exactOps readdExample).toOption.map (summaryOk readdExample),
    (calculate exactOps { readdExample with rule := .precise }).toOption.map
      (summaryOk { readdExample with rule := .precise })) = (some true, some true) := by decide +kernel

/-- … and it is not trivially true: under the precise rule the summary of the
currency-rule calculation is refused, and so is a tax sum that is off by one unit -/
example : ((calculate exactOps readdExample).toOption.map (summaryOk { readdExample with rule := .precise }),
    (calculate exactOps readdExample).toOption.map (fun o => summaryOk readdExample
      { o with totals := o.totals.map (fun t => { t with tax := ⟨t.tax.value + 1, 2⟩ }) })) =
    (some false, some false) := by decide +kernel

/-! ## the model and the source (`namespace Src`)

`Generated/TaxTotalsSrc.lean` is the translation (go2lean) of /repo/tax/totals.go.  Its structs are mapped onto the records of Model/Merge.lean
and `TaxTotals.Combo`; `toCalcRT` / `toCalcCat` / `toCalcCombo`
(Proofs/TaxTotalsSrc.lean) carry them to the records of Model/Calc.lean, whose
extension field is the canonical TEXT of the map (`enc`, any injective
encoding).  The `num` calls are the fields of `TaxTotals.NumOps`, read here with
`calcOps o` — the operations of Model/Calc.lean over ANY rounding primitives `o`
(`exactOps` in the theorems above, `floatOps` in the driver).

Proved for all arguments: `matches` (the rate-group key), `newRateTotal`,
`newCategoryTotal`, `matchRoundingPrecision`, `PreciseAmount`, `PreciseSum`,
`Category`, and — through the loop principles of Proofs/GoSemList.lean, GoSemCursor.lean and the
bridge Proofs/TaxTotalsCalc.lean — `rateTotalFor` (with the base accumulation on
the row it returns = `addToCats`), `calculateBaseCategoryTotal` (= `catAmounts`),
`calculateFinalSum` (= `finalSum` over the categories with their amounts),
`round` (= `roundTax`), for summaries of any shape and ANY rounding primitives.
`src_partition_by_key` restates the headline theorem over the regenerated
`rateTotalFor`.  `(*TotalCalculator).calculateBaseRateTotals` itself is
translated too (go2lean_ownret.go: the pointer `rateTotalFor` returns is a cursor
whose index path the twin `Total_rateTotalFor_at` reports) and proved equal to
`srcBaseRateTotals`, hence to `baseRateTotals` (`src_calculateBaseRateTotals`);
`src_partition_by_key_regenerated` is the headline over it.  Not translated (they
stay on their shape pins in `ExpectCalc`): `TotalCalculator.Calculate`,
`prepareLines`, `removeIncludedTaxes`, `mapTaxLines`, `Total.Calculate`.  The functions
proved here are pinned in `ExpectCalc` as well. -/
namespace Src
open GoblVerif.Generated GoblVerif.TaxTotals GoblVerif.Proofs.TaxTotalsSrc GoblVerif.GoSem

private def sampleEnc (e : List (String × String)) : String := String.join (e.map fun p => p.1 ++ "=" ++ p.2 ++ ";")
private def sampleRT : Merge.RateTotal :=
  { key := "k", country := "", ext := [("a", "1")], base := ⟨0, 2⟩, percent := some ⟨⟨210, 3⟩⟩,
    surcharge := some ⟨⟨⟨52, 3⟩⟩, ⟨0, 2⟩⟩, amount := ⟨0, 2⟩ }
private def sampleCB : TaxTotals.Combo :=
  { category := "VAT", country := "", rate := "other", percent := some ⟨⟨21, 2⟩⟩, surcharge := some ⟨⟨520, 4⟩⟩,
    ext := [("a", "1")], retained := false }

theorem all_translated : TaxTotalsSrc.untranslated = [] := rfl

/-- the reading of the primitives this file uses is the one Model/Calc.lean is written with -/
theorem calc_reading (o : Ops) (a b : Amount) (p q : Pct) (e : ℕ) :
    @NumOps.add (calcOps o) a b = add o a b ∧ @NumOps.sub (calcOps o) a b = sub o a b ∧
    @NumOps.rescale (calcOps o) a e = o.rescale a e ∧ @NumOps.matchPrecision (calcOps o) a b = up a b.exp ∧
    @NumOps.pctOf (calcOps o) p a = pctOf o p a ∧ @NumOps.pctEquals (calcOps o) p q = pctEq p q ∧
    @NumOps.isZero (calcOps o) a = (a.value == 0) :=
  ⟨rfl, rfl, rfl, rfl, rfl, rfl, rfl⟩

/-- **the regenerated `(*RateTotal).matches` is `rtMatches`**: for every rate
    group, every combo and every rounding primitives, under any encoding of the
    extension maps that tells the two maps at hand apart (an injective one does) -/
theorem src_matches (o : Ops) (enc : List (String × String) → String)
    (rt : Merge.RateTotal) (c : TaxTotals.Combo) (henc : enc rt.ext = enc c.ext → rt.ext = c.ext) :
    @TaxTotalsSrc.RateTotal_matches (calcOps o) rt c = rtMatches (toCalcRT enc rt) (toCalcCombo enc c) :=
  matches_calc o enc rt c henc

/-- … hence the regenerated `matches` decides "same rate-group key" (`matches_iff_same_key`) -/
theorem spec_of_the_source_matches (o : Ops) (enc : List (String × String) → String)
    (rt : Merge.RateTotal) (c : TaxTotals.Combo) (henc : enc rt.ext = enc c.ext → rt.ext = c.ext) :
    @TaxTotalsSrc.RateTotal_matches (calcOps o) rt c = true ↔ rtKey (toCalcRT enc rt) = comboKey (toCalcCombo enc c) := by
  rw [src_matches o enc rt c henc]; exact matches_iff_same_key _ _

/-- the hypothesis is satisfiable, with equal and with different maps; 21.0% with surcharge 5.2% matches 21% with 5.20% -/
example : (sampleEnc sampleRT.ext = sampleEnc sampleCB.ext → sampleRT.ext = sampleCB.ext) ∧
    (sampleEnc sampleRT.ext = sampleEnc [("a", "2")] → sampleRT.ext = [("a", "2")]) ∧
    rtMatches (toCalcRT sampleEnc sampleRT) (toCalcCombo sampleEnc sampleCB) = true := by
  refine ⟨fun _ => rfl, fun h => absurd h (by decide), by decide +kernel⟩

/-- **the regenerated `newRateTotal` is `newRate`** (at the currency's zero `⟨0, c⟩`) -/
theorem src_newRateTotal (enc : List (String × String) → String) (cb : TaxTotals.Combo) (c : ℕ) :
    (TaxTotalsSrc.newRateTotal cb ⟨0, c⟩).map (toCalcRT enc) = some (newRate c (toCalcCombo enc cb)) := by
  rw [newRateTotal_eq, Option.map_some, newRT_calc]

/-- **the regenerated `newCategoryTotal`** is the empty category `addToCats` opens -/
theorem src_newCategoryTotal (enc : List (String × String) → String) (cb : TaxTotals.Combo) (c : ℕ) :
    (TaxTotalsSrc.newCategoryTotal cb ⟨0, c⟩).map (toCalcCat enc) =
      some { code := (toCalcCombo enc cb).cat, retained := (toCalcCombo enc cb).retained, rates := [],
             amount := ⟨0, c⟩, surcharge := none, precise := ⟨0, c⟩ } := by
  rw [newCategoryTotal_eq]; rfl

/-- **the regenerated `matchRoundingPrecision` is `mrp`**: only the key `currency` keeps the precision -/
theorem src_matchRoundingPrecision (o : Ops) (rr : String) (a b : Amount) :
    @TaxTotalsSrc.matchRoundingPrecision (calcOps o) rr a b = mrp (ruleOf rr) a b := mrp_calc o rr a b

example : ruleOf "currency" = .currency ∧ ruleOf "precise" = .precise ∧ ruleOf "" = .precise := by decide

/-- **the regenerated `PreciseAmount` / `PreciseSum`** are the model's -/
theorem src_PreciseAmount (o : Ops) (enc : List (String × String) → String) (ct : Merge.CategoryTotal) :
    @TaxTotalsSrc.CategoryTotal_PreciseAmount (calcOps o) ct = (toCalcCat enc ct).preciseAmount := by
  rw [preciseAmount_eq]; rfl

theorem src_PreciseSum (o : Ops) (enc : List (String × String) → String) (t : Merge.Total) :
    @TaxTotalsSrc.Total_PreciseSum (calcOps o) t = (toCalcTotal enc t).precise := by
  rw [preciseSum_eq]; rfl

/-- **the regenerated `Total.Category`** returns the first category with the code -/
theorem src_Category (t : Merge.Total) (code : String) :
    TaxTotalsSrc.Total_Category t code = t.categories.find? (fun ct => ct.code == code) := category_eq t code

/-! ### the four functions with write-back loops, for summaries of any shape -/

/-- **the regenerated `calculateBaseCategoryTotal` is `catAmounts`**: every rate group's amount and
    surcharge amount, the category amount and the category surcharge, for any number of rate groups
    (the receiver `t` is not used by the Go function) -/
theorem src_calculateBaseCategoryTotal (o : Ops) (enc : List (String × String) → String)
    (t : Merge.Total) (ct : Merge.CategoryTotal) (c : ℕ) (rr : String) :
    toCalcCat enc (@TaxTotalsSrc.Total_calculateBaseCategoryTotal (calcOps o) t ct ⟨0, c⟩ rr).2 =
      catAmounts o (ruleOf rr) c (toCalcCat enc ct) := by
  rw [@calcBase_eq (calcOps o)]; exact catAmounts_calc o enc c rr ct

/-- **the regenerated `calculateFinalSum`**: every category gets its amounts (`catAmounts`), the sum
    is `finalSum` of these categories, the precise sum is left alone -/
theorem src_calculateFinalSum (o : Ops) (enc : List (String × String) → String) (t : Merge.Total) (c : ℕ) (rr : String) :
    toCalcTotal enc (@TaxTotalsSrc.Total_calculateFinalSum (calcOps o) t ⟨0, c⟩ rr).2 =
      { cats := (t.categories.map (toCalcCat enc)).map (catAmounts o (ruleOf rr) c),
        sum := finalSum o (ruleOf rr) c ((t.categories.map (toCalcCat enc)).map (catAmounts o (ruleOf rr) c)),
        preciseSum := t.sumP } := by
  rw [@calcFinalSum_eq (calcOps o)]
  have hm : (t.categories.map (@calcCatG (calcOps o) ⟨0, c⟩ rr)).map (toCalcCat enc) =
      (t.categories.map (toCalcCat enc)).map (catAmounts o (ruleOf rr) c) := by
    simp only [List.map_map]
    apply List.map_congr_left; intro ct _; exact catAmounts_calc o enc c rr ct
  simp only [toCalcTotal, hm, finalSum_calc o enc]

/-- **the regenerated `round` is `roundTax`**: every amount of every rate group and category is
    rescaled to the currency's exponent, the precise amounts and the precise sum are kept -/
theorem src_round (o : Ops) (enc : List (String × String) → String) (t : Merge.Total) (zero : Amount) :
    toCalcTotal enc (@TaxTotalsSrc.Total_round (calcOps o) t zero).2 =
      roundTax o zero.exp (t.categories.map (toCalcCat enc)) t.sum := by
  rw [@round_eq (calcOps o)]; exact round_calc o enc t zero.exp

/-- **`calculateFinalSum` then `round`** (the body of `Total.Calculate`) **is the last line of
    `taxTotal`**: `roundTax` of the categories with their amounts and of their `finalSum` -/
theorem src_Calculate_body (o : Ops) (enc : List (String × String) → String) (t : Merge.Total) (c : ℕ) (rr : String) :
    toCalcTotal enc (@TaxTotalsSrc.Total_round (calcOps o)
        (@TaxTotalsSrc.Total_calculateFinalSum (calcOps o) t ⟨0, c⟩ rr).2 ⟨0, c⟩).2 =
      roundTax o c ((t.categories.map (toCalcCat enc)).map (catAmounts o (ruleOf rr) c))
        (finalSum o (ruleOf rr) c ((t.categories.map (toCalcCat enc)).map (catAmounts o (ruleOf rr) c))) := by
  have h := src_calculateFinalSum o enc t c rr
  rw [src_round]
  exact congrArg₂ (roundTax o c) (congrArg (·.cats) h) (congrArg (·.sum) h)

/-- **the regenerated `rateTotalFor`**, for any summary, combo and rounding primitives, under an
    injective encoding of the extension maps:
    (1) it returns a non-nil row and leaves the sums alone;
    (2) the row is the first one that `matches` the combo in the first category with the combo's
        code of the summary AFTERWARDS (`findRow`: where the returned pointer points);
    (3) writing the base accumulation of `calculateBaseRateTotals` through that pointer (`updCats`,
        which writes at the place `findRow` reads) gives `addToCats` of the summary BEFORE. -/
theorem src_rateTotalFor (o : Ops) (enc : List (String × String) → String) (henc : ∀ a b, enc a = enc b → a = b)
    (r : Rule) (c : ℕ) (t : Merge.Total) (cb : TaxTotals.Combo) (tot : Amount) :
    ∃ row t', @TaxTotalsSrc.Total_rateTotalFor (calcOps o) t cb ⟨0, c⟩ = (some row, t') ∧
      t'.sum = t.sum ∧ t'.sumP = t.sumP ∧
      @findRow (calcOps o) cb t'.categories = some row ∧
      (@updCats (calcOps o) cb (accBase o r tot) t'.categories).map (toCalcCat enc) =
        addToCats o r c (toCalcCombo enc cb) tot (t.categories.map (toCalcCat enc)) :=
  let ⟨_, _, row, t', h⟩ := rateTotalFor_calc o enc henc t cb c
  ⟨row, t', h.run, h.sum, h.sumP, h.find, h.addTo r tot⟩

/-- the hypothesis on the encoding is satisfiable -/
example : ∃ enc : List (String × String) → String, ∀ a b, enc a = enc b → a = b := exists_enc

/-- **both loops of `calculateBaseRateTotals` around the regenerated `rateTotalFor` are
    `baseRateTotals`** (`srcBaseRateTotals`: for every row and every combo, `rateTotalFor`, then the
    base accumulation written through the returned pointer), from the empty summary -/
theorem src_baseRateTotals (o : Ops) (enc : List (String × String) → String) (henc : ∀ a b, enc a = enc b → a = b)
    (r : Rule) (c : ℕ) (rows : List (Amount × List TaxTotals.Combo)) (s sp : Amount) :
    (srcBaseRateTotals o r c rows ⟨[], s, sp⟩).categories.map (toCalcCat enc) =
      baseRateTotals o r c (rows.map (toCalcRow enc)) :=
  srcBaseRateTotals_calc o enc henc r c rows ⟨[], s, sp⟩

/-! ### the headline theorem, stated over the regenerated `rateTotalFor` -/

/-- **partition by key, over the source**: in the summary that the two loops of
    `calculateBaseRateTotals` build with the regenerated `rateTotalFor`, the base of the group with
    key `k` in category `cat` is exactly the sum of the contributions of the combos with that
    category and that key — every combo of every row is counted in the one group with its key and in
    no other (any rows, any rule; exact arithmetic as in `partition_by_key`) -/
theorem src_partition_by_key (enc : List (String × String) → String) (henc : ∀ a b, enc a = enc b → a = b)
    (r : Rule) (c : ℕ) (cat : String) (k : Key) (rows : List (Amount × List TaxTotals.Combo)) (s sp : Amount) :
    catGroupBase cat k ((srcBaseRateTotals exactOps r c rows ⟨[], s, sp⟩).categories.map (toCalcCat enc)) =
      ((rows.map (toCalcRow enc)).map (rowGroupContrib r c cat k)).sum := by
  rw [src_baseRateTotals exactOps enc henc]; exact partition_by_key r c cat k _

/-- one step: a combo is counted in its own group and in no other (over the regenerated `rateTotalFor`) -/
theorem src_one_combo_one_group (enc : List (String × String) → String) (henc : ∀ a b, enc a = enc b → a = b)
    (r : Rule) (c : ℕ) (t : Merge.Total) (cb : TaxTotals.Combo) (tot : Amount) (cat : String) (k : Key)
    (hok : CatsOk r c (t.categories.map (toCalcCat enc))) :
    catGroupBase cat k ((srcStep exactOps r c t cb tot).categories.map (toCalcCat enc)) =
      catGroupBase cat k (t.categories.map (toCalcCat enc)) +
        (if (toCalcCombo enc cb).cat == cat ∧ comboKey (toCalcCombo enc cb) = k then contrib r c tot else 0) := by
  rw [srcStep_calc exactOps enc henc]; exact addToCats_group r c _ tot cat k _ hok

/-- non-vacuity: two rows, 21% with surcharge written `21%` / `21.0%`, and an exempt combo: the
    regenerated `rateTotalFor` puts the two spellings into one group -/
example : ((srcBaseRateTotals exactOps .precise 2
      [(⟨10000, 4⟩, [sampleCB]), (⟨5000, 4⟩, [{ sampleCB with percent := some ⟨⟨210, 3⟩⟩ }, { sampleCB with percent := none, surcharge := none }])]
      ⟨[], ⟨0, 2⟩, ⟨0, 2⟩⟩).categories.map (fun ct => ct.rates.map (fun rt => rt.base))) = [[⟨15000, 4⟩, ⟨5000, 4⟩]] ∧
    CatsOk .precise 2 [] := by
  refine ⟨by decide +kernel, fun _ h => by simp at h⟩


/-! ### the regenerated `calculateBaseRateTotals`: both loops and the writes through the returned pointer -/

/-- the returned-cursor reading is used exactly where reviewed: `rateTotalFor` returns a pointer to
    `t.Categories[catTotal_at].Rates[rateTotal_at]`, `calculateBaseRateTotals` is its one user; the two
    structs that came with it are mapped field by field -/
theorem returned_cursors_as_reviewed :
    TaxTotalsSrc.returnedCursors = [("Total.rateTotalFor", "t.categories[catTotal_at].rates[rateTotal_at]")] ∧
    TaxTotalsSrc.returnedCursorUses = [("TotalCalculator.calculateBaseRateTotals", "rt := t.rateTotalFor(c, tc.zero)")] ∧
    TaxTotalsSrc.struct_taxLine = [("total", "num.Amount"), ("taxes", "Set")] ∧
    TaxTotalsSrc.structLean_taxLine = ("GoblVerif.TaxTotals.TaxLine", ["total", "taxes"]) ∧
    TaxTotalsSrc.structOmitted_taxLine = [] ∧
    TaxTotalsSrc.struct_TotalCalculator = [("Country", "l10n.TaxCountryCode"), ("Rounding", "cbc.Key"),
      ("Currency", "currency.Code"), ("Tags", "[]cbc.Key"), ("Date", "cal.Date"), ("Lines", "[]TaxableLine"),
      ("Includes", "cbc.Code"), ("zero", "num.Amount")] ∧
    TaxTotalsSrc.structOmitted_TotalCalculator = [] := ⟨rfl, rfl, rfl, rfl, rfl, rfl, rfl⟩

/-- **the `_at` twin of the regenerated `rateTotalFor`**: the index path it reports is that of the first
    category with the combo's code and of the first row in it that `matches` (the lengths where there
    is none: the places of the appended category / row), and writing ANY `f` of the returned row at
    that path is writing it at the place `findRow` reads (`updCats`) -/
theorem src_rateTotalFor_at (o : Ops) (enc : List (String × String) → String) (henc : ∀ a b, enc a = enc b → a = b)
    (c : ℕ) (t : Merge.Total) (cb : TaxTotals.Combo) (f : Merge.RateTotal → Merge.RateTotal) :
    ∃ i j row t', @TaxTotalsSrc.Total_rateTotalFor_at (calcOps o) t cb ⟨0, c⟩ = (some i, some j) ∧
      @TaxTotalsSrc.Total_rateTotalFor (calcOps o) t cb ⟨0, c⟩ = (some row, t') ∧
      setAt i j (f row) t'.categories = @updCats (calcOps o) cb f t'.categories :=
  let ⟨i, j, row, t', h⟩ := rateTotalFor_calc o enc henc t cb c
  ⟨i, j, row, t', h.idx, h.run, h.write f⟩

/-- … and it is the reading `srcBaseRateTotals` (Proofs/TaxTotalsCalc.lean), from ANY summary (sums untouched) -/
theorem src_calculateBaseRateTotals_loops (o : Ops) (enc : List (String × String) → String) (henc : ∀ a b, enc a = enc b → a = b)
    (tc : TaxTotals.Calculator) (c : ℕ) (hz : tc.zero = ⟨0, c⟩) (ls : List TaxTotals.TaxLine) (t : Merge.Total) :
    (@TaxTotalsSrc.TotalCalculator_calculateBaseRateTotals (calcOps o) tc ls t).2 =
      srcBaseRateTotals o (ruleOf tc.rounding) c (lineRows ls) t := by
  unfold TaxTotalsSrc.TotalCalculator_calculateBaseRateTotals srcBaseRateTotals lineRows
  simp only [forIn_list_id, pure_bind, hz]
  simp only [Id.run, id_pure]
  rw [List.foldl_map]
  apply forList_eq_foldl
  intro tl s
  congr 1
  apply forList_eq_foldl
  intro cb s'
  obtain ⟨i, j, row, t', h⟩ := rateTotalFor_calc o enc henc s' cb c
  rw [srcStep, h.idx, h.run]
  simp only []
  rw [← h.write (accBase o (ruleOf tc.rounding) tl.total)]
  -- the two writes through the pointer (`matchRoundingPrecision`, then `Add`) are writes at one index path: the later wins
  change ForInStep.yield ({ categories := setAt i j _ (setAt i j _ _), sum := _, sumP := _ } : Merge.Total) = _
  rw [setAt_setAt]
  simp only [Option.get!_some, accBase, mrp_calc, c_add]

/-- **the regenerated `(*TotalCalculator).calculateBaseRateTotals` is `baseRateTotals`**: for any lines, any
    combos, any rounding rule and rounding primitives, from the empty summary `Calculate` starts with
    (`tc.zero` the currency's zero) -/
theorem src_calculateBaseRateTotals (o : Ops) (enc : List (String × String) → String) (henc : ∀ a b, enc a = enc b → a = b)
    (tc : TaxTotals.Calculator) (c : ℕ) (hz : tc.zero = ⟨0, c⟩) (ls : List TaxTotals.TaxLine) (s sp : Amount) :
    (@TaxTotalsSrc.TotalCalculator_calculateBaseRateTotals (calcOps o) tc ls ⟨[], s, sp⟩).2.categories.map (toCalcCat enc) =
      baseRateTotals o (ruleOf tc.rounding) c ((lineRows ls).map (toCalcRow enc)) := by
  rw [src_calculateBaseRateTotals_loops o enc henc tc c hz]; exact src_baseRateTotals o enc henc _ c _ s sp

/-- **partition by key, over the regenerated `calculateBaseRateTotals`** (the C02 headline): in the summary
    the regenerated function builds, the base of the group with key `k` in category `cat` is exactly
    the sum of the contributions of the combos with that category and that key -/
theorem src_partition_by_key_regenerated (enc : List (String × String) → String) (henc : ∀ a b, enc a = enc b → a = b)
    (tc : TaxTotals.Calculator) (c : ℕ) (hz : tc.zero = ⟨0, c⟩) (cat : String) (k : Key)
    (ls : List TaxTotals.TaxLine) (s sp : Amount) :
    catGroupBase cat k ((@TaxTotalsSrc.TotalCalculator_calculateBaseRateTotals (calcOps exactOps) tc ls ⟨[], s, sp⟩).2.categories.map (toCalcCat enc)) =
      (((lineRows ls).map (toCalcRow enc)).map (rowGroupContrib (ruleOf tc.rounding) c cat k)).sum := by
  rw [src_calculateBaseRateTotals exactOps enc henc tc c hz]; exact partition_by_key _ c cat k _

/-- non-vacuity: a calculator at the euro's zero, two lines; `21%` and `21.0%` land in one group (kernel
    evaluation of the REGENERATED loops, the `_at` twin included) -/
example : ((@TaxTotalsSrc.TotalCalculator_calculateBaseRateTotals (calcOps exactOps)
      { country := "ES", rounding := "precise", currency := "EUR", tags := [], date := "", lines := [], includes := "", zero := ⟨0, 2⟩ }
      [⟨⟨10000, 4⟩, [sampleCB]⟩, ⟨⟨5000, 4⟩, [{ sampleCB with percent := some ⟨⟨210, 3⟩⟩ }, { sampleCB with percent := none, surcharge := none }]⟩]
      ⟨[], ⟨0, 2⟩, ⟨0, 2⟩⟩).2.categories.map (fun ct => ct.rates.map (fun rt => rt.base))) = [[⟨15000, 4⟩, ⟨5000, 4⟩]] := by
  decide +kernel

end Src

/-! ## pinned source shapes (regenerated facts; tools/pin_calc_expect.py) -/

namespace ExpectCalc
open GoblVerif.Generated.Calc

theorem calls_TotalCalculator_Calculate_as_modelled : calls_TotalCalculator_Calculate =
    ["Zero", "Def", "make", "mapTaxLines", "prepareLines", "removeIncludedTaxes", "calculateBaseRateTotals", "Calculate"] := rfl
theorem conds_TotalCalculator_Calculate_as_modelled : conds_TotalCalculator_Calculate =
    ["err := tc.prepareLines(taxLines); err != nil", "err := tc.removeIncludedTaxes(taxLines); err != nil"] := rfl
theorem stmts_TotalCalculator_Calculate_as_modelled : stmts_TotalCalculator_Calculate =
    ["tc.zero = tc.Currency.Def().Zero()", "t.Categories = make([]*CategoryTotal, 0)", "t.Sum = tc.zero", "taxLines := mapTaxLines(tc.Lines)", "err := tc.prepareLines(taxLines)", "return err", "err := tc.removeIncludedTaxes(taxLines)", "return err", "return nil"] := rfl
theorem calls_TotalCalculator_prepareLines_as_modelled : calls_TotalCalculator_prepareLines =
    ["calculate", "RescaleUp", "Exp"] := rfl
theorem conds_TotalCalculator_prepareLines_as_modelled : conds_TotalCalculator_prepareLines =
    ["err := combo.calculate(tc.Country, tc.Tags, tc.Date); err != nil"] := rfl
theorem stmts_TotalCalculator_prepareLines_as_modelled : stmts_TotalCalculator_prepareLines =
    ["err := combo.calculate(tc.Country, tc.Tags, tc.Date)", "return err", "tl.total = tl.total.RescaleUp(tc.zero.Exp() + 2)", "return nil"] := rfl
theorem calls_TotalCalculator_removeIncludedTaxes_as_modelled : calls_TotalCalculator_removeIncludedTaxes =
    ["IsEmpty", "Get", "WithMessage", "String", "Remove"] := rfl
theorem conds_TotalCalculator_removeIncludedTaxes_as_modelled : conds_TotalCalculator_removeIncludedTaxes =
    ["tc.Includes.IsEmpty()", "c := tl.taxes.Get(tc.Includes); c != nil", "c.retained", "c.Percent == nil"] := rfl
theorem stmts_TotalCalculator_removeIncludedTaxes_as_modelled : stmts_TotalCalculator_removeIncludedTaxes =
    ["return nil", "c := tl.taxes.Get(tc.Includes)", "return ErrInvalidPricesInclude.WithMessage(\"cannot include retained category '%s'\", tc.Includes.String())", "tl.total = tl.total.Remove(*c.Percent)", "return nil"] := rfl
theorem calls_TotalCalculator_calculateBaseRateTotals_as_modelled : calls_TotalCalculator_calculateBaseRateTotals =
    ["rateTotalFor", "matchRoundingPrecision", "Add"] := rfl
theorem conds_TotalCalculator_calculateBaseRateTotals_as_modelled : conds_TotalCalculator_calculateBaseRateTotals =
    [] := rfl
theorem stmts_TotalCalculator_calculateBaseRateTotals_as_modelled : stmts_TotalCalculator_calculateBaseRateTotals =
    ["rt := t.rateTotalFor(c, tc.zero)", "rt.Base = matchRoundingPrecision(tc.Rounding, rt.Base, tl.total)", "rt.Base = rt.Base.Add(tl.total)"] := rfl
theorem calls_Total_rateTotalFor_as_modelled : calls_Total_rateTotalFor =
    ["newCategoryTotal", "append", "matches", "newRateTotal", "append"] := rfl
theorem conds_Total_rateTotalFor_as_modelled : conds_Total_rateTotalFor =
    ["ct.Code == c.Category", "catTotal == nil", "rt.matches(c)", "rateTotal == nil"] := rfl
theorem stmts_Total_rateTotalFor_as_modelled : stmts_Total_rateTotalFor =
    ["catTotal = ct", "catTotal = newCategoryTotal(c, zero)", "t.Categories = append(t.Categories, catTotal)", "rateTotal = rt", "rateTotal = newRateTotal(c, zero)", "catTotal.Rates = append(catTotal.Rates, rateTotal)", "return rateTotal"] := rfl
theorem calls_newRateTotal_as_modelled : calls_newRateTotal =
    ["new"] := rfl
theorem conds_newRateTotal_as_modelled : conds_newRateTotal =
    ["c.Percent != nil", "c.Surcharge != nil"] := rfl
theorem stmts_newRateTotal_as_modelled : stmts_newRateTotal =
    ["rt := new(RateTotal)", "rt.Key = c.Rate", "rt.Country = c.Country", "rt.Ext = c.Ext", "pc := *c.Percent", "rt.Percent = &pc", "rt.Base = zero", "rt.Amount = zero", "rt.Surcharge = &RateTotalSurcharge{ Percent: *c.Surcharge, Amount: zero, }", "return rt"] := rfl
theorem calls_newCategoryTotal_as_modelled : calls_newCategoryTotal =
    ["new", "make"] := rfl
theorem conds_newCategoryTotal_as_modelled : conds_newCategoryTotal =
    [] := rfl
theorem stmts_newCategoryTotal_as_modelled : stmts_newCategoryTotal =
    ["ct := new(CategoryTotal)", "ct.Code = c.Category", "ct.Rates = make([]*RateTotal, 0)", "ct.Amount = zero", "ct.amount = zero", "ct.Retained = c.retained", "return ct"] := rfl
theorem calls_RateTotal_matches_as_modelled : calls_RateTotal_matches =
    ["Equals", "Equals", "Equals"] := rfl
theorem conds_RateTotal_matches_as_modelled : conds_RateTotal_matches =
    ["!rt.Ext.Equals(c.Ext)", "rt.Country != c.Country", "rt.Percent == nil || c.Percent == nil", "rt.Surcharge != nil || c.Surcharge != nil", "rt.Surcharge == nil || c.Surcharge == nil", "!rt.Surcharge.Percent.Equals(*c.Surcharge)"] := rfl
theorem stmts_RateTotal_matches_as_modelled : stmts_RateTotal_matches =
    ["return false", "return false", "return rt.Percent == nil && c.Percent == nil", "return false", "return false", "return rt.Percent.Equals(*c.Percent)"] := rfl
theorem calls_Total_Calculate_as_modelled : calls_Total_Calculate =
    ["Zero", "Def", "calculateFinalSum", "round"] := rfl
theorem conds_Total_Calculate_as_modelled : conds_Total_Calculate =
    ["t == nil"] := rfl
theorem stmts_Total_Calculate_as_modelled : stmts_Total_Calculate =
    ["zero := cur.Def().Zero()"] := rfl
theorem calls_Total_calculateBaseCategoryTotal_as_modelled : calls_Total_calculateBaseCategoryTotal =
    ["Of", "matchRoundingPrecision", "Add", "Of", "matchRoundingPrecision", "Add"] := rfl
theorem conds_Total_calculateBaseCategoryTotal_as_modelled : conds_Total_calculateBaseCategoryTotal =
    ["rt.Percent == nil", "rt.Surcharge != nil", "ct.Surcharge == nil"] := rfl
theorem stmts_Total_calculateBaseCategoryTotal_as_modelled : stmts_Total_calculateBaseCategoryTotal =
    ["ct.Amount = zero", "ct.Surcharge = nil", "rt.Amount = zero", "base := rt.Base", "rt.Amount = rt.Percent.Of(rt.Base)", "ct.Amount = matchRoundingPrecision(rr, ct.Amount, rt.Amount)", "ct.Amount = ct.Amount.Add(rt.Amount)", "rt.Surcharge.Amount = rt.Surcharge.Percent.Of(base)", "ct.Surcharge = &zero", "a := rt.Surcharge.Amount", "x := *ct.Surcharge", "x = matchRoundingPrecision(rr, x, a)", "x = x.Add(a)", "ct.Surcharge = &x"] := rfl
theorem calls_Total_calculateFinalSum_as_modelled : calls_Total_calculateFinalSum =
    ["calculateBaseCategoryTotal", "matchRoundingPrecision", "Subtract", "Subtract", "Add", "Add"] := rfl
theorem conds_Total_calculateFinalSum_as_modelled : conds_Total_calculateFinalSum =
    ["ct.Retained", "ct.Surcharge != nil", "ct.Surcharge != nil"] := rfl
theorem stmts_Total_calculateFinalSum_as_modelled : stmts_Total_calculateFinalSum =
    ["t.Sum = zero", "t.Sum = matchRoundingPrecision(rr, t.Sum, ct.Amount)", "t.Sum = t.Sum.Subtract(ct.Amount)", "t.Sum = t.Sum.Subtract(*ct.Surcharge)", "t.Sum = t.Sum.Add(ct.Amount)", "t.Sum = t.Sum.Add(*ct.Surcharge)"] := rfl
theorem calls_matchRoundingPrecision_as_modelled : calls_matchRoundingPrecision =
    ["MatchPrecision"] := rfl
theorem conds_matchRoundingPrecision_as_modelled : conds_matchRoundingPrecision =
    [] := rfl
theorem stmts_matchRoundingPrecision_as_modelled : stmts_matchRoundingPrecision =
    ["return a", "return a.MatchPrecision(b)"] := rfl
theorem calls_Amount_Remove_as_modelled : calls_Amount_Remove =
    ["Divide", "Factor"] := rfl
theorem conds_Amount_Remove_as_modelled : conds_Amount_Remove =
    [] := rfl
theorem stmts_Amount_Remove_as_modelled : stmts_Amount_Remove =
    ["return a.Divide(percent.Factor())"] := rfl

end ExpectCalc

end GoblVerif.Props.C02
