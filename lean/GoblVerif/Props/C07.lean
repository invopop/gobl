/-
  C07 — Canonical JSON follows its specification.

  The property theorems (helper lemmas: Proofs/C14n*.lean).  Up to `namespace
  Expect` every theorem is about the *model* of /repo/c14n (Model/C14n.lean: checkEncoding on
  the raw text, the reader on decoder tokens, Object.Sort, the MarshalJSON
  methods with the `first` flags, encodeString with the extracted safeSet/hex
  tables, Float.MarshalJSON's byte surgery on strconv's output) and relates it
  to the README rules (Spec/C07.lean: `norm`, `text`, the number-form
  recognisers); `Expect` pins facts extracted from the source, and `Src` relates
  the regenerated translation of the writers (Generated/C14nSrc.lean) to the
  model.

  Strings are lists of code points.  A string the decoder yields is a sequence
  of Unicode scalar values (`isScalar`; U+FFFD is one of them); a list with
  another element stands for a Go string that is not valid UTF-8, which only a
  direct user of the object model can hand to encodeString (`cleanS`/`cleanJ`
  = every string is a sequence of scalar values).

  Texts are code-point lists (`Chars`); `canon` is their UTF-8 encoding.
  `v.wf` says every float leaf carries well-formed shortest digits (what
  strconv yields); it is a hypothesis about the trusted float formatter, the
  harness checks it on every generated and observed value.
-/
import GoblVerif.Proofs.C14nMarshal
import GoblVerif.Proofs.C14nNorm
import GoblVerif.Proofs.C14nForm
import GoblVerif.Proofs.C14nReader
import GoblVerif.Proofs.C14nEncoding
import GoblVerif.Proofs.C14nSrc

namespace GoblVerif.Props.C07
open GoblVerif GoblVerif.Spec.C07 GoblVerif.C14n GoblVerif.Proofs.C14n

/-! ## the model computes the README text of the logical content -/

/-- CanonicalJSON (model) = README text of `norm v` (null members dropped, members sorted) for
    every value whose surviving strings and keys are Unicode strings; a string with invalid
    encoding is refused (README rule 8.3) -/
theorem canon_meets_spec (v : J) (hw : v.wf = true) :
    canonChars v = if cleanJ (norm v) then some (text (norm v)) else none :=
  canonChars_eq v hw

theorem canon_bytes (v : J) (hw : v.wf = true) :
    canon v = if cleanJ (norm v) then some (utf8s (text (norm v))) else none := by
  unfold canon; rw [canon_meets_spec v hw]; split <;> rfl

/-- every value the decoder can yield — all strings and keys are sequences of scalar values,
    U+FFFD included — has a canonical form, and it is the README text of its content -/
theorem canon_total (v : J) (hw : v.wf = true) (hs : strsHave (fun c => !isScalar c) v = false) :
    canon v = some (utf8s (text (norm v))) := by
  rw [canon_bytes v hw, cleanJ_norm_of_scalar v hs]; rfl

/-- the only refused values: a surviving string or key is not a sequence of scalar values
    (it has no UTF-8 encoding).  U+FFFD does not make a string unclean. -/
theorem canon_rejects_iff (v : J) (hw : v.wf = true) :
    canon v = none ↔ strsHave (fun c => !isScalar c) (norm v) = true := by
  rw [canon_bytes v hw, cleanJ_eq]; cases strsHave (fun c => !isScalar c) (norm v) <;> simp

/-- the replacement character is an ordinary character: as a value and as a key -/
theorem replacement_character_kept (pre post : Str) (hp : pre.all isScalar = true) (hq : post.all isScalar = true) :
    encodeString (pre ++ 0xFFFD :: post) = some (strText (pre ++ 0xFFFD :: post)) ∧
    (escS (pre ++ 0xFFFD :: post) = escS pre ++ 0xFFFD :: escS post) := by
  constructor
  · rw [encodeString_eq]
    have : cleanS (pre ++ 0xFFFD :: post) = true := by
      have h : isScalar 0xFFFD = true := by decide
      simp [cleanS, List.all_append, h] at hp hq ⊢
      exact ⟨hp, hq⟩
    rw [this]; rfl
  · simp [escS, escChar]

example : canonChars (.str [0xFFFD]) = some [0x22, 0xFFFD, 0x22] := by decide
example : canon (.obj (.cons [0xFFFD] (.str [0x61, 0xFFFD]) .nil)) =
    some [0x7B, 0x22, 0xEF, 0xBF, 0xBD, 0x22, 0x3A, 0x22, 0x61, 0xEF, 0xBF, 0xBD, 0x22, 0x7D] := by decide
-- a Go string with undecodable bytes (here: an encoded surrogate) handed to the object model is refused
example : canonChars (.str [0x61, 0xD800]) = none := by decide

/-! ## independence of member order and of null members -/

/-- member order is irrelevant when keys are distinct -/
theorem canon_perm (kvs kvs' : KL) (hp : kvs.toList.Perm kvs'.toList) (hn : (KL.keys kvs).Nodup) :
    canon (.obj kvs) = canon (.obj kvs') := by
  unfold canon; rw [canonChars_of_norm_eq (norm_obj_of_perm kvs kvs' hp hn)]

/-- members whose value is null do not matter -/
theorem canon_drop_null (kvs : KL) :
    canon (.obj (KL.ofList (kvs.toList.filter (fun p => !p.2.isNull)))) = canon (.obj kvs) := by
  unfold canon; exact congrArg _ (canonChars_of_norm_eq (norm_obj_filter_nonNull kvs))

/-- … at any depth: the canonical form only depends on the normal form -/
theorem canon_of_norm_eq (v w : J) (h : norm v = norm w) : canon v = canon w := by
  unfold canon; rw [canonChars_of_norm_eq h]

/-- nulls inside arrays are kept: arrays are normalised element by element, nothing is removed -/
theorem canon_keeps_null_in_arrays (xs : JL) :
    norm (.arr xs) = .arr (JL.ofList (xs.toList.map norm)) ∧ norm .null = .null :=
  ⟨norm_arr xs, rfl⟩

example : canonChars (.arr (.cons .null (.cons (.obj (.cons [0x78] .null .nil)) (.cons .null .nil)))) =
    some [0x5B, 0x6E, 0x75, 0x6C, 0x6C, 0x2C, 0x7B, 0x7D, 0x2C, 0x6E, 0x75, 0x6C, 0x6C, 0x5D] := by decide
-- {"b":1,"a":null,"":[true]} and {"":[true],"b":1} have the same canonical text {"":[true],"b":1}
example : canonChars (.obj (.cons [0x62] (.int 1) (.cons [0x61] .null (.cons [] (.arr (.cons (.bool true) .nil)) .nil)))) =
    canonChars (.obj (.cons [] (.arr (.cons (.bool true) .nil)) (.cons [0x62] (.int 1) .nil))) := by decide

/-! ## injectivity: different content never shares a canonical form -/

/-- the README text of a content is a prefix code once delimited (`,` `]` `}` or end of text) -/
theorem text_prefix_free (v w : J) (r₁ r₂ : Chars) (hv : v.wf = true) (hw : w.wf = true)
    (h₁ : delim r₁ = true) (h₂ : delim r₂ = true) (h : text v ++ r₁ = text w ++ r₂) :
    v = w ∧ r₁ = r₂ :=
  inj_J v w r₁ r₂ hv hw h₁ h₂ h

/-- the work-horse: canonical texts followed by delimited remainders determine the content and the remainder -/
theorem canon_prefix_free (v w : J) (a b r₁ r₂ : Chars) (hv : v.wf = true) (hw : w.wf = true)
    (ha : canonChars v = some a) (hb : canonChars w = some b)
    (h₁ : delim r₁ = true) (h₂ : delim r₂ = true) (h : a ++ r₁ = b ++ r₂) :
    norm v = norm w ∧ r₁ = r₂ := by
  obtain ⟨_, rfl⟩ := canonChars_eq_some hv ha
  obtain ⟨_, rfl⟩ := canonChars_eq_some hw hb
  exact inj_J _ _ r₁ r₂ (wf_norm v hv) (wf_norm w hw) h₁ h₂ h

/-- byte level: two values with the same canonical bytes have the same content
    (so values with different content never share a canonical form) -/
theorem canon_injective (v w : J) (hv : v.wf = true) (hw : w.wf = true) (b : Bytes)
    (ha : canon v = some b) (hb : canon w = some b) : norm v = norm w := by
  obtain ⟨a, hcv, rfl⟩ := Option.map_eq_some_iff.mp ha
  obtain ⟨a', hcw, e⟩ := Option.map_eq_some_iff.mp hb
  rw [utf8s_injective _ _ e] at hcw
  exact (canon_prefix_free v w a a [] [] hv hw hcv hcw rfl rfl rfl).1

example : (J.flt false [1, 5] (-7)).wf = true ∧ canonChars (.flt true [1, 5] (-7)) ≠ canonChars (.flt false [1, 5] (-7)) := by
  decide

/-- the canonical form canonicalises to itself, as a value.  (That a parser reads `norm v` back from
    `canon v` is proved for leaves only, `leaf_reads_back`; for whole values it is what the harness's
    strict parser checks.) -/
theorem canon_idem (v : J) : canon (norm v) = canon v := by
  unfold canon; rw [canonChars_norm]

theorem norm_idem (v : J) : norm (norm v) = norm v := norm_norm v

/-- reading a leaf of canonical text gives back the leaf (strings are unescaped, numbers re-read) -/
theorem leaf_reads_back (a : Atom) (r : Chars) (hw : a.wf = true) (hr : delim r = true) :
    decodeAtom (atomText a ++ r) = some (a, r) :=
  decodeAtom_atomText a r hw hr

/-- UTF-8 encoding loses nothing -/
theorem utf8_injective (a b : Chars) (h : utf8s a = utf8s b) : a = b := utf8s_injective a b h

/-! ## the README forms -/

/-- rule 3: the members of every object of the content are in key (code point) order -/
theorem members_sorted (v : J) : sortedJ false (norm v) = true := sorted_norm v

/-- rule 3, bytes versus code points: Go compares keys byte-wise on their UTF-8 encoding
    (`ltS` on the byte lists); that is the same as comparing the code points -/
theorem key_order_is_bytewise (a b : Str) : ltS (utf8s a) (utf8s b) = ltS a b := ltS_utf8s a b

/-- rule 4: no object of the content has a null member -/
theorem no_null_members (v : J) : noNullMembers (norm v) = true := noNull_dropJ _

/-- rule 8: encodeString with the extracted tables writes exactly the README escapes
    (two-character escapes for `"` `\` `\b` `\t` `\n` `\f` `\r`, `\u00XX` upper case for the
    other controls, everything else literal, U+FFFD like any other character) — or refuses
    a string that is not a sequence of scalar values (8.3) -/
theorem escapes_minimal (s : Str) :
    encodeString s = (if cleanS s then some (strText s) else none) ∧
    (∀ c, 0x20 ≤ c → c ≠ 0x22 → c ≠ 0x5C → escChar c = [c]) ∧
    (∀ c, c < 0x20 → c ≠ 8 → c ≠ 9 → c ≠ 10 → c ≠ 12 → c ≠ 13 →
      escChar c = [0x5C, 0x75, 0x30, 0x30, upperHex (c / 16), upperHex (c % 16)]) ∧
    escChar 0x22 = [0x5C, 0x22] ∧ escChar 0x5C = [0x5C, 0x5C] ∧ escChar 8 = [0x5C, 0x62] ∧
    escChar 9 = [0x5C, 0x74] ∧ escChar 10 = [0x5C, 0x6E] ∧ escChar 12 = [0x5C, 0x66] ∧
    escChar 13 = [0x5C, 0x72] := by
  exact ⟨encodeString_eq s, fun _ => escChar_lit, fun _ => escChar_ctl, rfl, rfl, rfl, rfl, rfl, rfl, rfl⟩

/-- rule 6: Integer.MarshalJSON writes `0` or `[-]` non-zero digit, digits -/
theorem int_plain (i : Int) : marshalAtom (.int i) = some (formatInt i) ∧ isIntPlain (formatInt i) = true :=
  ⟨rfl, isIntPlain_formatInt i⟩

/-- rule 7: Float.MarshalJSON (strconv 'E' output + the byte surgery) writes
    `[-]d.d+E[-]d+`: one digit before the point, non-zero unless the number is zero,
    fraction without trailing zeros (`.0` if empty), capital E, no `+`, no leading
    zeros in the exponent -/
theorem float_form (neg : Bool) (ds : List Nat) (e : Int) (hw : wfFloat ds e = true) :
    marshalAtom (.flt neg ds e) = some (fltText neg ds e) ∧ isFloatForm (fltText neg ds e) = true := by
  have hd : wfDigits ds = true := by simp only [wfFloat, Bool.and_eq_true] at hw; exact hw.1
  exact ⟨by simp [marshalAtom, marshalFloat_eq neg ds e hd], isFloatForm_fltText neg ds e hw⟩

example : marshalAtom (.flt true [1, 5] 0) = some [0x2D, 0x31, 0x2E, 0x35, 0x45, 0x30] := by decide
example : marshalAtom (.flt true [0] 0) = some [0x2D, 0x30, 0x2E, 0x30, 0x45, 0x30] := by decide
example : marshalAtom (.flt false [1] 2) = some [0x31, 0x2E, 0x30, 0x45, 0x32] := by decide
example : marshalAtom (.flt false [1, 2, 3] (-12)) = some [0x31, 0x2E, 0x32, 0x33, 0x45, 0x2D, 0x31, 0x32] := by decide

/-- rule 2: every character of the canonical text is a printable non-space ASCII
    character (structure, escapes, numbers) or a character ≥ U+0020 that occurs
    literally in a string or key of the input: no control character anywhere, and
    a space only where the content has one -/
theorem no_whitespace (v : J) (hw : v.wf = true) (a : Chars) (ha : canonChars v = some a) :
    ∀ c ∈ a, (0x21 ≤ c ∧ c < 0x7F) ∨ (0x20 ≤ c ∧ strsHave (· == c) v = true) := by
  obtain ⟨_, rfl⟩ := canonChars_eq_some hw ha
  intro c hc
  rcases text_chars (norm v) (wf_norm v hw) c hc with h | h
  · exact Or.inl h
  · exact Or.inr ⟨h.1, strsHave_norm _ v h.2⟩

/-- rule 1: the output is the UTF-8 encoding of a sequence of scalar values whenever
    the strings of the input consist of scalar values -/
theorem canon_valid_utf8 (v : J) (hw : v.wf = true) (hs : strsHave (fun c => !isScalar c) v = false)
    (b : Bytes) (hb : canon v = some b) : ∃ cs : Chars, b = utf8s cs ∧ ∀ c ∈ cs, isScalar c = true := by
  rw [canon_total v hw hs, Option.some.injEq] at hb
  exact ⟨_, hb.symm, List.all_eq_true.mp (text_scalar _ (wf_norm v hw) (cleanJ_norm_of_scalar v hs))⟩

/-! ## the reader -/

/-- for every token sequence the decoder can emit (ending in io.EOF or in a decoder
    error), UnmarshalJSON returns a value exactly when the sequence is the tokens of one
    complete value and the input ends there — then the value is that value with every
    object sorted — and an error otherwise (empty, truncated, trailing data, stray closer);
    it never builds a tree that contains a nil Canonicalable -/
theorem reader_total (ts : List GTok) (eof : Bool) (hv : decValid ts = true) :
    (∀ t, unmarshal ts eof = .ok t ↔ (eof = true ∧ ∃ x, ts = gtoks x ∧ t = sortJ x)) ∧
    unmarshal ts eof ≠ .nilval :=
  unmarshal_verdict ts eof hv

/-- the tokens of a value are a sequence the decoder can emit, so `reader_total` is not vacuous -/
theorem reader_reads_values (v : J) : unmarshal (gtoks v) true = .ok (sortJ v) := unmarshal_gtoks v

/-- CanonicalJSON from tokens is `canonChars` of the value -/
theorem canonTokens_value (v : J) :
    canonTokens (gtoks v) true = (match canonChars v with | some cs => .ok cs | none => .err) := by
  unfold canonTokens canonChars
  rw [unmarshal_gtoks]
  cases h : marshalJ (sortJ v) <;> simp [h]

/-! ## input that cannot be represented is rejected, never read as different content -/

/-- tokenToValue returns its error exactly for the number that is neither an int64 nor a
    float64; every other token is read as the leaf it denotes -/
theorem tokenToValue_rejects_iff (l : Lit) :
    (tokenToValue l = none ↔ l = .over) ∧ ∀ a : Atom, tokenToValue (litOf a) = some a :=
  ⟨tokenToValue_none l, tokenToValue_litOf⟩

/-- CanonicalJSON on the raw tokens of the decoder (any sequence it can emit, ending in io.EOF
    or in a decoder error): a text is produced exactly when the tokens are those of one complete
    value `x` and the input ends there — and then it is the canonical text of that very `x`;
    everything else is an error (never a nil in the tree) -/
theorem raw_reader_total (ts : List RTok) (eof : Bool) (hv : decValid (ts.map cook) = true) :
    (∀ cs, canonRaw ts eof = .ok cs ↔ (eof = true ∧ ∃ x, ts = rtoks x ∧ canonChars x = some cs)) ∧
    canonRaw ts eof ≠ .nilval :=
  canonRaw_verdict ts eof hv

/-! ## the raw text: invalid encoding is rejected before the decoder can replace it by U+FFFD -/

/-- CanonicalJSON on a text `raw` for which the decoder yields the tokens `ts`: a canonical text
    is produced exactly when checkEncoding accepts `raw`, the tokens are those of one complete
    value `x` and the input ends there; it is the canonical text of `x` -/
theorem text_reader_total (raw : Bytes) (ts : List RTok) (eof : Bool) (hv : decValid (ts.map cook) = true) :
    (∀ cs, canonText raw ts eof = .ok cs ↔
      (checkEncoding raw = true ∧ eof = true ∧ ∃ x, ts = rtoks x ∧ canonChars x = some cs)) ∧
    canonText raw ts eof ≠ .nilval := by
  obtain ⟨h1, h2⟩ := canonRaw_verdict ts eof hv
  exact ⟨fun cs => by rw [canonText_eq_ok, h1], fun h => h2 (canonText_eq_nilval.mp h).2⟩

/-- whatever tokens the decoder makes of it (it would put U+FFFD where it cannot decode), a text
    that checkEncoding refuses is an error -/
theorem invalid_encoding_rejected (raw : Bytes) (ts : List RTok) (eof : Bool) (h : checkEncoding raw = false) :
    canonText raw ts eof = .err := by
  unfold canonText; simp [h]

/-- the first half of checkEncoding: `utf8.Valid` accepts exactly the UTF-8 encodings of
    sequences of Unicode scalar values (no overlong form, no encoded surrogate, nothing beyond
    U+10FFFF, no truncated sequence) -/
theorem utf8Valid_iff (b : Bytes) :
    utf8Valid b = true ↔ ∃ cs : Chars, cs.all isScalar = true ∧ b = utf8s cs := by
  constructor
  · exact utf8Valid_decodes b
  · rintro ⟨cs, hs, rfl⟩; exact utf8Valid_utf8s cs hs

/-- the second half: wherever the scan stands at the start of an escape (`pre` is any text it
    passes over, e.g. canonical text or proper pairs), the escape of a surrogate that is not a
    high half followed at once by the escape of a low half makes checkEncoding fail -/
theorem unpaired_surrogate_rejected (pre tail : Bytes) (hp : Passes pre) (r : Nat)
    (hr : escapedUnit tail = some r) (hs : 0xD800 ≤ r ∧ r < 0xE000)
    (hno : pairOK (some r) (escapedUnit (tail.drop 6)) = false) :
    checkEncoding (pre ++ tail) = false := by
  unfold checkEncoding; rw [unpaired_rejected pre tail hp r hr hs hno]; simp

/-- … while the escapes of a high and a low surrogate in a row are passed over -/
theorem surrogate_pair_passes (a b c d a' b' c' d' : Nat)
    (h : pairOK (escapedUnit [0x5C, 0x75, a, b, c, d]) (escapedUnit [0x5C, 0x75, a', b', c', d']) = true) :
    Passes [0x5C, 0x75, a, b, c, d, 0x5C, 0x75, a', b', c', d'] := by
  intro rest
  simp only [List.cons_append, List.nil_append]
  have e1 : escapedUnit (0x5C :: 0x75 :: a :: b :: c :: d :: 0x5C :: 0x75 :: a' :: b' :: c' :: d' :: rest) =
      escapedUnit [0x5C, 0x75, a, b, c, d] := by simp [escapedUnit]
  have e2 : escapedUnit (List.drop 5 (0x75 :: a :: b :: c :: d :: 0x5C :: 0x75 :: a' :: b' :: c' :: d' :: rest)) =
      escapedUnit [0x5C, 0x75, a', b', c', d'] := by simp [escapedUnit]
  obtain ⟨r1, r2, h1, h2, hr⟩ := pairOK_true h
  -- the low half's four digits are no backslashes, so the scan goes on behind them
  obtain ⟨_, _, _, _, _, _, _, _, _, e, ha, hb, hc, hd, _⟩ := escapedUnit_some h2
  simp only [List.cons.injEq, true_and] at e
  obtain ⟨rfl, rfl, rfl, rfl, _⟩ := e
  have hs : isSurrogate (some r1) = true := by simp [isSurrogate]; omega
  rw [sp_backslash, e1, e2, h, h1, hs]
  simp only [Bool.not_true, Bool.false_eq_true, if_false, sp_skip]
  rw [sp_plain _ _ (hexDigit_ne_backslash _ _ ha), sp_plain _ _ (hexDigit_ne_backslash _ _ hb),
    sp_plain _ _ (hexDigit_ne_backslash _ _ hc), sp_plain _ _ (hexDigit_ne_backslash _ _ hd)]

/-- canonical output is accepted by checkEncoding: valid UTF-8, and the only `\u` escapes in it
    are `\u00XX` -/
theorem canonical_text_passes_check (v : J) (hw : v.wf = true) (b : Bytes) (hb : canon v = some b) :
    checkEncoding b = true := by
  obtain ⟨a, ha, rfl⟩ := Option.map_eq_some_iff.mp hb
  obtain ⟨hc, rfl⟩ := canonChars_eq_some hw ha
  exact checkEncoding_text (norm v) (wf_norm v hw) hc

/-- the canonical form canonicalises to itself, as a text: given back to CanonicalJSON (the
    decoder reads the tokens of the content from it) it passes checkEncoding and comes out unchanged -/
theorem canon_text_idem (v : J) (hw : v.wf = true) (cs : Chars) (hc : canonChars v = some cs) :
    canonText (utf8s cs) (rtoks (norm v)) true = .ok cs := by
  have hgood := canonical_text_passes_check v hw _ (congrArg (Option.map utf8s) hc)
  have : marshalJ (sortJ (norm v)) = some cs := (canonChars_norm v).trans hc
  simp [canonText, hgood, canonRaw, canonTokens, cook_rtoks, unmarshal_gtoks, this]

-- "\ud800" (a lone high surrogate), "\udc00" (a lone low one), "\ud800\u0041", "\ud800x": rejected
example : checkEncoding [0x22, 0x5C, 0x75, 0x64, 0x38, 0x30, 0x30, 0x22] = false := by decide
example : checkEncoding [0x22, 0x5C, 0x75, 0x44, 0x43, 0x30, 0x30, 0x22] = false := by decide
example : checkEncoding [0x22, 0x5C, 0x75, 0x64, 0x38, 0x30, 0x30, 0x5C, 0x75, 0x30, 0x30, 0x34, 0x31, 0x22] = false := by
  decide
example : checkEncoding [0x22, 0x5C, 0x75, 0x64, 0x38, 0x30, 0x30, 0x78, 0x22] = false := by decide
-- "\ud83d\ude00" (a pair), "\\ud800" (an escaped backslash, then plain text), "\ufffd": accepted
example : checkEncoding [0x22, 0x5C, 0x75, 0x64, 0x38, 0x33, 0x64, 0x5C, 0x75, 0x64, 0x65, 0x30, 0x30, 0x22] = true := by
  decide
example : checkEncoding [0x22, 0x5C, 0x5C, 0x75, 0x64, 0x38, 0x30, 0x30, 0x22] = true := by decide
example : checkEncoding [0x22, 0x5C, 0x75, 0x66, 0x66, 0x66, 0x64, 0x22] = true := by decide
-- … but an escaped backslash followed by a lone surrogate escape is rejected
example : checkEncoding [0x22, 0x5C, 0x5C, 0x5C, 0x75, 0x64, 0x38, 0x30, 0x30, 0x22] = false := by decide
-- bytes: EF BF BD (U+FFFD itself) accepted; FF, C0 AF (overlong), ED A0 80 (a surrogate), a truncated sequence: rejected
example : checkEncoding [0x22, 0xEF, 0xBF, 0xBD, 0x22] = true ∧ checkEncoding [0x22, 0xFF, 0x22] = false ∧
    checkEncoding [0x22, 0xC0, 0xAF, 0x22] = false ∧ checkEncoding [0x22, 0xED, 0xA0, 0x80, 0x22] = false ∧
    checkEncoding [0x22, 0xEF, 0xBF] = false := by decide
-- and with rejected encoding nothing is produced, whatever the tokens
example : (match canonText [0x22, 0xFF, 0x22] [.lit (.str [0xFFFD])] true with | .err => true | _ => false) = true ∧
    (match canonText [0x22, 0xEF, 0xBF, 0xBD, 0x22] [.lit (.str [0xFFFD])] true with
      | .ok cs => cs == [0x22, 0xFFFD, 0x22] | _ => false) = true := by decide

/-- a number beyond float64 anywhere in the input (top level, array element, member value,
    after the top-level value) makes CanonicalJSON fail: it is not read as null or as anything else -/
theorem unrepresentable_number_rejected (ts : List RTok) (eof : Bool)
    (hv : decValid (ts.map cook) = true) (ho : RTok.lit .over ∈ ts) : canonRaw ts eof = .err := by
  unfold canonRaw canonTokens
  rw [unmarshal_bad _ eof hv (List.mem_map.mpr ⟨_, ho, rfl⟩)]

-- [1e999], {"a":1e999}, 1e999 and `1 1e999` are streams the decoder emits, and they are rejected
example : decValid ([RTok.lbrack, .lit .over, .rbrack].map cook) = true ∧
    (match canonRaw [.lbrack, .lit .over, .rbrack] true with | .err => true | _ => false) = true := by decide
example : decValid ([RTok.lbrace, .lit (.str [0x61]), .lit .over, .rbrace].map cook) = true ∧
    (match canonRaw [.lbrace, .lit (.str [0x61]), .lit .over, .rbrace] true with | .err => true | _ => false) = true := by
  decide
example : (match canonRaw [.lit .over] true with | .err => true | _ => false) = true ∧
    (match canonRaw [.lit (.int 1), .lit .over] true with | .err => true | _ => false) = true := by decide
-- while [null] is read as [null]
example : (match canonRaw [.lbrack, .lit .null, .rbrack] true with
    | .ok cs => cs == [0x5B, 0x6E, 0x75, 0x6C, 0x6C, 0x5D] | _ => false) = true := by decide

example : decValid [.lbrack, .val (.int 1)] = true ∧
    (match unmarshal [.lbrack, .val (.int 1)] true with | .err => true | _ => false) = true := by decide
example : decValid [.val (.int 1), .val (.int 2)] = true ∧
    (match unmarshal [.val (.int 1), .val (.int 2)] true with | .err => true | _ => false) = true := by decide
example : (match unmarshal [] true with | .err => true | _ => false) = true := by decide
example : decValid [.lbrace, .val (.str [0x61]), .rbrace] = false := by decide

/-! ## expectations over facts regenerated from /repo/c14n on every run -/
namespace Expect
open GoblVerif.Generated.C14n

theorem safeSet_covers_ascii : safeSet.length = 128 ∧ Generated.C14n.runeSelf = 128 := ⟨rfl, rfl⟩
/-- safeSet: everything except controls, `"` and `\` -/
theorem safeSet_is_json_safe : ∀ c, c < 128 → C14n.safe c = (decide (0x20 ≤ c) && c != 0x22 && c != 0x5C) := by
  decide +kernel
theorem hex_is_upper : hex = [48, 49, 50, 51, 52, 53, 54, 55, 56, 57, 65, 66, 67, 68, 69, 70] := rfl
theorem short_escapes : shortEscapes = [(92, 92), (34, 34), (10, 110), (13, 114), (9, 116), (12, 102), (8, 98)] := rfl
theorem default_escape_is_u00XX : defaultEscapeWrites = ["`u00`", "hex[b>>4]", "hex[b&0xF]"] := rfl
/-- the tables and the switch together give README rule 8 on every ASCII character -/
theorem ascii_escapes_are_readme :
    ∀ c, c < 128 → (if C14n.safe c then [c] else 0x5C :: escapeAscii c) = escChar c :=
  ascii_escape_table
/-- encodeString refuses a rune only when it is RuneError *and* was decoded from a single byte
    (undecodable input); U+FFFD itself (size 3) is copied -/
theorem rejects_undecodable_bytes_only :
    encodeString_utf8 = ["RuneSelf", "DecodeRuneInString", "RuneError"] ∧
    encodeString_reject_conds = ["c==utf8.RuneError&&size==1"] := ⟨rfl, rfl⟩
/-- UnmarshalJSON reads the input, checks its encoding and only then creates the decoder -/
theorem encoding_checked_before_decoding :
    calls_UnmarshalJSON = ["ReadAll", "checkEncoding", "NewDecoder", "NewReader", "UseNumber", "handleNextToken",
      "New", "Token", "New"] := rfl
/-- checkEncoding: utf8.Valid on the whole text, then the scan for backslashes with the two
    index moves (`i++`, `i+=6`), escapedUnit at the backslash and six bytes further on -/
theorem checkEncoding_shape :
    calls_checkEncoding = ["Valid", "New", "len", "escapedUnit", "IsSurrogate", "DecodeRune", "escapedUnit", "New"] ∧
    conds_checkEncoding = ["!utf8.Valid(data)", "data[i]!='\\\\'", "!utf16.IsSurrogate(r)",
      "utf16.DecodeRune(r,escapedUnit(data[i+5:]))==unicode.ReplacementChar"] ∧
    steps_checkEncoding = ["i++", "i++", "i+=6"] ∧
    slices_checkEncoding = ["data[i:]", "data[i+5:]"] := ⟨rfl, rfl, rfl, rfl⟩
/-- escapedUnit: six bytes, `\\` `u`, four hexadecimal digits of either case, most significant first -/
theorem escapedUnit_shape :
    conds_escapedUnit = ["len(data)<6||data[0]!='\\\\'||data[1]!='u'", "'0'<=c&&c<='9'", "'a'<=c&&c<='f'", "'A'<=c&&c<='F'"] ∧
    steps_escapedUnit = ["c-='0'", "c-='a'-10", "c-='A'-10", "r=r<<4|rune(c)"] ∧
    slices_escapedUnit = ["data[2:6]"] := ⟨rfl, rfl, rfl⟩
theorem integer_uses_FormatInt_base10 : strconv_Integer_MarshalJSON = ["strconv.FormatInt(int64(i),10)"] := rfl
theorem float_uses_AppendFloat_E_shortest :
    strconv_Float_MarshalJSON = ["strconv.AppendFloat(num,float64(f),'E',-1,64)"] := rfl
theorem sort_is_stable : sort_Object_Sort = ["SliceStable"] := rfl
theorem literals : lits_Null_MarshalJSON = ["`null`"] ∧ lits_Bool_MarshalJSON = ["`true`", "`false`"] := ⟨rfl, rfl⟩
theorem eof_is_an_error : io_handleNextToken = ["EOF", "ErrUnexpectedEOF"] := rfl
theorem top_level_checks : errors_UnmarshalJSON =
    ["\"unexpected end of JSON input\"", "\"unexpected data after top-level value\""] ∧
    io_UnmarshalJSON = ["ReadAll", "EOF"] := ⟨rfl, rfl⟩
theorem reader_shape :
    calls_handleNextToken = ["Token", "handleObject", "handleArray", "tokenToValue"] ∧
    calls_handleObject = ["new", "make", "handleAttribute", "Sort", "append"] ∧
    calls_handleArray = ["new", "make", "handleNextToken", "append"] ∧
    calls_handleAttribute = ["handleNextToken", "New", "new", "string", "handleNextToken"] ∧
    calls_tokenToValue = ["String", "Int64", "Integer", "Float64", "Float", "Errorf", "Bool", "Errorf"] := ⟨rfl, rfl, rfl, rfl, rfl⟩
/-- tokenToValue dispatches on the token's type: a number that is neither Int64 nor Float64 and a
    token of an unknown type end in an error; `Null{}` is returned for the `nil` token only and
    nothing is returned outside the switch (no fall-through value) -/
theorem token_dispatch :
    tokenToValue_dispatch =
      [("string", ["String"]), ("json.Number", ["Integer", "Float", "error"]), ("bool", ["Bool"]),
       ("nil", ["Null"]), ("default", ["error"]), ("(outside)", [])] := rfl

end Expect

/-! ## Src: the regenerated translation of the writers of /repo/c14n (Generated/C14nSrc.lean)

  Generated/C14nSrc.lean is the translation, by go2lean in its byte mode, of
  encodeString (+ safeSet, hex), String/Integer/Float/Bool/Null.MarshalJSON,
  Attribute/Array/Object.MarshalJSON, Object.Sort, checkEncoding and escapedUnit.
  The theorems below relate those definitions to the model the theorems above
  are about, each for all arguments, with one gap: the ERROR branch of
  encodeString, `∀ s` with a non-scalar element `(Src.encodeString (utf8s s)).2.isSome`,
  is covered by examples only (`src_encodeString_rejects`; json.Decoder never
  yields such a string, and the model rejects it).
-/
namespace Src
open GoblVerif.Generated GoblVerif.GoBytes GoblVerif.C14nSrc GoblVerif.GoSem

theorem src_null (n : C14nSrc.Null) : obs (C14nSrc.Null_MarshalJSON n) = (marshalAtom .null).map utf8s := by
  cases n; decide

theorem src_bool (b : Bool) : obs (C14nSrc.Bool_MarshalJSON b) = (marshalAtom (.bool b)).map utf8s := by
  cases b <;> decide

theorem src_integer (i : Int) : obs (C14nSrc.Integer_MarshalJSON i) = (marshalAtom (.int i)).map utf8s := by
  simp only [C14nSrc.Integer_MarshalJSON, marshalAtom, Option.map_some, utf8s_ascii _ (fun x hx => by have := formatInt_range i x hx; omega)]
  rfl

theorem src_string (s : Bytes) : C14nSrc.String_MarshalJSON s = C14nSrc.encodeString s := rfl

/-! ### encodeString -/

/-- HEADLINE rule 8 over the regenerated definition, all strings: encodeString,
    run on the UTF-8 bytes of a string of Unicode scalar values (what
    `json.Decoder` yields), returns no error and the UTF-8 of the model's text — the byte loop
    with its `start` / lazy copy, the safeSet test, the `switch`, hex[b>>4] hex[b&0xF], and
    utf8.DecodeRuneInString skipping the non-ASCII characters.  With `escapes_minimal` the text
    is `"` ++ README escapes ++ `"`.  (A string with a non-scalar element is rejected by the
    model; for the regenerated code that branch is covered by `src_encodeString_rejects`.) -/
theorem src_encodeString (s : GoblVerif.Str) (hs : s.all isScalar = true) :
    obs (C14nSrc.encodeString (utf8s s)) = (C14n.encodeString s).map utf8s := by
  unfold C14nSrc.encodeString
  simp only [Id.run]
  rw [forIn_range_fuel _ (fun _ _ => rfl)]
  generalize hB : utf8s s = B
  generalize hr : forFuel _ B.length _ = r
  have hr' : r = forFuel (encStep B) B.length (none, [] ++ [34], 0, 0) := by
    rw [← hr]; clear hr
    refine forFuel_congr _ _ (fun st => ?_) _ _
    simp only [encStep, Id.run, GoSem.id_pure, show Int.toNat 4 = 4 from rfl]
    by_cases h1 : st.2.2.2 < (B.length : Int)
    · simp only [h1, not_true_eq_false, if_false]
      by_cases h2 : byteAt B st.2.2.2.toNat < 128
      · simp only [h2, if_true]
        by_cases h3 : C14nSrc.safeSet[byteAt B st.2.2.2.toNat]! = true
        · simp only [h3, if_true]
        simp only [h3, if_false, Bool.false_eq_true]
        by_cases h4 : st.2.2.1 < st.2.2.2 <;> simp only [h4, if_true, if_false] <;>
          exact escSwitch _ _ (fun x => ForInStep.yield (none, x, _, _))
      · simp only [h2, if_false]
    · simp only [h1, not_false_eq_true, if_true]
  clear hr
  obtain ⟨buf', start', h2, h3⟩ := enc_loop B s [] ([] ++ [34]) 0 B.length (by rw [← hB]; rfl)
    (Nat.zero_le _) (by rw [← hB]; exact utf8s_length_ge s) hs
  have h2' : r = (none, buf', (start' : Int), (B.length : Int)) := by
    rw [hr', ← h2]; rfl
  subst h2'
  rw [encodeString_eq, show cleanS s = true from hs]
  simp only [pure_bind, Int.toNat_natCast]
  have hfin : ¬ (start' : Int) < (B.length : Int) → buf' = buf' ++ List.drop start' B := fun h => by
    rw [List.drop_eq_nil_iff.mpr (by omega), List.append_nil]
  have hbytes : buf' ++ List.drop start' B ++ [34] = utf8s (strText s) := by
    rw [h3]; simp [strText, utf8s_cons, utf8s_append, utf8s_nil, slice, utf8_ascii]
  split
  · rw [hbytes]; rfl
  · rw [hfin ‹_›, hbytes]; rfl

/-- the error branch of encodeString: bytes that are not the encoding of a scalar value (an
    encoded surrogate, a stray continuation byte, 0xFF, a truncated sequence) are refused, also
    after text that needed escaping -/
theorem src_encodeString_rejects :
    (C14nSrc.encodeString [0xED, 0xA0, 0x80]).2.isSome = true ∧
    (C14nSrc.encodeString [97, 0x80]).2.isSome = true ∧
    (C14nSrc.encodeString [10, 0xFF, 97]).2.isSome = true ∧
    (C14nSrc.encodeString [0xE2, 0x82]).2.isSome = true ∧
    (C14nSrc.encodeString [0xF4, 0x90, 0x80, 0x80]).2.isSome = true := by
  decide +kernel

/-- the string of U+FFFD itself is accepted and copied (size 3, not the error value) -/
example : C14nSrc.encodeString [0xEF, 0xBF, 0xBD] = ([0x22, 0xEF, 0xBF, 0xBD, 0x22], none) := by decide +kernel

theorem scalar_of_not_any (s : GoblVerif.Str) (h : s.any (fun c => !isScalar c) = false) : s.all isScalar = true := by
  simpa [cleanS, h] using cleanS_eq s

theorem src_attribute (k : Str) (v : J)
    (hk : obs (C14nSrc.encodeString (utf8s k)) = (C14n.encodeString k).map utf8s)
    (hv : obs (srcJ v) = (marshalJ v).map utf8s) :
    obs (C14nSrc.Attribute_MarshalJSON ⟨utf8s k, ⟨v.isNull, srcJ v⟩⟩) =
      (attrJoin v.isNull (C14n.encodeString k) (marshalJ v)).map utf8s := by
  unfold C14nSrc.Attribute_MarshalJSON attrJoin
  simp only [Id.run]
  cases hn : v.isNull with
  | true => simp [obs, utf8s_nil, GoSem.id_pure]
  | false =>
    simp only [Bool.false_eq_true, if_false]
    cases hke : C14n.encodeString k <;> rw [hke] at hk
    · simp [obs_eq_none hk, obs, GoSem.id_pure]
    obtain ⟨h1, h2⟩ := obs_eq_some hk
    cases hve : marshalJ v <;> rw [hve] at hv
    · simp [h1, obs_eq_none hv, obs, GoSem.id_pure]
    obtain ⟨h3, h4⟩ := obs_eq_some hv
    simp [h1, h3, obs, GoSem.id_pure, h2, h4, utf8s_append, utf8s_cons, utf8_ascii]

/-! ### Float.MarshalJSON -/

theorem src_float_text (t : Bytes) (hE : 69 ∈ t) : C14nSrc.Float_MarshalJSON t = (floatHacks t, none) := by
  have hne : t ≠ [] := by intro h; subst h; simp at hE
  unfold C14nSrc.Float_MarshalJSON
  -- the join points of the translated body become local definitions, each is characterised once:
  -- `point` is entered with the index `d`, `rest` with the text once the decimal point is in place
  extract_lets num0 num one zero rest point two
  have hnum : num = t := appendFloat_nil t
  have hrest : ∀ n, 69 ∈ n → rest () n = ((splitAtE n).1 ++ expHacks (splitAtE n).2, none) := by
    intro n hn
    obtain ⟨k, h1, hk, h3, h4⟩ := indexByte_splitAtE n hn
    have e1 : ((k : Int) + 1).toNat = k + 1 := by omega
    have e2 : ((n.length : Int) - (k : Int) - 1).toNat = (List.drop (k + 1) n).length := by
      simp only [List.length_drop]; omega
    unfold rest
    -- `tail` is entered with the exponent once a leading `+` is gone, `fin` with the final exponent
    extract_lets i exp0 exp num1 fin tail exp'
    have hexp : exp = (splitAtE n).2 := by simp only [exp, exp0, i, h1, e1, e2, copy_fresh, h4]
    have hnum1 : num1 = (splitAtE n).1 := by simp only [num1, i, h1, e1, h3]
    have htail : ∀ e, tail () e = (num1 ++ (if (scanExp e 0 e.length 0 0).2 != 0 then
        e.take (scanExp e 0 e.length 0 0).1 ++ e.drop (scanExp e 0 e.length 0 0).2 else e), none) := by
      intro e
      simp only [tail, fin]
      refine (scanLoop_bind _ _ (by intros; rfl) _ _).trans ?_
      generalize scanExp _ _ _ _ _ = jk
      obtain ⟨j, k'⟩ := jk
      by_cases hk0 : k' = 0 <;> simp [hk0, GoSem.id_pure]
    have hplus : (if exp[Int.toNat 0]! = 43 then exp' else exp) =
        if exp.head? == some 0x2B then exp.drop 1 else exp := by
      rw [head?_beq_plus]; simp only [decide_eq_true_eq]; rfl
    rw [← apply_ite (tail ()), htail, hplus, hexp, hnum1]; rfl
  have hpoint : ∀ d, point () d =
      rest () (if num[d.toNat]! ≠ 46 then List.take d.toNat num ++ ([46, 48] ++ List.drop d.toNat num) else num) := by
    intro d; simp only [point]; split <;> rfl
  have hmem : ∀ d : Nat, 69 ∈ (if t[d]! ≠ 46 then List.take d t ++ ([46, 48] ++ List.drop d t) else t) := by
    intro d; split
    · exact mem_insert_point t d hE
    · exact hE
  rw [← apply_ite (point ()), hpoint, hnum, hrest _ (hmem _)]
  exact congrArg (fun n => ((splitAtE n).1 ++ expHacks (splitAtE n).2, none)) (insertPoint_eq t hne)

theorem strconvE_has_E (n : Bool) (ds : List Nat) (e : Int) : 69 ∈ strconvE n ds e := by
  unfold strconvE; simp

/-- Float.MarshalJSON = the model, for every float (given by strconv's text) -/
theorem src_float (n : Bool) (ds : List Nat) (e : Int) :
    C14nSrc.Float_MarshalJSON (strconvE n ds e) = (marshalFloat n ds e, none) :=
  src_float_text _ (strconvE_has_E n ds e)


/-- the same with the result read as UTF-8 (the text is ASCII) -/
theorem src_float_utf8 (n : Bool) (ds : List Nat) (e : Int) (hw : wfDigits ds = true) :
    C14nSrc.Float_MarshalJSON (strconvE n ds e) = (utf8s (marshalFloat n ds e), none) := by
  rw [src_float, marshalFloat_eq n ds e hw, utf8s_ascii _ (fun x hx => by have := fltText_range n ds e hw x hx; omega)]

/-- headline, rule 7, over the regenerated definition: what Float.MarshalJSON makes
    of strconv's text is `[-]d.d+E[-]d+` -/
theorem src_float_form (neg : Bool) (ds : List Nat) (e : Int) (hw : wfFloat ds e = true) :
    C14nSrc.Float_MarshalJSON (strconvE neg ds e) = (fltText neg ds e, none) ∧
    isFloatForm (fltText neg ds e) = true := by
  have hd : wfDigits ds = true := by simp only [wfFloat, Bool.and_eq_true] at hw; exact hw.1
  exact ⟨by rw [src_float, marshalFloat_eq neg ds e hd], isFloatForm_fltText neg ds e hw⟩

example : wfFloat [1, 5] 0 = true := by decide

/-! ### the recursion through the interface Canonicalable -/

mutual
/-- the second hypothesis: what `json.Decoder` guarantees about the strings of a value, Unicode scalar values only -/
theorem tieJ : ∀ v : J, v.wf = true → strsHave (fun c => !isScalar c) v = false →
    obs (srcJ v) = (marshalJ v).map utf8s
  | .atom .null, _, _ => src_null {}
  | .atom (.bool b), _, _ => src_bool b
  | .atom (.int i), _, _ => src_integer i
  | .atom (.flt n ds e), hw, _ => by
    rw [srcJ, src_float_utf8 n ds e (by simpa [J.wf, Atom.wf] using hw)]; rfl
  | .atom (.str s), _, hs => by
    rw [srcJ]; exact src_encodeString s (scalar_of_not_any s (by simpa [strsHave] using hs))
  | .arr xs, hw, hs => by
    have hw' : JL.wf xs = true := by simpa [J.wf] using hw
    have hs' : strsHaveL (fun c => !isScalar c) xs = false := by simpa [strsHave] using hs
    unfold srcJ C14nSrc.Array_MarshalJSON
    simp only [marshalJ]
    exact obs_bracketed _ id 91 93 (by decide) (by decide) _ (ArrPost_iff.mp (tieL xs hw' hs' 0 ([] ++ [91]) _ (fun _ _ => rfl))) _
      (fun s => by rcases s with ⟨_ | _, _⟩ <;> rfl)
  | .obj kvs, hw, hs => by
    have hw' : KL.wf kvs = true := by simpa [J.wf] using hw
    have hs' : strsHaveK (fun c => !isScalar c) kvs = false := by simpa [strsHave] using hs
    unfold srcJ C14nSrc.Object_MarshalJSON
    simp only [marshalJ]
    exact obs_bracketed _ Prod.fst 123 125 (by decide) (by decide) _ (ObjPost_iff.mp (tieK kvs hw' hs' true ([] ++ [123]) _ (fun _ _ => rfl))) _
      (fun s => by rcases s with ⟨_ | _, _⟩ <;> rfl)
theorem tieL : ∀ xs : JL, JL.wf xs = true → strsHaveL (fun c => !isScalar c) xs = false →
    ∀ (n : Nat) (buf : Bytes) (f : Canon × Nat → ArrSt → Id (ForInStep ArrSt)),
    (∀ it s, f it s = pure (arrStep it s)) →
    ArrPost (forIn (m := Id) ((srcL xs).zipIdx n) (none, buf) f).run buf (marshalL (n == 0) xs)
  | .nil, _, _, n, buf, f, hf => by rw [forIn_pure _ _ f _ hf]; simp [srcL, marshalL, ArrPost, forList, utf8s_nil]
  | .cons x xs, hw, hs, n, buf, f, hf => by
    have hw' : J.wf x = true ∧ JL.wf xs = true := by simpa [JL.wf] using hw
    have hs' : strsHave (fun c => !isScalar c) x = false ∧ strsHaveL (fun c => !isScalar c) xs = false := by
      simpa [strsHaveL] using hs
    unfold srcL marshalL
    rw [forIn_pure _ _ f _ hf]
    exact arr_cons _ _ n buf _ _ (tieJ x hw'.1 hs'.1) (fun b => by
      have := tieL xs hw'.2 hs'.2 (n + 1) b f hf
      rw [forIn_pure _ _ f _ hf] at this
      simpa using this)
theorem tieK : ∀ kvs : KL, KL.wf kvs = true → strsHaveK (fun c => !isScalar c) kvs = false →
    ∀ (first : Bool) (buf : Bytes) (f : C14nSrc.Attribute → ObjSt → Id (ForInStep ObjSt)),
    (∀ it s, f it s = pure (objStep (C14nSrc.Attribute_MarshalJSON it) s)) →
    ObjPost (forIn (m := Id) (srcK kvs) (none, buf, first) f).run buf (marshalK first kvs)
  | .nil, _, _, first, buf, f, hf => by rw [forIn_pure _ _ f _ hf]; simp [srcK, marshalK, ObjPost, forList, utf8s_nil]
  | .cons k v r, hw, hs, first, buf, f, hf => by
    have hw' : J.wf v = true ∧ KL.wf r = true := by simpa [KL.wf] using hw
    have hs' : (k.any (fun c => !isScalar c) = false ∧ strsHave (fun c => !isScalar c) v = false) ∧
        strsHaveK (fun c => !isScalar c) r = false := by
      simpa [strsHaveK] using hs
    unfold srcK marshalK
    have hh := src_attribute k v (src_encodeString k (scalar_of_not_any k hs'.1.1)) (tieJ v hw'.1 hs'.1.2)
    generalize attrJoin v.isNull (C14n.encodeString k) (marshalJ v) = m at hh ⊢
    rw [forIn_pure _ _ f _ hf]
    have := obj_cons C14nSrc.Attribute_MarshalJSON _ (srcK r) first buf m (fun fl => marshalK fl r)
      hh (fun fl b => by have := tieK r hw'.2 hs'.2 fl b f hf; rwa [forIn_pure _ _ f _ hf] at this)
    cases m <;> exact this
end

/-- Go's MarshalJSON on the value that stands for `v`, computed by the TRANSLATED methods at
    every node (a Canonicalable being what its MarshalJSON returned), returns no error and the
    UTF-8 of the model's text, for every value `json.Decoder` can hand over (well-formed float
    digits, strings of scalar values): strings, numbers, the commas of Array.MarshalJSON, the
    `first` flag and the NULL-MEMBER FILTER of Object.MarshalJSON, key `:` value -/
theorem marshal_tie (v : J) (hw : v.wf = true) (hs : strsHave (fun c => !isScalar c) v = false) :
    obs (srcJ v) = (marshalJ v).map utf8s :=
  tieJ v hw hs

example : J.wf (.obj (.cons [97] (.atom .null) (.cons [0xE9] (.arr (.cons (.atom (.flt true [1, 5] 0)) .nil)) .nil))) = true ∧
    strsHave (fun c => !isScalar c) (.obj (.cons [97] (.atom .null) (.cons [0xE9] (.arr (.cons (.atom (.flt true [1, 5] 0)) .nil)) .nil))) = false := by
  decide

/-! ### escapedUnit -/

/-- escapedUnit = the model (`none` is Go's -1), for all arguments -/
theorem src_escapedUnit (data : Bytes) :
    C14nSrc.escapedUnit data = match C14n.escapedUnit data with
      | some u => ((u : Nat) : Int)
      | none => -1 := by
  unfold C14nSrc.escapedUnit
  simp only [Id.run, show Int.toNat 0 = 0 from rfl, show Int.toNat 1 = 1 from rfl]
  rcases data with _ | ⟨a0, _ | ⟨a1, _ | ⟨a, _ | ⟨b, _ | ⟨c, _ | ⟨d, rest⟩⟩⟩⟩⟩⟩
  iterate 6 simp [C14n.escapedUnit, GoSem.id_pure]
  have hsl : slice (a0 :: a1 :: a :: b :: c :: d :: rest) 2 6 = [a, b, c, d] := by simp [slice]
  have hlen : ¬ (((a0 :: a1 :: a :: b :: c :: d :: rest).length : Int) < 6) := by simp; omega
  simp only [hsl, hlen, List.getElem!_cons_zero, List.getElem!_cons_succ, false_or]
  by_cases hg : a0 ≠ 92 ∨ a1 ≠ 117
  · rw [if_pos hg, escapedUnit_guard _ _ _ hg]; rfl
  · obtain ⟨rfl, rfl⟩ : a0 = 92 ∧ a1 = 117 := by omega
    rw [if_neg hg]
    rw [escapedUnit_eq_hexFold]
    exact hexLoop_bind _ (by intros; rfl) _ _ (by intro s; rcases s with ⟨_ | _, _⟩ <;> rfl)

/-! ### checkEncoding -/

/-- checkEncoding = the model, for all texts: nil error exactly when the bytes are
    valid UTF-8 and every `\uXXXX` escape of a surrogate is the high half of a pair -/
theorem src_checkEncoding (data : Bytes) : (C14nSrc.checkEncoding data).isNone = C14n.checkEncoding data := by
  unfold C14nSrc.checkEncoding C14n.checkEncoding
  simp only [Id.run]
  split
  · rename_i hv
    have : utf8Valid data = false := by simpa using hv
    simp [this, GoStr.errNew, GoSem.id_pure]
  rename_i hv
  have hv' : utf8Valid data = true := by simpa using hv
  rw [forIn_range_fuel _ (fun _ _ => rfl)]
  generalize hr : forFuel _ data.length _ = r
  have hr' : r = forFuel (chkStep C14nSrc.escapedUnit data) data.length (none, 0) := by
    rw [← hr]; clear hr
    refine forFuel_congr _ _ (fun st => ?_) _ _
    simp only [chkStep, Id.run, GoSem.id_pure]
  clear hr
  have heu : ∀ b, C14nSrc.escapedUnit b = unitInt (C14n.escapedUnit b) := by
    intro b; rw [src_escapedUnit]; cases C14n.escapedUnit b <;> rfl
  have hl := chk_loop C14nSrc.escapedUnit heu data data [] 0 data.length (by simp) (by simp)
  have h1 : r.1 = chkRes (surrogatesPaired 0 data) := by
    rw [hr', ← hl]; simp
  rcases r with ⟨r1, r2⟩
  simp only at h1
  subst h1
  simp only [hv', Bool.true_and, pure_bind]
  cases surrogatesPaired 0 data <;> simp [chkRes, GoStr.errNew, GoSem.id_pure]

/-- checkEncoding and escapedUnit on the cases of the README:
    a surrogate pair passes, an escaped backslash before `ud800` is not an escape, two high
    surrogates are rejected, a lone low surrogate is rejected, invalid UTF-8 is rejected -/
theorem src_check_examples :
    (C14nSrc.checkEncoding [34, 92, 117, 100, 56, 48, 48, 92, 117, 100, 99, 48, 48, 34]).isNone = true ∧
    (C14nSrc.checkEncoding [34, 92, 92, 117, 100, 56, 48, 48, 34]).isNone = true ∧
    (C14nSrc.checkEncoding [34, 92, 117, 100, 56, 48, 48, 92, 117, 100, 56, 48, 48, 34]).isNone = false ∧
    (C14nSrc.checkEncoding [34, 92, 117, 68, 67, 48, 48, 34]).isNone = false ∧
    (C14nSrc.checkEncoding [34, 0xC3, 34]).isNone = false ∧
    C14nSrc.escapedUnit [92, 117, 100, 56, 65, 102, 34] = 0xD8AF ∧
    C14nSrc.escapedUnit [92, 117, 100, 56, 65] = -1 ∧
    C14nSrc.escapedUnit [92, 117, 100, 56, 65, 103] = -1 := by
  decide +kernel

/-- the regenerated checkEncoding agrees with the model on every text of at most three bytes
    taken from an alphabet that reaches every branch (backslash, `u`, a hex digit, a lead byte,
    a continuation byte) -/
theorem src_checkEncoding_small :
    ∀ a ∈ [92, 117, 100, 0xC3, 0xA9], ∀ b ∈ [92, 117, 100, 0xC3, 0xA9], ∀ c ∈ [92, 117, 100, 0xC3, 0xA9],
      (C14nSrc.checkEncoding [a, b, c]).isNone = C14n.checkEncoding [a, b, c] := by
  decide +kernel

/-! ### Object.Sort -/

/-- the comparator handed to sort.SliceStable is the bytewise order of the keys -/
theorem src_sort (kvs : List (Str × J)) (src : J → Bytes × Err) :
    (C14nSrc.Object_Sort ⟨kvs.map (attrOf src)⟩).2 = ⟨(sortL kvs).map (attrOf src)⟩ := by
  unfold C14nSrc.Object_Sort
  simp only [Id.run, GoSem.id_pure]
  congr 1
  exact stableSort_map (attrOf src) _ (fun a b => by simp [attrOf, ltBytes_eq_ltS, ltS_utf8s]) kvs

/-! ### headline statements, directly over the regenerated definitions -/

/-- README rule 8, one ASCII byte at a time: what `encodeString`
    writes for the one-byte string `[b]` is the quoted README escape of `b` -/
theorem src_escape_table_is_readme :
    ∀ b : Fin 128, C14nSrc.encodeString [b.val] = (0x22 :: (escChar b.val ++ [0x22]), none) := by
  decide +kernel

theorem src_float_examples :
    (C14nSrc.Float_MarshalJSON (strconvE true [1, 5] 0)).1 = [45, 49, 46, 53, 69, 48] ∧        -- -1.5E0
    (C14nSrc.Float_MarshalJSON (strconvE false [1] 21)).1 = [49, 46, 48, 69, 50, 49] ∧          -- 1.0E21
    (C14nSrc.Float_MarshalJSON (strconvE false [1] 100)).1 = [49, 46, 48, 69, 49, 48, 48] ∧     -- 1.0E100
    (C14nSrc.Float_MarshalJSON (strconvE true [1, 2, 3] (-7))).1 = [45, 49, 46, 50, 51, 69, 45, 55] := by  -- -1.23E-7
  decide +kernel

/-! ### the loops never run out of fuel (one theorem per entry of `fuelChecks`) -/

theorem encodeString_fuel_suffices (s : Bytes) : C14nSrc.encodeString_fuelOK s = true := by
  unfold C14nSrc.encodeString_fuelOK
  simp only [Id.run]
  rw [forIn_range_fuel _ (fun _ _ => rfl)]
  simp only [pure_bind]
  generalize hr : forFuel _ s.length _ = r
  have key : r.1 = some true ∨ ((r.1 = none ∧ 0 ≤ r.2.2.2) ∧ ¬ r.2.2.2 < (s.length : Int)) := by
    rw [← hr]
    refine forFuel_progress _ (fun b : Option Bool × Bytes × Int × Int => b.2.2.2) (s.length : Int)
      (fun b => b.1 = some true) (fun b => b.1 = none ∧ 0 ≤ b.2.2.2) ?_ s.length _ ⟨rfl, by simp⟩ (by simp)
    intro b ⟨_, hi⟩
    have hw := decodeRune_width_at s b.2.2.2 hi
    -- every round that goes on moves the index by one or by the width of a rune, whatever it writes
    simp only [Id.run, GoSem.id_pure, stepProp_ite_id, stepProp_done, stepProp_yield, ite_self, true_and, true_or]
    split
    · exact Or.inr ⟨hi, ‹_›⟩
    · have hw := hw (Decidable.not_not.mp ‹_›)
      (repeat' split) <;> first | trivial | omega
  clear hr
  rcases key with h | ⟨⟨h1, _⟩, h2⟩
  · rw [h]; rfl
  · rw [h1]; simp only [h2, if_false]; split <;> rfl

theorem checkEncoding_fuel_suffices (s : Bytes) : C14nSrc.checkEncoding_fuelOK s = true := by
  unfold C14nSrc.checkEncoding_fuelOK
  simp only [Id.run]
  split
  · rfl
  rw [forIn_range_fuel _ (fun _ _ => rfl)]
  simp only [pure_bind]
  generalize hr : forFuel _ s.length _ = r
  have key : r.1 = some true ∨ ((r.1 = none) ∧ ¬ r.2 < (s.length : Int)) := by
    rw [← hr]
    refine forFuel_progress _ (fun b : Option Bool × Int => b.2) (s.length : Int)
      (fun b => b.1 = some true) (fun b => b.1 = none) ?_ s.length _ rfl (by simp)
    intro b _
    simp only [Id.run, GoSem.id_pure, stepProp_ite_id, stepProp_done, stepProp_yield, true_and, true_or]
    split
    · exact Or.inr ‹_›
    · (repeat' split) <;> first | trivial | omega
  clear hr
  rcases key with h | ⟨h1, h2⟩
  · rw [h]; rfl
  · rw [h1]; simp only [h2, if_false]; rfl

/-! ### pins: what the translation rests on (they can only be changed together with the theorems above) -/

theorem nothing_untranslated : C14nSrc.untranslated = [] := rfl
theorem translated_all : C14nSrc.translated =
    ["escapedUnit", "checkEncoding", "var safeSet", "var hex", "encodeString", "String.MarshalJSON",
     "Integer.MarshalJSON", "Bool.MarshalJSON", "Null.MarshalJSON", "Float.MarshalJSON", "Attribute.MarshalJSON",
     "Array.MarshalJSON", "Object.MarshalJSON", "Object.Sort"] := rfl

theorem fuel_checks : C14nSrc.fuelChecks = ["checkEncoding_fuelOK", "encodeString_fuelOK"] := rfl

/-- the three unsigned subtractions of escapedUnit are guarded by the range test of their `case` -/
theorem nat_subs : C14nSrc.natSubs =
    [("escapedUnit", "c -= '0'", ["'0' <= c && c <= '9'"]),
     ("escapedUnit", "c -= 'a' - 10", ["!('0' <= c && c <= '9')", "'a' <= c && c <= 'f'"]),
     ("escapedUnit", "c -= 'A' - 10", ["!('0' <= c && c <= '9')", "!('a' <= c && c <= 'f')", "'A' <= c && c <= 'F'"])] := rfl

theorem structs_pinned :
    C14nSrc.struct_Array = [("Values", "[]Canonicalable")] ∧
    C14nSrc.struct_Attribute = [("Key", "string"), ("Value", "Canonicalable")] ∧
    C14nSrc.struct_Null = [] ∧
    C14nSrc.struct_Object = [("Attributes", "[]*Attribute")] ∧
    C14nSrc.nonNilElems = ["[]*Attribute"] ∧
    C14nSrc.inOutParams = [("Object.Sort", "o")] := ⟨rfl, rfl, rfl, rfl, rfl, rfl⟩

theorem named_types_pinned : C14nSrc.namedTypes =
    [("Canonicalable", "interface{MarshalJSON() ([]byte, error)}", "GoblVerif.GoBytes.Canon"),
     ("Float", "float64", "GoblVerif.GoBytes.Str"),
     ("bytes.Buffer", "struct{}", "GoblVerif.GoBytes.Str"),
     ("error", "interface{Error() string}", "GoblVerif.GoBytes.Err")] := rfl

theorem primitives_pinned : C14nSrc.primitives.map (·.1) =
    ["&json.UnsupportedValueError", "Canonicalable.(Null)", "Canonicalable.MarshalJSON", "bytes.IndexByte", "errors.New",
     "strconv.AppendFloat", "strconv.FormatInt", "utf16.DecodeRune", "utf16.IsSurrogate", "utf8.DecodeRuneInString",
     "utf8.Valid"] := rfl

end Src

end GoblVerif.Props.C07
