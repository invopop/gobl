/-
  C13 — Tax identity codes are accepted exactly when the national check allows;
  normalisation laws.

  The property theorems; their helper lemmas are in Proofs/TaxId*.lean, Detect.lean, Normalize.lean.  The one
  exception is namespace `Src`: every theorem that names a regenerated definition stands here, the ties
  `src_xx_validate` and the lemmas about the functions they call (`src_pl_checksum`, `src_luhn`, `src_co_digits` …),
  so that a change of the Go source breaks a theorem of this file, which `./check C13` then names; Proofs/TaxIdSrc.lean
  has only what names no generated definition (the primitives on gated input, the loop shapes several checkers share).
  `XX.goValid` is the model of Go's validation of a non-empty code
  (Model/TaxId.lean: generic gate `^[A-Z0-9]+$` and the regime validator),
  `Spec.TaxId.XX.format/check` the published national rule (Spec/C13.lean).
  Every `…_valid_iff_spec` is over ALL strings: the regime validator is the
  published rule as a Boolean function (`XX.regime_eq`), and a well-formed code
  passes the gate (`XX.gate_of_format`).
-/
import GoblVerif.Proofs.TaxId
import GoblVerif.Proofs.TaxIdES
import GoblVerif.Proofs.TaxIdGB
import GoblVerif.Proofs.TaxIdIN
import GoblVerif.Proofs.Normalize
import GoblVerif.Proofs.Detect
import GoblVerif.Generated.TaxIdFacts
import GoblVerif.Generated.TaxIdSrc
import GoblVerif.Proofs.TaxIdSrc
import Mathlib.Data.List.TakeDrop

namespace GoblVerif.Props.C13
open GoblVerif.TaxId GoblVerif.TaxId.Norm GoblVerif.TaxId.Detect
open GoblVerif.Spec.TaxId (digs dot num dg isDigits digitSum luhnValid luhnTotal)

theorem ae_valid_iff_spec (s : Str) :
    AE.goValid s = true ↔ (Spec.TaxId.AE.format s = true ∧ Spec.TaxId.AE.check s = true) := by
  exact goValid_iff (AE.regime_eq s) AE.gate_of_format

theorem pl_valid_iff_spec (s : Str) :
    PL.goValid s = true ↔ (Spec.TaxId.PL.format s = true ∧ Spec.TaxId.PL.check s = true) := by
  exact goValid_iff (PL.regime_eq s) PL.gate_of_format

theorem gr_valid_iff_spec (s : Str) :
    GR.goValid s = true ↔ (Spec.TaxId.GR.format s = true ∧ Spec.TaxId.GR.check s = true) := by
  exact goValid_iff (GR.regime_eq s) GR.gate_of_format

theorem ch_valid_iff_spec (s : Str) :
    CH.goValid s = true ↔ (Spec.TaxId.CH.format s = true ∧ Spec.TaxId.CH.check s = true) := by
  exact goValid_iff (CH.regime_eq s) CH.gate_of_format

theorem at_valid_iff_spec (s : Str) :
    AT.goValid s = true ↔ (Spec.TaxId.AT.format s = true ∧ Spec.TaxId.AT.check s = true) := by
  exact goValid_iff (AT.regime_eq s) AT.gate_of_format

theorem pt_valid_iff_spec (s : Str) :
    PT.goValid s = true ↔ (Spec.TaxId.PT.format s = true ∧ Spec.TaxId.PT.check s = true) := by
  exact goValid_iff (PT.regime_eq s) PT.gate_of_format

theorem it_valid_iff_spec (s : Str) :
    IT.goValid s = true ↔ (Spec.TaxId.IT.format s = true ∧ Spec.TaxId.IT.check s = true) := by
  exact goValid_iff (IT.regime_eq s) IT.gate_of_format

theorem de_valid_iff_spec (s : Str) :
    DE.goValid s = true ↔ (Spec.TaxId.DE.format s = true ∧ Spec.TaxId.DE.check s = true) := by
  exact goValid_iff (DE.regime_eq s) DE.gate_of_format

theorem be_valid_iff_spec (s : Str) :
    BE.goValid s = true ↔ (Spec.TaxId.BE.format s = true ∧ Spec.TaxId.BE.check s = true) := by
  exact goValid_iff (BE.regime_eq s) BE.gate_of_format

theorem co_valid_iff_spec (s : Str) :
    CO.goValid s = true ↔ (Spec.TaxId.CO.format s = true ∧ Spec.TaxId.CO.check s = true) := by
  exact goValid_iff (CO.regime_eq s) CO.gate_of_format

theorem br_valid_iff_spec (s : Str) :
    BR.goValid s = true ↔ (Spec.TaxId.BR.format s = true ∧ Spec.TaxId.BR.check s = true) := by
  exact goValid_iff (BR.regime_eq s) BR.gate_of_format

/-- the Go form of the French key, (100·n + 12) mod 97, is the published (12 + 3·(n mod 97)) mod 97 -/
theorem fr_key_formula (n : Nat) : (100 * n + 12) % 97 = (12 + 3 * (n % 97)) % 97 := FR.key_formula n

theorem fr_valid_iff_spec (s : Str) :
    FR.goValid s = true ↔ (Spec.TaxId.FR.format s = true ∧ Spec.TaxId.FR.check s = true) := by
  exact goValid_iff (FR.regime_eq s) FR.gate_of_format

theorem mx_valid_iff_spec (s : Str) :
    MX.goValid s = true ↔ (Spec.TaxId.MX.format s = true ∧ Spec.TaxId.MX.check s = true) := by
  rw [MX.goValid, MX.regime_eq, Bool.and_eq_true]

/-- NL: Go accepts exactly the published rule (11-test, in which a remainder of 10 has
    no check digit, or the mod-97 test) -/
theorem nl_valid_iff_spec (s : Str) :
    NL.goValid s = true ↔ (Spec.TaxId.NL.format s = true ∧ Spec.TaxId.NL.check s = true) := by
  exact goValid_iff (NL.regime_eq s) NL.gate_of_format

theorem es_valid_iff_spec (s : Str) :
    ES.goValid s = true ↔ (Spec.TaxId.ES.format s = true ∧ Spec.TaxId.ES.check s = true) := by
  exact goValid_iff (ES.regime_eq s) ES.gate_of_format

theorem gb_valid_iff_spec (s : Str) :
    GB.goValid s = true ↔ (Spec.TaxId.GB.format s = true ∧ Spec.TaxId.GB.check s = true) := by
  exact goValid_iff (GB.regime_eq s) GB.gate_of_format

theorem in_valid_iff_spec (s : Str) :
    IN.goValid s = true ↔ (Spec.TaxId.IN.format s = true ∧ Spec.TaxId.IN.check s = true) := by
  exact goValid_iff (IN.regime_eq s) IN.gate_of_format

/-- normalising twice = normalising once, for every country, every list of alternative
    codes and every text, doubled prefixes (`ESES…`, `XIGB…`) included: the prefix loop of
    `tax.NormalizeIdentity` runs until nothing is stripped any more (holds since /repo `b7cd584`) -/
theorem normalize_idem (country : Str) (alts : List Str) (code : Str) :
    normalizeIdentity country alts (normalizeIdentity country alts code) = normalizeIdentity country alts code :=
  normalizeIdentity_fixed country alts _ (normalizeIdentity_clean country alts code)
    (normalizeIdentity_stable country alts code)

/-- no country prefix is left: the result starts neither with the country nor with an alternative code -/
theorem normalize_no_prefix_left (country : Str) (alts : List Str) (code : Str) :
    (country ≠ [] → country.isPrefixOf (normalizeIdentity country alts code) = false) ∧
    (∀ a ∈ alts, a ≠ [] → a.isPrefixOf (normalizeIdentity country alts code) = false) := by
  -- a further pass leaves the result alone, so no step of it finds its prefix
  have hs := normalizeIdentity_trimPrefix_fixed country alts code
  exact ⟨fun hne => ((trimPrefix_eq_self_iff _ _).mp (hs country (List.mem_cons_self ..))).resolve_left hne,
    fun a ha hne => ((trimPrefix_eq_self_iff _ _).mp (hs a (List.mem_cons_of_mem _ ha))).resolve_left hne⟩

/-- with two-letter codes (every country code is), the loop computes the specification:
    the cleaned text without its leading run of country / alternative codes -/
theorem normalize_eq_spec (country : Str) (alts : List Str) (code : Str)
    (h : ∀ p ∈ country :: alts, p.length = 2) :
    normalizeIdentity country alts code = Spec.TaxId.stripCodes (country :: alts) (stripBad (upper code)) := by
  rw [← stripCodes_of_fixed (country :: alts) (normalizeIdentity country alts code)
    (normalizeIdentity_trimPrefix_fixed country alts code)]
  exact trimLoop_inv (Spec.TaxId.stripCodes (country :: alts) · = Spec.TaxId.stripCodes (country :: alts) (stripBad (upper code)))
    country alts (fun p hp s hs => (stripCodes_trimPrefix _ p hp (h p hp) s).trans hs) _ _ rfl

example : normalizeIdentity "ES".toList [] "ESES B-85905495".toList = "B85905495".toList ∧
    normalizeIdentity "ES".toList [] "B85905495".toList = "B85905495".toList ∧
    normalizeIdentity "GB".toList (altsOf "GB") "xi-gb 350983637".toList = "350983637".toList := by decide +kernel

/-- the result depends only on the upper-cased alphanumerics of the text -/
theorem normalize_insensitive (country : Str) (alts : List Str) (s t : Str)
    (h : stripBad (upper s) = stripBad (upper t)) :
    normalizeIdentity country alts s = normalizeIdentity country alts t := by
  unfold normalizeIdentity; rw [h]

/-- separators (any character that is not a letter or digit) do not matter -/
theorem normalize_insensitive_separator (country : Str) (alts : List Str) (a b : Str) (sep : Char)
    (hs : isAZ09 sep.toUpper = false) :
    normalizeIdentity country alts (a ++ sep :: b) = normalizeIdentity country alts (a ++ b) := by
  apply normalize_insensitive
  simp [upper, stripBad, hs]

/-- letter case does not matter -/
theorem normalize_insensitive_case (country : Str) (alts : List Str) (code : Str) :
    normalizeIdentity country alts (code.map Char.toLower) = normalizeIdentity country alts code ∧
    normalizeIdentity country alts (code.map Char.toUpper) = normalizeIdentity country alts code := by
  constructor <;> apply normalize_insensitive <;> simp [upper, toUpper_toLower, toUpper_toUpper, Function.comp_def]

/-- a leading country prefix (the country or an alternative code) does not matter, whatever
    the code begins with -/
theorem normalize_insensitive_prefix (country : Str) (alts : List Str) (p code : Str)
    (h : ∀ q ∈ country :: alts, q.length = 2) (hp : p ∈ country :: alts) (hc : p.all isAZ09 = true) :
    normalizeIdentity country alts (p ++ code) = normalizeIdentity country alts code := by
  rw [normalize_eq_spec country alts _ h, normalize_eq_spec country alts _ h]
  have h1 : stripBad (upper (p ++ code)) = p ++ stripBad (upper code) := by
    have := clean_fixed p hc
    simp only [upper, stripBad, List.map_append, List.filter_append] at this ⊢
    rw [this]
  rw [h1]
  have hl := h p hp
  match p, hl, hp with
  | [a, b], _, hp => simp [Spec.TaxId.stripCodes, hp]

/-- any number of leading country prefixes does not matter -/
theorem normalize_insensitive_prefixes (country : Str) (alts : List Str) (ps : List Str) (code : Str)
    (h : ∀ q ∈ country :: alts, q.length = 2) (hc : ∀ q ∈ country :: alts, q.all isAZ09 = true)
    (hp : ∀ p ∈ ps, p ∈ country :: alts) :
    normalizeIdentity country alts (ps.flatten ++ code) = normalizeIdentity country alts code := by
  induction ps with
  | nil => rfl
  | cons p ps ih =>
    simp only [List.flatten_cons, List.append_assoc]
    rw [normalize_insensitive_prefix country alts p _ h (hp p (by simp)) (hc p (hp p (by simp)))]
    exact ih (fun q hq => hp q (by simp [hq]))

example : normalizeIdentity "GB".toList (altsOf "GB") ("XI".toList ++ "GB".toList ++ "gd 001".toList) =
    normalizeIdentity "GB".toList (altsOf "GB") "GD001".toList := by decide +kernel

/-- normalisation never alters the digits of a code (country codes contain no digits) -/
theorem normalize_keeps_digits (country : Str) (alts : List Str) (code : Str)
    (hc : country.filter isDig = []) (ha : ∀ a ∈ alts, a.filter isDig = []) :
    (normalizeIdentity country alts code).filter isDig = code.filter isDig :=
  trimLoop_inv (·.filter isDig = code.filter isDig) country alts
    (fun p hp s hs => (filter_isDig_trimPrefix p s
      ((List.forall_mem_cons (p := (·.filter isDig = []))).mpr ⟨hc, ha⟩ p hp)).trans hs) _ _
    (by rw [filter_isDig_stripBad, filter_isDig_upper])

/-- MX: the RFC normaliser is idempotent on every text -/
theorem mx_normalize_idem (s : Str) : mxNormalize (mxNormalize s) = mxNormalize s :=
  mxNormalize_fixed _ (List.all_eq_true.mpr fun x hx => by
    simp only [mxNormalize, List.mem_filter] at hx
    exact hx.2)

/-- CH: idempotent on every text: the suffix pattern `(MWST|TVA|IVA)+$` removes the whole run of
    suffixes (holds since /repo `5cc7da9`) -/
theorem ch_normalize_idem (country code : Str) :
    let r := (normalize "CH" country code).2
    (normalize "CH" country r).2 = r := by
  simp only [normalize_CH]
  generalize hm : normalizeIdentity country [] code = m
  -- `r`, a prefix of the clean and stable `m`, is clean and stable: a fixed point of `NormalizeIdentity`
  have hs := hm ▸ normalizeIdentity_trimPrefix_fixed country [] code
  rw [normalizeIdentity_fixed country [] _ (chStripSuffix_clean _ (hm ▸ normalizeIdentity_clean _ _ _))
    ((trimPass_fixed_iff ..).mpr fun p hp => trimPrefix_fixed_of_prefix p _ m (chStripSuffix_prefix _) (hs p hp)),
    chStripSuffix_idem]

/-- CH: what is removed behind the number is a sequence of VAT suffixes, and the result ends with none -/
theorem ch_normalize_spec (country code : Str) :
    let r := (normalize "CH" country code).2
    (∃ parts : List Str, (∀ x ∈ parts, x ∈ Spec.TaxId.chSuffixes) ∧
      normalizeIdentity country [] code = r ++ parts.flatten) ∧
    (∀ x ∈ Spec.TaxId.chSuffixes, Spec.TaxId.endsWith x r = false) := by
  simp only [normalize_CH]
  obtain ⟨t, h1, h2⟩ := chStripSuffix_split (normalizeIdentity country [] code)
  obtain ⟨parts, hp, rfl⟩ := (chSuffixStar_iff t).mp h2
  exact ⟨⟨parts, hp, h1⟩, chStripSuffix_no_suffix _⟩

example : (normalize "CH" "CH".toList "CHE-284.156.502 MWST TVA".toList).2 = "E284156502".toList ∧
    (normalize "CH" "CH".toList "che284156502ivatvamwst".toList).2 = "E284156502".toList ∧
    (normalize "CH" "CH".toList "E284156502MWS".toList).2 = "E284156502MWS".toList := by decide +kernel

/-- FR: idempotent for every country code without digits (a SIREN that was extended to a VAT
    number is 11 digits long and is left alone) -/
theorem fr_normalize_idem (country code : Str) (hcd : country.filter isDig = []) :
    let r := (normalize "FR" country code).2
    (normalize "FR" country r).2 = r := by
  simp only [normalize_FR]
  cases code with
  | nil => rfl
  | cons c cs =>
    -- the extension of the clean and stable result is clean and stable: a fixed point of `NormalizeIdentity`
    rw [List.isEmpty_cons, if_neg Bool.false_ne_true,
      normalizeIdentity_fixed country [] _ (frExtend_clean _ (normalizeIdentity_clean _ _ _))
        (trimPrefix_frExtend country _ hcd (normalizeIdentity_stable country [] _)),
      frExtend_idem, ite_self]

/-- GR/EL: the result does not depend on which of the two country codes the identity was
    written with (nor on any other text in the country field): the country is set to `EL`
    before the code is cleaned (holds since /repo `d935db9`) -/
theorem el_normalize_any_country (country code : Str) :
    normalize "EL" country code = normalize "EL" ['E','L'] code := rfl

/-- GR/EL: idempotent, country and code, from every country code (`GR`, `EL`) and every text: also under the
    ISO code `GR` the prefix `EL` goes in the first pass (holds since /repo `d935db9`) -/
theorem el_normalize_idem (country code : Str) :
    let r := normalize "EL" country code
    normalize "EL" r.1 r.2 = r := by
  simp only [normalize_EL, normalize_idem]

/-- GR/EL: the country becomes `EL` and the code is the cleaned text without its leading run
    of `EL` / `GR` codes, whichever country code the identity was written with -/
theorem el_normalize_spec (country code : Str) :
    normalize "EL" country code =
      (['E','L'], Spec.TaxId.stripCodes [['E','L'], ['G','R']] (stripBad (upper code))) := by
  rw [normalize_EL, normalize_eq_spec ['E','L'] (altsOf "EL") code (by simp [altsOf])]
  rfl

/-- GR/EL: the result begins with neither `EL` nor `GR` -/
theorem el_normalize_no_prefix_left (country code : Str) :
    ['E','L'].isPrefixOf (normalize "EL" country code).2 = false ∧
    ['G','R'].isPrefixOf (normalize "EL" country code).2 = false := by
  have h := normalize_no_prefix_left ['E','L'] (altsOf "EL") code
  rw [normalize_EL]
  exact ⟨h.1 (by simp), h.2 ['G','R'] (by simp [altsOf]) (by simp)⟩

/-- GR/EL: any number of leading `EL` / `GR` prefixes does not matter, for both country codes -/
theorem el_normalize_insensitive_prefixes (country : Str) (ps : List Str) (code : Str)
    (hp : ∀ p ∈ ps, p = ['E','L'] ∨ p = ['G','R']) :
    normalize "EL" country (ps.flatten ++ code) = normalize "EL" country code := by
  rw [normalize_EL, normalize_EL, normalize_insensitive_prefixes ['E','L'] (altsOf "EL") ps code (by simp [altsOf])
    (by simp [altsOf, isAZ09, isUp, isDig]) (fun p h => by simpa [altsOf] using hp p h)]

example : normalize "EL" "GR".toList ("EL".toList ++ "GR".toList ++ "925667500".toList) =
    normalize "EL" "GR".toList "925667500".toList ∧
    (normalize "EL" "GR".toList "925667500".toList).2 = "925667500".toList := by decide +kernel

/-- every regime normaliser keeps the digits of the code: the digits of the
    input are the digits of the output (FR: a suffix of them, the two key
    digits may be prepended to a SIREN) -/
theorem normalize_keeps_digits_regime (cc : String) (country code : Str) (hc : country.filter isDig = []) :
    Spec.TaxId.keepsDigitsSuffix code (normalize cc country code).2 = true ∧
    (cc ≠ "FR" → Spec.TaxId.keepsDigits code (normalize cc country code).2 = true) := by
  have key (out : Str) (h : out.filter isDig = code.filter isDig) :
      Spec.TaxId.keepsDigitsSuffix code out = true ∧ (cc ≠ "FR" → Spec.TaxId.keepsDigits code out = true) :=
    ⟨(keepsDigits_of_eq code out h).2, fun _ => (keepsDigits_of_eq code out h).1⟩
  rcases normalize_cases cc country code with rfl | rfl | rfl | rfl | rfl | rfl | h
  · exact key _ (filter_isDig_mxNormalize code)
  · exact key _ ((filter_isDig_chStripSuffix _).trans (normalize_keeps_digits country [] code hc (by simp)))
  · refine ⟨?_, fun h => absurd rfl h⟩
    rw [normalize_FR]
    split
    · exact (key _ rfl).1
    · obtain ⟨k, hk⟩ := frExtend_digits (normalizeIdentity country [] code)
      simp [Spec.TaxId.keepsDigitsSuffix, Spec.TaxId.digitsOf, hk, normalize_keeps_digits country [] code hc (by simp)]
  · exact key _ (normalize_keeps_digits ['E','L'] (altsOf "EL") code (by simp [isDig]) (by simp [altsOf, isDig]))
  · exact key _ (normalize_keeps_digits country (altsOf "IN") code hc (by simp [altsOf, isDig]))
  · exact key _ (normalize_keeps_digits country (altsOf "GB") code hc (by simp [altsOf, isDig]))
  · rw [h]; exact key _ (normalize_keeps_digits country [] code hc (by simp))

/-! ## single-character error detection (on the published rule)

`edit1 s s'`: `s'` is `s` with exactly one character replaced by a different one.
Schemes that guarantee detection: weighted mod 11 without collapsed remainders (PL, CH),
mod 97 (BE, FR, NL mod-97 test), Luhn (IT; AT is a Luhn variant), ISO 7064 MOD 11,10 (DE),
the NL 11-test.  Collapsed schemes (PT, GR, CO, BR): the exact undetected set. GB: not guaranteed.

`Proofs/Detect.lean` says which scheme each published rule is: `CheckDigit`, `last = g (Σ wᵢdᵢ mod m)` (PL, NL 11-test,
PT, GR, BR, CO), `Affine`, `(k + Σ fᵢ(dᵢ)) mod m = 0` (CH, AT, FR, BE, NL mod 97; Luhn: IT), or the ISO 7064 recursion
itself (DE). -/

theorem pl_single_digit_detected (s s' : Str) (hv : Spec.TaxId.PL.valid s = true) (he : edit1 s s') :
    Spec.TaxId.PL.valid s' = false := by
  exact checkdigit_detected pl_checkDigit (injTable_W 11 [] _ (by omega) (by decide)) (by omega) (fun _ _ _ _ h => h) s s' hv he

theorem ch_single_digit_detected (s s' : Str) (hv : Spec.TaxId.CH.valid s = true) (he : edit1 s s') :
    Spec.TaxId.CH.valid s' = false := by
  exact detect_str ch_affine rfl (injTable_W 11 [0] _ (by omega) (by decide))
    (fixedAt_head fun s hv => let ⟨_, e, _⟩ := CH.of_format (Bool.and_eq_true_iff.mp hv).1; congrArg List.head? e) s s' hv he

theorem at_single_digit_detected (s s' : Str) (hv : Spec.TaxId.AT.valid s = true) (he : edit1 s s') :
    Spec.TaxId.AT.valid s' = false := by
  exact detect_str at_affine rfl (injTable_cons _ (injTable_of_mem (by simp [injDig_id, injDig_dbl])))
    (fixedAt_head fun s hv => let ⟨_, e, _⟩ := AT.of_format (Bool.and_eq_true_iff.mp hv).1; congrArg List.head? e) s s' hv he

theorem it_single_digit_detected (s s' : Str) (hv : Spec.TaxId.IT.valid s = true) (he : edit1 s s') :
    Spec.TaxId.IT.valid s' = false := by
  rw [Spec.TaxId.IT.valid, Bool.and_eq_true] at hv
  simp only [Spec.TaxId.IT.valid, Spec.TaxId.IT.format, Spec.TaxId.IT.check, isDigits_eq]
  rw [Bool.and_assoc, luhn_detects s s' (IT.of_format hv.1).2 hv.2 he, Bool.and_false]

theorem fr_single_digit_detected (s s' : Str) (hv : Spec.TaxId.FR.valid s = true) (he : edit1 s s') :
    Spec.TaxId.FR.valid s' = false := by
  exact detect_str fr_affine rfl (injTable_W 97 [] _ (by omega) (by decide)) (fixedAt_nil _) s s' hv he

theorem be_single_digit_detected (s s' : Str) (hv : Spec.TaxId.BE.valid s = true) (he : edit1 s s') :
    Spec.TaxId.BE.valid s' = false := by
  -- the rule reads the code padded to 10 digits, and an edit of `s` is an edit of `pad s`
  rw [BE.valid_eq_validPadded] at hv ⊢
  exact detect_str be_affine rfl (injTable_W 97 [] _ (by omega) (by decide)) (fixedAt_nil _) _ _ hv (edit1_pad he)

/-- NL, the published 11-test alone (on the 9-digit number) detects every single-digit error -/
theorem nl_elfproef_single_digit_detected (s s' : Str)
    (hv : (s.length == 9 && isDigits s && Spec.TaxId.NL.elfproef (digs s)) = true) (he : edit1 s s') :
    (s'.length == 9 && isDigits s' && Spec.TaxId.NL.elfproef (digs s')) = false := by
  exact checkdigit_detected nl_elfproef_checkDigit (injTable_W 11 [] _ (by omega) (by decide)) (by omega) (fun _ _ _ _ h => h)
    s s' hv he

/-- NL, the mod-97 test alone detects every single-character error -/
theorem nl_mod97_single_digit_detected (s s' : Str)
    (hv : (Spec.TaxId.NL.format s && Spec.TaxId.NL.mod97 s) = true) (he : edit1 s s') :
    (Spec.TaxId.NL.format s' && Spec.TaxId.NL.mod97 s') = false := by
  exact detect_str nl_mod97_affine rfl (injTable_W 97 [9] _ (by omega) (by decide)) nl_mod97_fixedAt s s' hv he

/-- DE (ISO 7064 MOD 11,10) detects every single-character error -/
theorem de_single_digit_detected (s s' : Str) (hv : Spec.TaxId.DE.valid s = true) (he : edit1 s s') :
    Spec.TaxId.DE.valid s' = false := by
  rw [Bool.eq_false_iff]
  intro hv'
  simp only [Spec.TaxId.DE.valid, Spec.TaxId.DE.check, Bool.and_eq_true, beq_iff_eq] at hv hv'
  obtain ⟨hl, hd⟩ := DE.of_format hv.1
  obtain ⟨i, x, hx, e⟩ := edit1_digits he hd (DE.of_format hv'.1).2
  rw [e] at hv'
  exact de_detect hx 8 (by have := hx.lt; rw [digs_length, hl] at this; omega) hv.2 hv'.2

/-- PT (remainders 0 and 1 both give check digit 0): a single-character error in a valid
    NIF goes undetected only if it moves the remainder between 0 and 1 -/
theorem pt_single_digit_undetected_only_r01 (s s' : Str) (hv : Spec.TaxId.PT.valid s = true) (he : edit1 s s')
    (hv' : Spec.TaxId.PT.valid s' = true) :
    dot [9, 8, 7, 6, 5, 4, 3, 2] (digs s) % 11 < 2 ∧ dot [9, 8, 7, 6, 5, 4, 3, 2] (digs s') % 11 < 2 := by
  exact dv_collisions _ (Nat.mod_lt _ (by omega)) _ (Nat.mod_lt _ (by omega))
    (checkdigit_undetected_str pt_checkDigit (injTable_W 11 [] _ (by omega) (by decide)) s s' hv he hv')

/-- GR (remainders 0 and 10 both give check digit 0): undetected only between remainders 0 and 10 -/
theorem gr_single_digit_undetected_only_r0_10 (s s' : Str) (hv : Spec.TaxId.GR.valid s = true) (he : edit1 s s')
    (hv' : Spec.TaxId.GR.valid s' = true) :
    let r := dot [256, 128, 64, 32, 16, 8, 4, 2] (digs s) % 11
    let r' := dot [256, 128, 64, 32, 16, 8, 4, 2] (digs s') % 11
    (r = 0 ∧ r' = 10) ∨ (r = 10 ∧ r' = 0) := by
  exact mod10_collisions _ (Nat.mod_lt _ (by omega)) _ (Nat.mod_lt _ (by omega))
    (checkdigit_undetected_str gr_checkDigit (injTable_W 11 [] _ (by omega) (by decide)) s s' hv he hv')

/-- CO, 9-digit NIT (remainders 1 and 10 both give check digit 1) -/
theorem co9_single_digit_undetected_only_r1_10 (s s' : Str) (hl : s.length = 9) (hv : Spec.TaxId.CO.valid s = true) (he : edit1 s s')
    (hv' : Spec.TaxId.CO.valid s' = true) :
    let r := dot [37, 29, 23, 19, 17, 13, 7, 3] (digs s) % 11
    let r' := dot [37, 29, 23, 19, 17, 13, 7, 3] (digs s') % 11
    (r = 1 ∧ r' = 10) ∨ (r = 10 ∧ r' = 1) :=
  co_undetected 8 (by omega) s s' hl hv he hv'

/-- CO, 10-digit NIT -/
theorem co10_single_digit_undetected_only_r1_10 (s s' : Str) (hl : s.length = 10) (hv : Spec.TaxId.CO.valid s = true) (he : edit1 s s')
    (hv' : Spec.TaxId.CO.valid s' = true) :
    let r := dot [41, 37, 29, 23, 19, 17, 13, 7, 3] (digs s) % 11
    let r' := dot [41, 37, 29, 23, 19, 17, 13, 7, 3] (digs s') % 11
    (r = 1 ∧ r' = 10) ∨ (r = 10 ∧ r' = 1) :=
  co_undetected 9 (by omega) s s' hl hv he hv'

/-- BR (r < 2 ↦ 0 for each of the two digits): an undetected single-digit error must move
    the second remainder between 0 and 1 -/
theorem br_single_digit_undetected_only_r01 (s s' : Str) (hv : Spec.TaxId.BR.valid s = true) (he : edit1 s s')
    (hv' : Spec.TaxId.BR.valid s' = true) :
    dot [6, 5, 4, 3, 2, 9, 8, 7, 6, 5, 4, 3, 2] (digs s) % 11 < 2 ∧ dot [6, 5, 4, 3, 2, 9, 8, 7, 6, 5, 4, 3, 2] (digs s') % 11 < 2 := by
  exact dv_collisions _ (Nat.mod_lt _ (by omega)) _ (Nat.mod_lt _ (by omega))
    (checkdigit_undetected_str br_checkDigit (injTable_W 11 [] _ (by omega) (by decide)) s s' hv he hv')

/-! ## non-vacuity: real codes, the NL remainder-10 case, undetected pairs -/

example : AT.goValid "U12345675".toList = true ∧ BE.goValid "0428759497".toList = true ∧ BR.goValid "11222333000181".toList = true ∧
    CH.goValid "E284156502".toList = true ∧ CO.goValid "412615332".toList = true ∧ DE.goValid "111111125".toList = true := by decide +kernel
example : PL.goValid "5260001246".toList = true ∧ PT.goValid "545259045".toList = true ∧ IT.goValid "12345670785".toList = true ∧
    GR.goValid "925667500".toList = true ∧ FR.goValid "44732829320".toList = true ∧ NL.goValid "000099995B57".toList = true := by decide +kernel
example : ES.goValid "B85905495".toList = true ∧ IN.goValid "27AAPFU0939F1ZV".toList = true ∧ GB.goValid "350983637".toList = true ∧
    MX.goValid "K&A010101AB1".toList = true ∧ AE.goValid "123456789012345".toList = true := by decide +kernel
example : DE.goValid "111111126".toList = false ∧ PL.goValid "5260001247".toList = false ∧ ES.goValid "B85905496".toList = false := by decide +kernel

/-- NL: a code whose 11-test remainder is 10 (9·1 + 2·6 = 21, 21 mod 11 = 10) and whose ninth
    digit is 0 is rejected, by the published rule and by Go (since /repo `acb1569`); codes with the remainders 0 and 9 are accepted; the mod-97 path
    is independent of the 11-test -/
example : NL.goValid "100000060B01".toList = false ∧ Spec.TaxId.NL.valid "100000060B01".toList = false ∧
    NL.goValid "000000000B01".toList = true ∧ NL.goValid "100000009B01".toList = true ∧
    NL.goValid "000099998B57".toList = true ∧ Spec.TaxId.NL.elfproef (digs "000099998".toList) = false := by decide +kernel

/-- GB does not guarantee single-digit detection: two valid numbers one digit apart
    (old-style and 9755-style check digits coincide) -/
example : Spec.TaxId.GB.valid "101235046".toList = true ∧ Spec.TaxId.GB.valid "161235046".toList = true := by decide +kernel
/-- PT: an undetected single-digit error (remainders 0 and 1) -/
example : Spec.TaxId.PT.valid "500000000".toList = true ∧ Spec.TaxId.PT.valid "540000000".toList = true := by decide +kernel
/-- the hypotheses of the detection theorems are satisfiable -/
example : Spec.TaxId.PL.valid "5260001246".toList = true ∧ edit1 "5260001246".toList "5260001346".toList :=
  ⟨by decide, 7, by decide, '3', by decide, by decide⟩
/-- doubled prefixes are removed in one normalisation -/
example : normalizeIdentity "EL".toList [['G','R']] "GREL925667500".toList = "925667500".toList ∧
    normalizeIdentity "EL".toList [['G','R']] "ELGR925667500".toList = "925667500".toList := by decide +kernel
/-- GR/EL (holds since /repo `d935db9`): under the
    ISO country code `GR` the prefixes `EL` and `GR` are both removed by the first normalisation,
    in either order, exactly as under `EL`; the result is a fixed point -/
example : normalize "EL" "GR".toList "EL 925667500".toList = ("EL".toList, "925667500".toList) ∧
    normalize "EL" "GR".toList "GREL925667500".toList = ("EL".toList, "925667500".toList) ∧
    normalize "EL" "GR".toList "el-gr 925667500".toList = ("EL".toList, "925667500".toList) ∧
    normalize "EL" "EL".toList "EL 925667500".toList = ("EL".toList, "925667500".toList) ∧
    normalize "EL" "EL".toList "925667500".toList = ("EL".toList, "925667500".toList) := by decide +kernel
example : (normalize "CH" "CH".toList "CHE-284.156.502 MWST".toList).2 = "E284156502".toList ∧
    (normalize "FR" "FR".toList "FR 732 829 320".toList).2 = "44732829320".toList ∧
    (normalize "MX" "MX".toList "k&ñ-010101 ab1".toList).2 = "K&Ñ010101AB1".toList := by decide +kernel

/-! ## expectations over facts regenerated from the Go source on every run

The models mirror these pattern strings, weight tables, letter
tables, prefix sets and function shapes (literals and operators in source
order).  A changed weight, modulus, special-remainder rule or regular
expression breaks one of these obligations. -/
namespace Expect
open GoblVerif.Generated.TaxId

theorem generic_gate : tax_regexps = ["^[A-Z0-9]+$", "[^A-Z0-9]+"] ∧ tax_strs_IdentityCodeValidationIgnore = ["MX"] := ⟨rfl, rfl⟩
theorem normalizer_alt_codes : normalizeAlts_GB = ["XI", "XU"] ∧ normalizeAlts_EL = ["GR"] ∧ normalizeAlts_IN = ["IN"] ∧
    normalizeAlts_ES = [] ∧ normalizeAlts_FR = [] ∧ normalizeAlts_CH = [] ∧ normalizeAlts_DE = [] ∧ normalizeAlts_NL = [] ∧
    normalizeAlts_PT = [] ∧ normalizeAlts_PL = [] ∧ normalizeAlts_IT = [] ∧ normalizeAlts_BE = [] ∧ normalizeAlts_AT = [] ∧
    normalizeAlts_CO = [] ∧ normalizeAlts_AE = [] := ⟨rfl, rfl, rfl, rfl, rfl, rfl, rfl, rfl, rfl, rfl, rfl, rfl, rfl, rfl, rfl⟩
theorem model_alt_codes : (normalizeAlts_GB.map String.toList = altsOf "GB") ∧ (normalizeAlts_EL.map String.toList = altsOf "EL") ∧
    (normalizeAlts_IN.map String.toList = altsOf "IN") := by decide +kernel
theorem validators_registered : ["AE", "AT", "BE", "BR", "CH", "CO", "DE", "ES", "FR", "GB", "EL", "IN", "IT", "MX", "NL", "PL", "PT"].all
    (validatorRegistered.contains ·) = true := by decide +kernel
theorem ae_patterns : ae_regexps = ["^\\d{15}$"] := rfl
theorem at_patterns : at_regexps = ["^U\\d{8}$"] := rfl
theorem be_patterns : be_regexps = ["^0?\\d{9}$"] := rfl
theorem ch_patterns : ch_regexps = ["^E\\d{9}$", "(MWST|TVA|IVA)+$"] := rfl
theorem de_patterns : de_regexps = ["^[1-9]\\d{8}$"] := rfl
theorem es_patterns : es_regexps = ["^(?P<number>[0-9]{8})(?P<check>[TRWAGMYFPDXBNJZSQVHLCKE])$", "^(?P<type>[XYZ])(?P<number>[0-9]{7})(?P<check>[TRWAGMYFPDXBNJZSQVHLCKE])$", "^(?P<type>[KLM])(?P<number>[0-9]{7})(?P<check>[0-9JABCDEFGHI])$", "^(?P<type>[ABCDEFGHJNPQRSUVW])(?P<number>[0-9]{7})(?P<check>[0-9JABCDEFGHI])$"] := rfl
theorem fr_patterns : fr_regexps = ["^\\d{11}$", "^\\d{9}$"] := rfl
theorem gb_patterns : gb_regexps = ["^\\d{9}$", "^\\d{12}$", "^GD\\d{3}$", "^HA\\d{3}$"] := rfl
theorem gr_patterns : gr_regexps = ["^\\d{9}$"] := rfl
theorem in_patterns : in_regexps = ["^[0-9]{2}[A-Z]{5}[0-9]{4}[A-Z]{1}[1-9A-Z]{1}Z[0-9A-Z]{1}$"] := rfl
theorem mx_patterns : mx_regexps = ["^([A-ZÑ\\&]{4})([0-9]{6})([A-Z0-9]{3})$", "^([A-ZÑ\\&]{3})([0-9]{6})([A-Z0-9]{3})$", "[^A-ZÑ\\&0-9]+"] := rfl
theorem pl_patterns : pl_regexps = ["^[1-9]((\\d[1-9])|([1-9]\\d))\\d{7}$"] := rfl
theorem at_weights : at_ints_taxCodeMultipliers = AT.multipliers := rfl
theorem br_weights : br_ints_weights1 = BR.weights1 ∧ br_ints_weights2 = BR.weights2 := ⟨rfl, rfl⟩
theorem ch_weights : ch_ints_taxCodeMultipliers = CH.multipliers := rfl
theorem co_weights : co_ints_nitMultipliers = CO.nitMultipliers ∧ co_ints_nitMultipliers = Spec.TaxId.CO.primes := ⟨rfl, rfl⟩
theorem gb_weights : gb_ints_taxCodeMultipliers = GB.multipliers := rfl
theorem pl_weights : pl_ints_weights = PL.weights := rfl
theorem nl_length : nl_int_vatLen = 12 := rfl
theorem es_letter_tables : es_str_taxCodeCheckLetters.toList = ES.checkLetters ∧ es_str_taxCodeForeignTypeLetters.toList = ES.foreignTypeLetters ∧
    es_str_taxCodeOtherTypeLetters.toList = ES.otherTypeLetters ∧ es_str_taxCodeOrgTypeLetters.toList = ES.orgTypeLetters ∧
    es_str_taxCodeOrgCheckLetters.toList = ES.orgCheckLetters := by decide +kernel
theorem pt_prefixes : (pt_trueKeys_validPrefixes.map String.toList).all (PT.validPrefixes.contains ·) = true ∧
    PT.validPrefixes.all ((pt_trueKeys_validPrefixes.map String.toList).contains ·) = true := by decide +kernel
theorem tax_shape_NormalizeIdentity :
    tax_lits_NormalizeIdentity = ["s:"] ∧
    tax_ops_NormalizeIdentity = ["==", "=="] := ⟨rfl, rfl⟩
theorem tax_shape_Identity_Normalize :
    tax_lits_Identity_Normalize = [] ∧
    tax_ops_Identity_Normalize = ["!="] := ⟨rfl, rfl⟩
theorem tax_shape_Identity_Validate :
    tax_lits_Identity_Validate = [] ∧
    tax_ops_Identity_Validate = ["u&", "u&", "u&", "u&", "u&", "!=", "!="] := ⟨rfl, rfl⟩
theorem luhn_shape_ComputeLuhnCheckDigit :
    luhn_lits_ComputeLuhnCheckDigit = ["0", "0", "1", "0", "'0'", "2", "0", "2", "9", "9", "10", "10", "10", "10"] ∧
    luhn_ops_ComputeLuhnCheckDigit = ["-", ">=", "--", "-", "%", "==", "*=", ">", "-=", "+=", "++", "-", "%", "%"] := ⟨rfl, rfl⟩
theorem ae_shape_validateTRNCode :
    ae_lits_validateTRNCode = ["s:"] ∧
    ae_ops_validateTRNCode = ["u!", "||", "==", "u!"] := ⟨rfl, rfl⟩
theorem at_shape_validateTaxCode :
    at_lits_validateTaxCode = ["s:"] ∧
    at_ops_validateTaxCode = ["u!", "||", "==", "u!"] := ⟨rfl, rfl⟩
theorem at_shape_commercialCheck :
    at_lits_commercialCheck = ["1", "'0'", "9", "10", "10", "10", "4", "10", "10", "0", "8", "'0'"] ∧
    at_ops_commercialCheck = ["+", "-", "*", ">", "+=", "/", "+", "+=", "-", "+", "==", "-", "!="] := ⟨rfl, rfl⟩
theorem be_shape_validateTaxCode :
    be_lits_validateTaxCode = ["s:"] ∧
    be_ops_validateTaxCode = ["u!", "||", "==", "u!"] := ⟨rfl, rfl⟩
theorem be_shape_commercialCheck :
    be_lits_commercialCheck = ["9", "s:0", "1", "'0'", "0", "8", "97", "97", "8", "10"] ∧
    be_ops_commercialCheck = ["==", "+", "-", "==", "-", "!="] := ⟨rfl, rfl⟩
theorem br_shape_validateTaxCode :
    br_lits_validateTaxCode = ["s:", "14", "5", "4", "3", "2", "9", "8", "7", "6", "5", "4", "3", "2", "12", "6", "5", "4", "3", "2", "9", "8", "7", "6", "5", "4", "3", "2", "13"] ∧
    br_ops_validateTaxCode = ["u!", "||", "==", "!=", "!=", "!="] := ⟨rfl, rfl⟩
theorem br_shape_verifyDigit :
    br_lits_verifyDigit = ["0", "0", "11", "2", "0", "11"] ∧
    br_ops_verifyDigit = ["<", "++", "!=", "+=", "*", "%", "<", "-", "!=", "!="] := ⟨rfl, rfl⟩
theorem ch_shape_validateTaxCode :
    ch_lits_validateTaxCode = ["s:"] ∧
    ch_ops_validateTaxCode = ["u!", "||", "==", "u!"] := ⟨rfl, rfl⟩
theorem ch_shape_commercialCheck :
    ch_lits_commercialCheck = ["1", "'0'", "11", "11", "10", "11", "0", "9", "'0'"] ∧
    ch_ops_commercialCheck = ["+", "-", "*", "+", "-", "==", "==", "-", "!="] := ⟨rfl, rfl⟩
theorem ch_shape_normalizeTaxIdentity :
    ch_lits_normalizeTaxIdentity = ["s:"] ∧
    ch_ops_normalizeTaxIdentity = ["=="] := ⟨rfl, rfl⟩
theorem co_shape_validateTaxCode :
    co_lits_validateTaxCode = ["s:", "48", "0", "9", "10", "9", "0", "1", "1"] ∧
    co_ops_validateTaxCode = ["u!", "==", "-", "<", "||", ">", ">", "<", "-", "-"] := ⟨rfl, rfl⟩
theorem co_shape_validateDigits :
    co_lits_validateDigits = ["0", "48", "1", "11", "2", "11"] ∧
    co_ops_validateDigits = ["!=", "+=", "-", "*", "-", "-", "%", ">=", "-", "!="] := ⟨rfl, rfl⟩
theorem co_shape_normalizeTaxIdentity :
    co_lits_normalizeTaxIdentity = [] ∧
    co_ops_normalizeTaxIdentity = ["=="] := ⟨rfl, rfl⟩
theorem de_shape_validateTaxCode :
    de_lits_validateTaxCode = ["s:"] ∧
    de_ops_validateTaxCode = ["u!", "||", "==", "u!"] := ⟨rfl, rfl⟩
theorem de_shape_validateTaxCodeChecksum :
    de_lits_validateTaxCodeChecksum = ["10", "0", "0", "0", "8", "10", "0", "10", "2", "11", "11", "10", "0", "11", "8"] ∧
    de_ops_validateTaxCodeChecksum = ["<", "++", "!=", "+", "%", "==", "*", "%", "-", "==", "-", "!=", "!="] := ⟨rfl, rfl⟩
theorem es_shape_validateTaxCode :
    es_lits_validateTaxCode = ["s:"] ∧
    es_ops_validateTaxCode = ["u!", "==", "=="] := ⟨rfl, rfl⟩
theorem es_shape_DetermineTaxCodeType :
    es_lits_DetermineTaxCodeType = [] ∧
    es_ops_DetermineTaxCodeType = ["case1", "case1", "case1", "case1", "default"] := ⟨rfl, rfl⟩
theorem es_shape_verifyNationalCode :
    es_lits_verifyNationalCode = ["s:00000000", "23", "0"] ∧
    es_ops_verifyNationalCode = ["!=", "==", "%", "!="] := ⟨rfl, rfl⟩
theorem es_shape_verifyForeignCode :
    es_lits_verifyForeignCode = ["23", "0"] ∧
    es_ops_verifyForeignCode = ["!=", "+", "%", "!="] := ⟨rfl, rfl⟩
theorem es_shape_verifyOrgCodeMatches :
    es_lits_verifyOrgCodeMatches = ["0", "0", "1", "1", "0", "2", "9", "9", "10", "10", "10", "1"] ∧
    es_ops_verifyOrgCodeMatches = ["&", "case1", "+=", "case1", "*", ">", "-", "+=", "-", "+", "%", "%", "!=", "u-", "!="] := ⟨rfl, rfl⟩
theorem es_shape_normalizeTaxIdentity :
    es_lits_normalizeTaxIdentity = ["s:"] ∧
    es_ops_normalizeTaxIdentity = [] := ⟨rfl, rfl⟩
theorem fr_shape_validateVATTaxCode :
    fr_lits_validateVATTaxCode = ["s:", "2", "2"] ∧
    fr_ops_validateVATTaxCode = ["u!", "||", "==", "u!", "!="] := ⟨rfl, rfl⟩
theorem fr_shape_calculateVATCheckDigit :
    fr_lits_calculateVATCheckDigit = ["100", "12", "97", "s:%02d"] ∧
    fr_ops_calculateVATCheckDigit = ["*", "+", "%"] := ⟨rfl, rfl⟩
theorem fr_shape_validateSIRENTaxCode :
    fr_lits_validateSIRENTaxCode = ["s:", "8", "8"] ∧
    fr_ops_validateSIRENTaxCode = ["u!", "||", "==", "u!", "!="] := ⟨rfl, rfl⟩
theorem fr_shape_normalizeTaxIdentity :
    fr_lits_normalizeTaxIdentity = ["s:", "9", "s:%s%s"] ∧
    fr_ops_normalizeTaxIdentity = ["==", "==", "!="] := ⟨rfl, rfl⟩
theorem gb_shape_validateTaxCode :
    gb_lits_validateTaxCode = ["s:", "s:GD", "s:HA"] ∧
    gb_ops_validateTaxCode = ["u!", "||", "==", "u!"] := ⟨rfl, rfl⟩
theorem gb_shape_governmentDepartmentCheck :
    gb_lits_governmentDepartmentCheck = ["499", "2"] ∧
    gb_ops_governmentDepartmentCheck = [">"] := ⟨rfl, rfl⟩
theorem gb_shape_healthAuthorityCheck :
    gb_lits_healthAuthorityCheck = ["500", "2"] ∧
    gb_ops_healthAuthorityCheck = ["<"] := ⟨rfl, rfl⟩
theorem gb_shape_commercialCheck :
    gb_lits_commercialCheck = ["0", "7", "0", "'0'", "0", "97", "0", "0", "7", "9", "9990001", "100000", "999999", "9490001", "9700000", "55", "55", "42", "1000000"] ∧
    gb_ops_commercialCheck = ["==", "-", "+=", "*", ">", "-", "<", "-", "==", "&&", "<", "&&", "<", "||", ">", "&&", "<", "||", ">", ">=", "-", "+", "==", "&&", ">"] := ⟨rfl, rfl⟩
theorem gr_shape_validateTaxCode :
    gr_lits_validateTaxCode = ["s:"] ∧
    gr_ops_validateTaxCode = ["u!", "||", "==", "u!", "u!"] := ⟨rfl, rfl⟩
theorem gr_shape_hasValidChecksum :
    gr_lits_hasValidChecksum = ["9", "0", "8", "1", "8", "11", "10", "8"] ∧
    gr_ops_hasValidChecksum = ["!=", "<", "++", "+=", "*", "<<", "-", "%", "%", "=="] := ⟨rfl, rfl⟩
theorem gr_shape_normalizeTaxIdentity :
    gr_lits_normalizeTaxIdentity = ["s:EL"] ∧
    gr_ops_normalizeTaxIdentity = ["=="] := ⟨rfl, rfl⟩
/-- the country is overwritten *before* the code is cleaned (model: the country handed to
    `normalizeIdentity` is `EL`); this order holds since /repo `d935db9` -/
theorem gr_order_normalizeTaxIdentity :
    gr_steps_normalizeTaxIdentity = ["if tID == nil { return }", "tID.Country = \"EL\"",
      "tax.NormalizeIdentity(tID, l10n.GR)"] := rfl
theorem in_shape_validateTaxCode :
    in_lits_validateTaxCode = ["s:"] ∧
    in_ops_validateTaxCode = ["u!", "||", "==", "u!", "!="] := ⟨rfl, rfl⟩
theorem in_shape_hasValidChecksum :
    in_lits_hasValidChecksum = ["15", "0", "14", "1", "2", "0", "2", "36", "36", "36", "36", "36", "14"] ∧
    in_ops_hasValidChecksum = ["!=", "%", "!=", "*", "+=", "/", "+", "%", "%", "-", "%", "!="] := ⟨rfl, rfl⟩
theorem in_shape_charToValue :
    in_lits_charToValue = ["'0'", "'9'", "'0'", "'A'", "10"] ∧
    in_ops_charToValue = [">=", "&&", "<=", "-", "-", "+"] := ⟨rfl, rfl⟩
theorem in_shape_valueToChar :
    in_lits_valueToChar = ["0", "9", "'0'", "'A'", "10"] ∧
    in_ops_valueToChar = [">=", "&&", "<=", "+", "+", "-"] := ⟨rfl, rfl⟩
theorem in_shape_normalizeTaxIdentity :
    in_lits_normalizeTaxIdentity = ["s:IN"] ∧
    in_ops_normalizeTaxIdentity = ["=="] := ⟨rfl, rfl⟩
/-- India cleans the code with the identity's own country first and overwrites the country
    afterwards (model: `normalizeIdentity country …`, then `IN`) -/
theorem in_order_normalizeTaxIdentity :
    in_steps_normalizeTaxIdentity = ["if tID == nil { return }", "tax.NormalizeIdentity(tID, l10n.IN)",
      "tID.Code = cbc.Code(strings.ToUpper(tID.Code.String()))", "tID.Country = \"IN\""] := rfl
theorem it_shape_validateTaxCode :
    it_lits_validateTaxCode = ["s:", "48", "0", "9", "11", "10", "10"] ∧
    it_ops_validateTaxCode = ["u!", "||", "==", "-", "<", "||", ">", "!=", "!="] := ⟨rfl, rfl⟩
theorem mx_shape_ValidateTaxIdentity :
    mx_lits_ValidateTaxIdentity = [] ∧
    mx_ops_ValidateTaxIdentity = ["==", "u&"] := ⟨rfl, rfl⟩
theorem mx_shape_ValidateTaxCode :
    mx_lits_ValidateTaxCode = ["s:"] ∧
    mx_ops_ValidateTaxCode = ["u!", "||", "=="] := ⟨rfl, rfl⟩
theorem mx_shape_DetermineTaxCodeType :
    mx_lits_DetermineTaxCodeType = [] ∧
    mx_ops_DetermineTaxCodeType = ["case1", "case1", "default"] := ⟨rfl, rfl⟩
theorem mx_shape_NormalizeTaxCode :
    mx_lits_NormalizeTaxCode = ["s:"] ∧
    mx_ops_NormalizeTaxCode = [] := ⟨rfl, rfl⟩
theorem nl_shape_validateTaxCode :
    nl_lits_validateTaxCode = ["s:", "9", "'B'", "0", "9", "10", "12"] ∧
    nl_ops_validateTaxCode = ["u!", "==", "!=", "!="] := ⟨rfl, rfl⟩
theorem nl_shape_validateDigits :
    nl_lits_validateDigits = ["10", "64", "10", "s:NL%sB%s"] ∧
    nl_ops_validateDigits = ["!=", "!=", "%", "!=", "&&", "u!"] := ⟨rfl, rfl⟩
theorem nl_shape_mod11 :
    nl_lits_mod11 = ["0", "8", "10", "2", "10", "11", "9", "1"] ∧
    nl_ops_mod11 = ["<", "++", "/=", "+", "+=", "%", "*", "%", ">", "u-"] := ⟨rfl, rfl⟩
theorem nl_shape_checkMod97 :
    nl_lits_checkMod97 = ["48", "57", "48", "55", "10", "9", "10", "97", "1"] ∧
    nl_ops_checkMod97 = [">=", "&&", "<=", "-", "-", "*", ">", "*", "+", "%", "=="] := ⟨rfl, rfl⟩
theorem pl_shape_validateTaxCode :
    pl_lits_validateTaxCode = ["s:"] ∧
    pl_ops_validateTaxCode = ["u!", "=="] := ⟨rfl, rfl⟩
theorem pl_shape_validateNIPChecksum :
    pl_lits_validateNIPChecksum = ["10", "10", "9", "6", "5", "7", "2", "3", "4", "5", "6", "7", "0", "9", "11", "9"] ∧
    pl_ops_validateNIPChecksum = ["!=", "u!", "!=", "+=", "*", "%=", "=="] := ⟨rfl, rfl⟩
theorem pt_shape_validateTaxCode :
    pt_lits_validateTaxCode = ["s:", "48", "0", "9", "9", "1", "2", "0", "1", "9", "1", "10", "11", "0", "0", "1", "0", "11", "8"] ∧
    pt_ops_validateTaxCode = ["u!", "==", "-", "<", "||", ">", "!=", "u!", "&&", "u!", "<", "++", "-", "!=", "+=", "*", "-", "%", "case2", "default", "-", "!=", "!="] := ⟨rfl, rfl⟩

end Expect

/-! ## the checkers regenerated from the source (go2lean) are the models

  Generated/TaxIdSrc.lean is the translation of the Go checker functions as
  they stand in /repo (strings as byte lists, `error` as an Option, regexp
  matches as the declared primitive `Re.reMatch`; see the header of that file).
  Each theorem `src_*` says that a regenerated definition returns what the
  hand-written model of Model/TaxId.lean returns — for EVERY string where no
  hypothesis is stated, otherwise for every string that passes the stated
  gate.  `(f (some s)).isNone` reads "Go's `f(cbc.Code(s))` returns nil". -/
namespace Src
open GoblVerif.Generated GoblVerif.GoSem GoblVerif.TaxIdSrc
open GoblVerif.GoStr (isNone_pure ite_isSome_isNone decide_eq_nil natCast_eq_lit ite_ne_natCast mapGet_true_keys hasPrefix2 runeOf)

/-- `validateNIPChecksum` = the model, for every string -/
theorem src_pl_checksum (s : Str) : TaxIdSrc.PL.validateNIPChecksum s = PL.validateNIPChecksum s := by
  unfold TaxIdSrc.PL.validateNIPChecksum PL.validateNIPChecksum
  simp only [Id.run]
  by_cases hl : s.length = 10
  case neg =>
    have : (s.length : Int) ≠ 10 := by omega
    simp [hl, this]; rfl
  rw [if_neg (by omega), forIn_all_guard, all_isDigitRune]
  by_cases hd : allDig s = true
  case neg => simp [hd, hl]; rfl
  rw [forIn_parse_digits false s hd 10 (by omega)]
  simp only [hd, hl, pure_bind, Nat.sub_self, List.replicate_zero, List.append_nil, if_true, ← List.map_take, List.zipIdx_map,
    List.forIn_map, Prod.map_fst, Prod.map_snd, id_eq, Int.toNat_natCast]
  -- the weights loop runs over the stored digits; it is the model's `wloop` over the string
  rw [show ([6, 5, 7, 2, 3, 4, 5, 6, 7] : List Int) = PL.weights.map Nat.cast from rfl,
    forIn_eq_foldl (Nat.cast : Nat → Int) (fun a p => a + dval p.1 * PL.weights.getD p.2 0) _ _
      (fun x _ a => by rw [getElem!_map_natCast]; push_cast; rfl) 0 0 rfl,
    ← wloop_eq_foldl PL.weights s 0 (n := 9) rfl,
    show Int.toNat 9 = 9 from rfl, getElem!_map_dval s 9 (by omega), getD_of_lt s 9 (by omega), pure_bind, id_pure,
    Int.tmod_eq_emod_of_nonneg (Int.natCast_nonneg _), Bool.eq_iff_iff]
  simp only [bne_self_eq_false, Bool.not_true, Bool.false_eq_true, if_false, decide_eq_true_eq, beq_iff_eq]
  omega

/-- `validateTaxCode(code)` returns nil exactly when the model accepts, for every string -/
theorem src_pl_validate (s : Str) :
    (TaxIdSrc.PL.validateTaxCode (some s)).isNone = accepts PL.regime s := by
  unfold TaxIdSrc.PL.validateTaxCode
  simp only [Id.run, Option.getD_some, Option.isSome_some, not_true_eq_false, if_false, decide_eq_nil, apply_ite Option.isNone, isNone_pure,
    errNew_isNone, Option.isNone_none, Bool.if_true_left, Bool.if_false_right, Bool.decide_eq_true, Bool.and_true,
    TaxIdSrc.PL.taxIdentityRegexp, re_pl, src_pl_checksum]
  rfl

theorem src_pt_prefixes : TaxIdSrc.PT.validPrefixes = PT.validPrefixes.map (fun x => (x, true)) := rfl

theorem src_pt_validate (s : Str) :
    (TaxIdSrc.PT.validateTaxCode (some s)).isNone = accepts PT.regime s := by
  unfold TaxIdSrc.PT.validateTaxCode
  simp only [Id.run, Option.getD_some, Option.isSome_some, not_true_eq_false, if_false, decide_eq_nil, bind_all_guard, all_rune_guard,
    apply_ite Option.isNone, isNone_pure, errNew_isNone, Option.isNone_none, Bool.if_true_left, Bool.if_false_left,
    Bool.if_false_right, natCast_eq_lit, ne_eq, decide_not, Bool.decide_eq_true, Bool.not_not, src_pt_prefixes,
    mapGet_true_keys, accepts, PT.regime, bne, Bool.decide_and, beq_eq_decide]
  refine congrArg (s.isEmpty || ·)
    (and_congr_of_left rfl fun hd => and_congr_of_left rfl fun hl => and_congr_of_left rfl fun _ => ?_)
  simp only [decide_eq_true_eq] at hl
  -- the loop reads `code[i-1]` for `i = 1 … 8`; a ninth round stops at the bound
  rw [forIn_range_fuel _ (fun _ _ => rfl),
    forFuel_scan _ (fun (a i : Nat) => ((none : Option (Option GoStr.Str)), (a : Int), (i : Int)))
      (fun a p => a + dval p.1 * (10 - p.2)) 8 s 1 (by omega) ?hy 9 (.inr ⟨by omega, fun a => if_pos (by simp)⟩) 0 (none, 0, 1) rfl,
    ← PT.sumLoop_eq_foldl]
  case hy =>
    intro a i h
    have e : ((1 + i : Nat) : Int) - 1 = (i : Int) := by omega
    simp only [Id.run, e, Int.toNat_natCast, atoi_byteAt hd i (by omega)]
    rw [if_neg (by omega), if_neg (by simp), id_pure]
    exact congrArg ForInStep.yield (by push_cast [Nat.cast_sub (show 1 + i ≤ 10 by omega)]; rfl)
  simp only [pure_bind, atoi_byteAt hd 8 (by omega), getD_of_lt s 8 (by omega), Option.isSome_none, Bool.false_eq_true, if_false,
    apply_ite Option.isNone, isNone_pure, errNew_isNone, Option.isNone_none, Bool.if_false_left, Bool.and_true, decide_not,
    Bool.not_not, Int.tmod_eq_emod_of_nonneg (Int.natCast_nonneg _)]
  generalize PT.sumLoop 8 s 1 0 = S
  rw [Bool.eq_iff_iff]
  split <;> simp only [decide_eq_true_eq, Bool.or_eq_true] <;> split <;> omega

/-- `common.ComputeLuhnCheckDigit` = the model, for every string (on a character that is no digit both take the
    truncated `c - '0'`) -/
theorem src_luhn (s : Str) : TaxIdSrc.Common.ComputeLuhnCheckDigit s = luhnCheckDigit s := by
  unfold TaxIdSrc.Common.ComputeLuhnCheckDigit
  simp only [Id.run]
  -- the loop goes down from the last character: round `pos` reads `s.reverse[pos]`
  rw [forIn_range_fuel _ (fun _ _ => rfl),
    forFuel_scan _ (fun (sum pos : Nat) => ((sum : Int), (pos : Int), (s.length : Int) - 1 - (pos : Int)))
      (fun a p => a + luhnStep (dval p.1) p.2) s.length s.reverse 0 (by simp) ?hy s.length (.inl rfl) 0 _ (by simp),
    ← List.length_reverse, List.take_length, ← luhnLoop_eq_foldl]
  case hy =>
    intro sum pos h
    have hi : s.length - 1 - pos < s.length := by omega
    have e : ((s.length : Int) - 1 - (pos : Int)).toNat = s.length - 1 - pos := by omega
    have ep : ((pos : Int).tmod 2 = 0) ↔ (pos % 2 = 0) := by
      rw [Int.tmod_eq_emod_of_nonneg (Int.natCast_nonneg _)]; omega
    simp only [Id.run, Nat.zero_add, List.getElem_reverse]
    simp only [e, GoStr.byteAt_getElem s _ hi, ep, luhnStep, beq_iff_eq, Int.ofNat_eq_natCast, byte_sub_digit]
    rw [if_neg (by omega)]
    generalize dval s[s.length - 1 - pos] = d
    have e2 : ((d : Int) * 2 > 9) ↔ d * 2 > 9 := by omega
    by_cases hp : pos % 2 = 0 <;> by_cases h2 : d * 2 > 9 <;>
      simp only [e2, hp, h2, if_true, if_false, id_pure, ForInStep.yield.injEq, Prod.mk.injEq] <;>
      (refine ⟨?_, ?_, ?_⟩ <;> omega)
  rw [pure_bind, id_pure, luhnCheckDigit, tmod_lit,
    show (10 : Int) - ((luhnLoop s.reverse 0 0 % 10 : Nat) : Int) = ((10 - luhnLoop s.reverse 0 0 % 10 : Nat) : Int) by omega,
    tmod_lit, itoa_digit _ (by omega)]

theorem src_it_validate (s : Str) :
    (TaxIdSrc.IT.validateTaxCode (some s)).isNone = accepts IT.regime s := by
  unfold TaxIdSrc.IT.validateTaxCode
  simp only [Id.run, Option.getD_some, Option.isSome_some, not_true_eq_false, false_or, decide_eq_nil, bind_all_guard, all_rune_guard, apply_ite Option.isNone, isNone_pure, errNew_isNone,
    Option.isNone_none, Bool.if_true_left, Bool.if_false_left, Bool.if_false_right, Bool.and_true, decide_not, Bool.decide_eq_true,
    Bool.not_not, natCast_eq_lit, src_luhn, accepts, IT.regime, bne, beq_eq_decide]

/-- `calculateVATCheckDigit` = the model on every string over `[A-Z0-9]` (the generic gate) -/
theorem src_fr_vatcheck (s : Str) (hg : s.all isAZ09 = true) :
    TaxIdSrc.FR.calculateVATCheckDigit s = FR.calculateVATCheckDigit s := by
  unfold TaxIdSrc.FR.calculateVATCheckDigit FR.calculateVATCheckDigit
  simp only [Id.run, pure, atoi_gated_fst s hg]
  rw [show ((atoi0 s : Nat) : Int) * 100 + 12 = ((atoi0 s * 100 + 12 : Nat) : Int) by push_cast; rfl,
    tmod_lit, fmt02d_lt100 _ (by omega)]

theorem src_fr_validate (s : Str) :
    (TaxIdSrc.FR.validateVATTaxCode (some s)).isNone = accepts FR.regime s := by
  unfold TaxIdSrc.FR.validateVATTaxCode
  simp only [Id.run, Option.getD_some, Option.isSome_some, not_true_eq_false, false_or, decide_eq_nil, apply_ite Option.isNone, isNone_pure, errNew_isNone, Option.isNone_none, Bool.if_true_left,
    Bool.if_false_left, Bool.and_true, decide_not, Bool.decide_eq_true, Bool.not_not, TaxIdSrc.FR.taxCodeVATRegexp, re_fr_vat,
    accepts, FR.regime, beq_eq_decide]
  refine congrArg (s.isEmpty || ·) (and_congr_of_left rfl fun hf => ?_)
  rw [src_fr_vatcheck _ (allDig_isAZ09 (all_drop (matchSeq_rep_isDig 11 s hf).2 2))]

/-- the SIREN check the normaliser uses -/
theorem src_fr_siren (s : Str) :
    (TaxIdSrc.FR.validateSIRENTaxCode (some s)).isNone = accepts FR.sirenValid s := by
  unfold TaxIdSrc.FR.validateSIRENTaxCode
  simp only [Id.run, Option.getD_some, Option.isSome_some, not_true_eq_false, false_or, decide_eq_nil, apply_ite Option.isNone, isNone_pure, errNew_isNone, Option.isNone_none, Bool.if_true_left,
    Bool.if_false_left, Bool.and_true, decide_not, Bool.decide_eq_true, Bool.not_not, TaxIdSrc.FR.taxCodeSIRENRegexp, re_d9,
    src_luhn, accepts, FR.sirenValid, beq_eq_decide, eq_comm (a := luhnCheckDigit _)]

/-- `validateDigits` on a digit string and a one-digit check -/
theorem src_co_digits (code : Str) (k : Char) (hd : allDig code = true) (hk : isDig k = true) :
    (TaxIdSrc.CO.validateDigits code [k]).isNone = CO.validateDigits code [k] := by
  unfold TaxIdSrc.CO.validateDigits CO.validateDigits
  simp only [Id.run, atoi_single_digit hk, TaxId.atoi?_single k hk,
    show TaxIdSrc.CO.nitMultipliers = CO.nitMultipliers.map (Nat.cast : Nat → Int) from rfl]
  rw [forIn_eq_foldl (Nat.cast : Nat → Int) (fun a p => a + dval p.1 * CO.nitMultipliers.getD (code.length - p.2 - 1) 0) _ _
      ?h 0 0 rfl, ← CO.sumLoop_eq_foldl]
  case h =>
    intro x hx a
    obtain ⟨hx1, hx2, _⟩ := List.mem_zipIdx hx
    rw [runeOf_sub_digit (allDig_mem hd (List.fst_mem_of_mem_zipIdx hx)), getElem!_map_natCast,
      show ((code.length : Int) - (x.2 : Int) - 1).toNat = code.length - x.2 - 1 by omega]
    push_cast; rfl
  simp only [pure_bind, Option.isSome_none, Bool.false_eq_true, if_false, Int.tmod_eq_emod_of_nonneg (Int.natCast_nonneg _)]
  simp only [apply_ite Option.isNone, id_pure, errNew_isNone, Option.isNone_none]
  generalize CO.sumLoop code.length code 0 0 = S
  have h2 : ((S : Int) % 11 ≥ 2) ↔ S % 11 ≥ 2 := by omega
  simp only [h2]
  split <;> exact ite_ne_natCast (by omega) rfl

theorem src_co_validate (s : Str) :
    (TaxIdSrc.CO.validateTaxCode (some s)).isNone = accepts CO.regime s := by
  unfold TaxIdSrc.CO.validateTaxCode
  simp only [Id.run, Option.getD_some, Option.isSome_some, not_true_eq_false, if_false, decide_eq_nil, bind_all_guard, all_rune_guard,
    apply_ite Option.isNone, isNone_pure, errNew_isNone, Option.isNone_none, Bool.if_true_left, Bool.if_false_left,
    Bool.if_false_right, Nat.cast_lt_ofNat, Nat.ofNat_lt_cast, gt_iff_lt, Bool.decide_eq_true, Bool.not_not, accepts, CO.regime]
  refine congrArg (s.isEmpty || ·)
    (and_congr_of_left rfl fun hd => and_congr_of_left rfl fun h10 => and_congr_of_left rfl fun h9 => ?_)
  have hne : s ≠ [] := by rintro rfl; simp at h9
  simp only [Bool.not_eq_true', decide_eq_false_iff_not] at h10 h9
  -- `code[:l-1]` and the last character `code[l-1:l]`
  have := src_co_digits (s.take (s.length - 1)) (s.getLast hne) (all_take hd _) (allDig_mem hd (List.getLast_mem hne))
  rw [← List.drop_length_sub_one hne] at this
  simpa [GoStr.slice, show ((s.length : Int) - 1).toNat = s.length - 1 by omega] using this

theorem src_ae_validate (s : Str) :
    (TaxIdSrc.AE.validateTRNCode (some s)).isNone = accepts AE.regime s := by
  unfold TaxIdSrc.AE.validateTRNCode
  simp only [Id.run, Option.getD_some, Option.isSome_some, not_true_eq_false, false_or, decide_eq_nil, apply_ite Option.isNone, isNone_pure, errNew_isNone, Option.isNone_none, Bool.if_true_left,
    Bool.if_false_left, Bool.and_true, decide_not, Bool.decide_eq_true, Bool.not_not, TaxIdSrc.AE.trnRegex, re_ae]
  rfl

theorem src_mx_type (s : Str) :
    TaxIdSrc.MX.DetermineTaxCodeType s =
      if MX.personRe s then "person".toList else if MX.companyRe s then "company".toList else [] := by
  unfold TaxIdSrc.MX.DetermineTaxCodeType
  simp only [Id.run, TaxIdSrc.MX.TaxIdentityRegexpPerson, TaxIdSrc.MX.TaxIdentityRegexpCompany, re_mx_person, re_mx_company]
  by_cases h1 : MX.personRe s = true <;> by_cases h2 : MX.companyRe s = true <;> simp [h1, h2] <;> rfl

theorem src_de_checksum (s : Str) (hf : DE.fmt s = true) :
    (TaxIdSrc.DE.validateTaxCodeChecksum s).isNone = DE.validateTaxCodeChecksum s := by
  obtain ⟨hl, (hd : allDig s = true)⟩ := DE.of_format (DE.fmt_eq_format s ▸ hf)
  unfold TaxIdSrc.DE.validateTaxCodeChecksum DE.validateTaxCodeChecksum
  simp only [Id.run]
  rw [forIn_range_fuel _ (fun _ _ => rfl),
    forFuel_scan _ (fun (st : Nat × Nat) (i : Nat) => ((none : Option (Option GoStr.Str)), (st.1 : Int), (st.2 : Int), (i : Int)))
      (fun st it => deStep (dval it.1) st.1) 8 s 0 (by omega) ?hy 8 (.inl rfl) (10, 0) (none, 10, 0, 0) rfl,
    DE.loop_eq_foldl 8 s 0 (10, 0) (by omega) hd]
  case hy =>
    intro st i h
    simp only [Id.run, Nat.zero_add, Int.toNat_natCast, atoi_byteAt hd i (by omega)]
    rw [if_neg (by omega), if_neg (by simp), ← Int.natCast_add, tmod_lit]
    simp only [deStep, beq_iff_eq]
    generalize (dval s[i] + st.1) % 10 = r
    by_cases h0 : r = 0
    · subst h0; rfl
    · rw [if_neg (by omega), if_neg h0, id_pure, show (2 : Int) * (r : Int) = ((2 * r : Nat) : Int) by push_cast; rfl, tmod_lit]
      rfl
  have hp := DE.foldl_le (s.take 8).zipIdx (10, 0) ⟨by omega, Nat.le_refl _⟩
  generalize (List.foldl (fun st it => deStep (dval it.1) st.1) (10, 0) (List.take 8 s).zipIdx) = st at hp ⊢
  simp only [pure_bind, atoi_byteAt hd 8 (by omega), getD_of_lt s 8 (by omega), TaxId.atoi?_single _ (allDig_getElem hd 8 (by omega)),
    Option.isSome_none, Bool.false_eq_true, if_false]
  simp only [apply_ite Option.isNone, id_pure, errNew_isNone, Option.isNone_none, beq_iff_eq]
  have h10 : ((11 : Int) - (st.1 : Int) = 10) ↔ 11 - st.1 = 10 := by omega
  simp only [h10]
  split
  · exact ite_ne_natCast rfl rfl
  · exact ite_ne_natCast (by omega) rfl

theorem src_de_validate (s : Str) :
    (TaxIdSrc.DE.validateTaxCode (some s)).isNone = accepts DE.regime s := by
  unfold TaxIdSrc.DE.validateTaxCode
  simp only [Id.run, Option.getD_some, TaxIdSrc.DE.taxCodeRegexps]
  rw [forIn_pure _ _ _ (fun re r => if Re.reMatch re s = true then .done true else .yield r) (fun _ _ => by split <;> rfl),
    forList_flag]
  simp only [pure_bind, Option.isSome_some, not_true_eq_false, false_or, decide_eq_nil, List.any_cons, List.any_nil, Bool.or_false, Bool.false_or, apply_ite Option.isNone, isNone_pure,
    errNew_isNone, Option.isNone_none, Bool.if_true_left, Bool.if_false_left, decide_not, Bool.decide_eq_true, Bool.not_not, re_de]
  exact congrArg (s.isEmpty || ·) (and_congr_of_left rfl (src_de_checksum s))

theorem src_gr_checksum (s : Str) (hf : GR.fmt s = true) :
    TaxIdSrc.GR.hasValidChecksum s = GR.hasValidChecksum s := by
  obtain ⟨hl, (hd : allDig s = true)⟩ := matchSeq_rep_isDig 9 s hf
  unfold TaxIdSrc.GR.hasValidChecksum GR.hasValidChecksum
  simp only [Id.run]
  rw [forIn_parse_digits false s hd 9 (by omega)]
  simp only [hd, hl, pure_bind, Nat.sub_self, List.replicate_zero, List.append_nil]
  -- the second loop reads the stored digits `digits[i]`, `i = 0 … 7`
  rw [forIn_range_fuel _ (fun _ _ => rfl),
    forFuel_scan _ (fun (a i : Nat) => ((a : Int), (i : Int))) (fun a p => a + p.1 * 2 ^ (8 - p.2)) 8 (s.map dval) 0
      (by simp [hl]) ?hy 8 (.inl rfl) 0 (0, 0) rfl,
    ← GR.sumLoop_eq_foldl]
  case hy =>
    intro a i h
    simp only [Id.run, Nat.zero_add, Int.toNat_natCast, List.getElem_map]
    rw [if_neg (by omega), id_pure, getElem!_map_dval s i (by omega), show ((8 : Int) - (i : Int)).toNat = 8 - i by omega]
    exact congrArg ForInStep.yield (by push_cast; rw [Int.one_mul])
  rw [pure_bind, id_pure, show Int.toNat 8 = 8 from rfl, getElem!_map_dval s 8 (by omega), List.getD_eq_getElem?_getD,
    List.getElem?_eq_getElem (by simp [hl]), Option.getD_some, List.getElem_map, tmod_lit, tmod_lit, Bool.eq_iff_iff,
    decide_eq_true_eq]
  simp only [Bool.not_true, Bool.false_eq_true, if_false, beq_iff_eq, Nat.cast_inj]

theorem src_gr_validate (s : Str) :
    (TaxIdSrc.GR.validateTaxCode (some s)).isNone = accepts GR.regime s := by
  unfold TaxIdSrc.GR.validateTaxCode
  simp only [Id.run, Option.getD_some, Option.isSome_some, not_true_eq_false, false_or, decide_eq_nil, apply_ite Option.isNone, isNone_pure, errNew_isNone, Option.isNone_none, Bool.if_true_left,
    Bool.if_false_left, Bool.and_true, decide_not, Bool.decide_eq_true, Bool.not_not, TaxIdSrc.GR.taxCodeRegexp, re_d9]
  exact congrArg (s.isEmpty || ·) (and_congr_of_left rfl (src_gr_checksum s))

theorem src_nl_mod11 (n : Nat) : TaxIdSrc.NL.mod11 (n : Int) = NL.mod11 n := by
  unfold TaxIdSrc.NL.mod11 NL.mod11
  simp only [Id.run]
  rw [forIn_range_fuel _ (fun _ _ => rfl)]
  -- the bound 8 is a literal: both recursions are unrolled eight times by evaluation, on the variable `n`
  simp [forFuel, NL.mod11Loop]
  norm_cast

/-- `checkMod97` = the model on every string over `[A-Z0-9]`: the first loop stores `char - 48` for a digit and
    `char - 55` for a letter, the second reads the number these values spell -/
theorem src_nl_mod97 (s : Str) (hs : s.all isAZ09 = true) : TaxIdSrc.NL.checkMod97 s = NL.checkMod97 s := by
  unfold TaxIdSrc.NL.checkMod97
  simp only [Id.run, Int.toNat_natCast]
  have table := foldl_set_zipIdx (fun c => (NL.mod97Val c : Int)) 0 s [] s.length (Nat.le_refl _)
  simp only [List.nil_append, List.length_nil, Nat.sub_self, List.replicate_zero, List.append_nil] at table
  rw [forIn_eq_foldl (fun l => l) (fun l it => l.set it.2 (NL.mod97Val it.1 : Int)) _ _ ?set _ _ rfl, table, pure_bind,
    List.forIn_map, forIn_eq_foldl (Nat.cast : Nat → Int) (fun r c => (if NL.mod97Val c > 9 then r * 10 * 10 else r * 10) + NL.mod97Val c)
      _ _ ?num 0 0 rfl,
    pure_bind, NL.checkMod97, NL.mod97Loop_eq_foldl, List.foldl_map, Int.tmod_eq_emod_of_nonneg (Int.natCast_nonneg _)]
  · rw [id_pure, Bool.eq_iff_iff, decide_eq_true_eq, beq_iff_eq]; omega
  case set =>
    intro it hit l
    have hc := List.all_eq_true.mp hs _ (List.fst_mem_of_mem_zipIdx hit)
    rcases rune_digit_or_letter hc with ⟨hdg, hr, e⟩ | ⟨hdg, hr, hu⟩
    · rw [if_pos hr, e, NL.mod97Val, if_pos hdg]; rfl
    · rw [if_neg hr, NL.mod97Val, if_neg hdg, show runeOf it.1 - 55 = ((it.1.toNat - 55 : Nat) : Int) by simp only [runeOf]; omega]
  case num =>
    intro c _ r
    have e : ((NL.mod97Val c : Int) > 9) ↔ NL.mod97Val c > 9 := by omega
    simp only [e]
    split <;> (push_cast; rfl)

theorem src_nl_digits (code check : Str) (hc : code.all isAZ09 = true) (hk : check.all isAZ09 = true) :
    (TaxIdSrc.NL.validateDigits code check).isNone = NL.validateDigits code check := by
  unfold TaxIdSrc.NL.validateDigits NL.validateDigits
  simp only [Id.run, atoi_gated code hc, atoi_gated check hk, TaxIdSrc.NL.errInvalidVAT]
  cases h1 : atoi? code with
  | none => simp; rfl
  | some n =>
    cases h2 : atoi? check with
    | none => simp; rfl
    | some m =>
      rw [src_nl_mod97 _ (by simp [hc, hk, isAZ09, isUp])]
      simp only [Option.isSome_none, Bool.false_eq_true, if_false, src_nl_mod11, pure]
      rw [tmod_lit]
      cases NL.checkMod97 (['N', 'L'] ++ code ++ ['B'] ++ check) <;>
        by_cases he : NL.mod11 n = (n : Int) % 10 <;> simp [he, errNew_isNone]

/-- behind the generic gate `^[A-Z0-9]+$` -/
theorem src_nl_validate (s : Str) (hg : gate s = true) :
    (TaxIdSrc.NL.validateTaxCode (some s)).isNone = NL.regime s := by
  have hall := all_of_gate hg
  have hne : s ≠ [] := by rintro rfl; simp [gate] at hg
  unfold TaxIdSrc.NL.validateTaxCode
  simp only [Id.run, Option.getD_some, Option.isSome_some, not_true_eq_false, if_false, hne, apply_ite Option.isNone, isNone_pure,
    errNew_isNone, Bool.if_false_left, natCast_eq_lit, ne_eq, decide_not, Bool.not_not, NL.regime, bne, Bool.decide_eq_true,
    beq_eq_decide]
  refine and_congr_of_left rfl fun hl => ?_
  simp only [decide_eq_true_eq] at hl
  have e9 : (GoStr.byteAt s 9 = 66) = (s.getD 9 ' ' = 'B') := by
    rw [GoStr.byteAt_getElem s 9 (by omega), getD_of_lt s 9 (by omega), ← Char.toNat_inj]; rfl
  simp only [e9]
  refine and_congr_of_left rfl fun _ => ?_
  have := src_nl_digits (s.take 9) (s.drop 10) (all_take hall 9) (all_drop hall 10)
  simpa [GoStr.slice, List.take_of_length_le (show s.length ≤ 12 by omega),
    List.take_of_length_le (show (s.drop 10).length ≤ 2 by simp [hl])] using this

theorem src_in_charToValue (c : Char) (h : isAZ09 c = true) :
    TaxIdSrc.IN.charToValue (GoStr.runeOf c) = (IN.charToValue c : Int) := by
  unfold TaxIdSrc.IN.charToValue IN.charToValue
  simp only [Id.run]
  rcases rune_digit_or_letter h with ⟨hd, hr, e⟩ | ⟨hd, hr, hu⟩
  · rw [if_pos hr, if_pos hd, id_pure, e]; rfl
  · rw [if_neg hr, if_neg hd, id_pure, GoStr.runeOf]
    omega

theorem src_in_valueToChar (v : Nat) (hv : v < 36) :
    TaxIdSrc.IN.valueToChar (v : Int) = ((IN.valueToChar v).toNat : Int) := by
  unfold TaxIdSrc.IN.valueToChar IN.valueToChar
  simp only [Id.run]
  by_cases h9 : v ≤ 9
  · rw [if_pos (by omega), if_pos h9, id_pure, ofNat_toNat_small _ (by omega)]; omega
  · rw [if_neg (by omega), if_neg h9, id_pure, ofNat_toNat_small _ (by omega)]; omega

theorem src_in_checksum (s : Str) (hl : s.length = 15) (hg : s.all isAZ09 = true) :
    (TaxIdSrc.IN.hasValidChecksum s).isNone = IN.hasValidChecksum s := by
  unfold TaxIdSrc.IN.hasValidChecksum IN.hasValidChecksum
  simp only [Id.run]
  rw [forIn_eq_foldl (Nat.cast : Nat → Int) (fun a p => a + inStep p.1 p.2) _ _ ?h 0 0 rfl, ← IN.loop_eq_foldl]
  case h =>
    intro x hx a
    have hc : isAZ09 x.1 = true :=
      List.all_eq_true.mp hg _ (List.mem_of_mem_take (List.fst_mem_of_mem_zipIdx hx))
    have ep : ((x.2 : Int).tmod 2 ≠ 0) ↔ (x.2 % 2 ≠ 0) := by
      rw [Int.tmod_eq_emod_of_nonneg (Int.natCast_nonneg _)]; omega
    simp only [src_in_charToValue _ hc, ep, inStep, bne_iff_ne]
    split <;> norm_cast
  simp only [hl, Nat.cast_ofNat, ne_eq, not_true_eq_false, if_false, pure_bind, bne_self_eq_false, Bool.false_eq_true]
  rw [tmod_lit, show (36 : Int) - ((IN.loop (s.take 14) 0 0 % 36 : Nat) : Int) = ((36 - IN.loop (s.take 14) 0 0 % 36 : Nat) : Int) by omega,
    tmod_lit, src_in_valueToChar _ (Nat.mod_lt _ (by omega)), GoStr.byteAt_getElem s 14 (by omega), getD_of_lt s 14 (by omega)]
  simp only [apply_ite Option.isNone, id_pure, errNew_isNone, Option.isNone_none, Int.ofNat_eq_natCast]
  refine (ite_ne_natCast rfl rfl).trans ?_
  rw [Bool.eq_iff_iff, beq_iff_eq, beq_iff_eq, ← Char.toNat_inj]

theorem src_in_validate (s : Str) :
    (TaxIdSrc.IN.validateTaxCode (some s)).isNone = accepts IN.regime s := by
  unfold TaxIdSrc.IN.validateTaxCode
  simp only [Id.run, Option.getD_some, Option.isSome_some, not_true_eq_false, false_or, decide_eq_nil, apply_ite Option.isNone, ite_isSome_isNone, isNone_pure, errNew_isNone, Option.isNone_none,
    Bool.if_true_left, Bool.if_false_left, Bool.and_true, decide_not, Bool.decide_eq_true, Bool.not_not,
    TaxIdSrc.IN.taxCodeRegexp, re_in]
  refine congrArg (s.isEmpty || ·) (and_congr_of_left rfl fun hf => ?_)
  obtain ⟨hl, hg⟩ := IN.of_format (IN.fmt_eq_format s ▸ hf)
  exact src_in_checksum s hl hg

theorem src_gb_multipliers : TaxIdSrc.GB.taxCodeMultipliers = GB.multipliers.map (Nat.cast : Nat → Int) := rfl

theorem src_gb_commercial (val : Str) (hd : allDig val = true) (hl : 9 ≤ val.length) :
    (TaxIdSrc.GB.commercialCheck val).isNone = GB.commercialCheck val := by
  have hd2 : allDig (GoStr.slice val 7 9) = true := all_drop (all_take hd 9) 7
  have es : GoStr.slice val 7 9 = (val.drop 7).take 2 := by simp [GoStr.slice, List.drop_take]
  have hw := forIn_wsum GB.multipliers val 0 0 (by simp only [GB.multipliers, List.length_cons, List.length_nil]; omega)
  simp only [Nat.cast_zero, List.drop_zero] at hw
  unfold TaxIdSrc.GB.commercialCheck GB.commercialCheck
  simp only [Id.run, atoi_digits val (List.ne_nil_of_length_pos (by omega)) hd,
    atoi_digits _ (List.ne_nil_of_length_pos (by simp; omega)) (all_take hd 7),
    atoi_digits _ (List.ne_nil_of_length_pos (by simp [GoStr.slice]; omega)) hd2, src_gb_multipliers, Int.toNat_natCast, hw, pure_bind]
  rw [forIn_range_fuel _ (fun _ _ => rfl), pure_bind, forFuel_sub97 _ (by intro c; simp only [Id.run]; split <;> rfl),
    GB.subLoop_eq _ _ (by omega) (by omega), GB.subLoop_eq (wloop GB.multipliers val 0 + 1) _ (by omega) (by push_cast; omega), es]
  generalize wloop GB.multipliers val 0 = S
  generalize atoi0 val = N
  generalize atoi0 (val.take 7) = B
  generalize atoi0 ((val.drop 7).take 2) = L
  clear hw es hd2 hd hl
  simp only [id_pure]
  -- what `for checkDigit > 0 { checkDigit -= 97 }` leaves (`GB.subLoop_eq`), the same on both sides
  generalize (S : Int) - 97 * (((S : Int) + 96) / 97) = C
  -- `if checkDigit < 0 { checkDigit = -checkDigit }` sits above everything else: its two cases come first
  by_cases hN : N = 0
  · subst hN; rfl
  by_cases hC : C < 0 <;>
    simp only [hN, hC, Nat.cast_eq_zero, if_true, if_false, apply_ite Option.isNone, errNew_isNone, Option.isNone_none,
      Bool.and_eq_true, Bool.or_eq_true, decide_eq_true_eq, beq_iff_eq, Nat.cast_lt_ofNat, Nat.ofNat_lt_cast, gt_iff_lt,
      and_assoc]
  all_goals
    split
    · rfl
    · split <;> simp only [*]

theorem src_gb_gd (val : Str) (hg : (val.drop 2).all isAZ09 = true) :
    (TaxIdSrc.GB.governmentDepartmentCheck val).isNone = decide (atoi0 (val.drop 2) ≤ 499) := by
  unfold TaxIdSrc.GB.governmentDepartmentCheck
  simp [Id.run, atoi_gated_fst _ hg, pure, apply_ite Option.isNone, errNew_isNone]
  simp only [← Nat.not_le, decide_not]

theorem src_gb_ha (val : Str) (hg : (val.drop 2).all isAZ09 = true) :
    (TaxIdSrc.GB.healthAuthorityCheck val).isNone = decide (atoi0 (val.drop 2) ≥ 500) := by
  unfold TaxIdSrc.GB.healthAuthorityCheck
  simp [Id.run, atoi_gated_fst _ hg, pure, apply_ite Option.isNone, errNew_isNone]
  simp only [← Nat.not_le, decide_not]
theorem src_gb_validate (s : Str) :
    (TaxIdSrc.GB.validateTaxCode (some s)).isNone = accepts GB.regime s := by
  unfold TaxIdSrc.GB.validateTaxCode
  simp only [Id.run, Option.getD_some, TaxIdSrc.GB.taxCodeRegexps]
  rw [forIn_pure _ _ _ (fun re r => if Re.reMatch re s = true then .done true else .yield r) (fun _ _ => by split <;> rfl),
    forList_flag]
  simp only [pure_bind, Option.isSome_some, not_true_eq_false, false_or, decide_eq_nil, apply_ite Option.isNone, isNone_pure, errNew_isNone, Option.isNone_none, Bool.if_true_left,
    Bool.if_false_left, decide_not, Bool.decide_eq_true, Bool.not_not, hasPrefix2, List.any_cons, List.any_nil, re_d9, re_d12, re_gd, re_ha, Bool.or_false, Bool.false_or, accepts, GB.regime]
  refine congrArg (s.isEmpty || ·) (and_congr_of_left (by simp [GB.fmt, FR.sirenRe, Bool.or_assoc]) fun hf => ?_)
  rcases GB.of_format (GB.fmt_eq_format s ▸ hf) with ⟨hl, hd⟩ | ⟨-, ht, hd2⟩
  · -- a number starts with neither `GD` nor `HA`
    simp only [GB.take_two_ne hd 'G' 'D' (by decide), GB.take_two_ne hd 'H' 'A' (by decide), Bool.false_eq_true, if_false]
    exact src_gb_commercial s hd (by omega)
  · rcases ht with ht | ht <;>
      simp only [ht, beq_self_eq_true, if_true, show (['H', 'A'] == ['G', 'D']) = false from rfl, Bool.false_eq_true, if_false]
    · exact src_gb_gd s (allDig_isAZ09 hd2)
    · exact src_gb_ha s (allDig_isAZ09 hd2)

/-- `verifyDigit` on a string of digits that is long enough for the weights and the position -/
theorem src_br_verify (s : Str) (hd : allDig s = true) (ws : List Nat) (pos : Nat)
    (hws : ws.length ≤ s.length ∧ pos < s.length) :
    (TaxIdSrc.BR.verifyDigit s (ws.map (Nat.cast : Nat → Int)) (pos : Int)).isNone = BR.verifyDigit s ws pos := by
  unfold TaxIdSrc.BR.verifyDigit BR.verifyDigit
  simp only [Id.run, List.length_map, BR.sumLoop_eq_wloop ws s 0 hd hws.1]
  rw [forIn_range_fuel _ (fun _ _ => rfl),
    forFuel_scan _ (fun (a i : Nat) => ((none : Option (Option GoStr.Str)), (a : Int), (i : Int)))
      (fun a p => a + dval p.1 * ws.getD p.2 0) ws.length s 0 hws.1 ?hy ws.length (.inl rfl) 0 (none, 0, 0) rfl,
    ← wloop_eq_foldl ws s 0 rfl]
  case hy =>
    intro a i h
    simp only [Id.run, Nat.zero_add, Int.toNat_natCast, atoi_byteAt hd i (by omega), getElem!_map_natCast]
    rw [if_neg (by omega), if_neg (by simp), id_pure]
    exact congrArg ForInStep.yield (by push_cast; rfl)
  simp only [pure_bind, Int.toNat_natCast, atoi_byteAt hd pos hws.2, getD_of_lt s pos hws.2,
    TaxId.atoi?_single _ (allDig_getElem hd pos hws.2), Option.isSome_none, Bool.false_eq_true, if_false,
    Int.tmod_eq_emod_of_nonneg (Int.natCast_nonneg _)]
  simp only [apply_ite Option.isNone, id_pure, errNew_isNone, Option.isNone_none]
  generalize wloop ws s 0 = S
  have h2 : ((S : Int) % 11 < 2) ↔ S % 11 < 2 := by omega
  simp only [h2]
  split <;> exact ite_ne_natCast rfl (by omega)

/-- for every string of 14 digits (on other strings of 14 characters the validator answers "must contain only digits":
    not covered, see "bookkeeping of the translation" below) -/
theorem src_br_validate_digits (s : Str) (hl : s.length = 14) (hd : allDig s = true) :
    (TaxIdSrc.BR.validateTaxCode (some s)).isNone = BR.regime s := by
  have e1 := src_br_verify s hd BR.weights1 12 (by simp [hl, BR.weights1])
  have e2 := src_br_verify s hd BR.weights2 13 (by simp [hl, BR.weights2])
  unfold TaxIdSrc.BR.validateTaxCode
  simp only [Id.run, Option.getD_some, apply_ite Option.isNone, ite_isSome_isNone, isNone_pure, errNew_isNone, Option.isNone_none,
    Bool.if_true_left, Bool.if_false_left, Bool.and_true, natCast_eq_lit, ne_eq, hl, not_true_eq_false, decide_false,
    Bool.not_false, Bool.true_and, Option.isSome_some, false_or]
  rw [decide_eq_false (by rintro rfl; simp at hl), BR.regime, hl, ← e1, ← e2]
  rfl

/-! ### the loops never run out of fuel (one theorem per entry of `fuelChecks`) -/

theorem luhn_fuel_suffices (number : Str) : TaxIdSrc.Common.ComputeLuhnCheckDigit_fuelOK number = true := by
  unfold TaxIdSrc.Common.ComputeLuhnCheckDigit_fuelOK
  simp only [Id.run]
  rw [forIn_range_fuel _ (fun _ _ => rfl)]
  generalize hr : forFuel _ number.length _ = r
  -- `i` goes down from `len - 1` while `i ≥ 0`: `-i` goes up to 1
  have h : ¬ - r.2.2 < 1 := by
    refine forFuel_counts_noret (fun b : Int × Int × Int => - b.2.2) 1 hr (by simp) fun b => ?_
    have next (x y : Int) : Counts (fun b : Int × Int × Int => - b.2.2) 1 (fun _ => False) (fun _ => True) b
        (.yield (x, y, b.2.2 - 1)) := .next trivial (by show -(b.2.2 - 1) = -b.2.2 + 1; omega)
    exact .ite (fun h => .exit (by show ¬ -b.2.2 < 1; omega) trivial) fun _ =>
      .ite (fun _ => .ite (fun _ => next _ _) fun _ => next _ _) fun _ => next _ _
  rw [pure_bind, if_neg (by omega)]; rfl

theorem pt_fuel_suffices (v : Option Str) : TaxIdSrc.PT.validateTaxCode_fuelOK v = true := by
  unfold TaxIdSrc.PT.validateTaxCode_fuelOK
  simp only [Id.run, ite_self]
  rw [forIn_all_guard, forIn_range_fuel _ (fun _ _ => rfl)]
  generalize hr : forFuel _ 9 _ = r
  have key := forFuel_counts (fun b : Option Bool × Int × Int => b.2.2) 9 (fun b => b.1 = some true) (fun b => b.1 = none) hr rfl
    (by simp) fun b _ => .ite (fun h => .exit h rfl) fun _ => .ite (fun _ => .ret rfl) fun _ => .next rfl rfl
  clear hr
  generalize List.all (v.getD []) _ = dig
  rcases key with h | ⟨h1, h2⟩ <;> cases dig <;> simp only [pure_bind, *, if_false, if_true, Bool.false_eq_true, ite_self] <;> rfl

theorem nl_mod11_fuel_suffices (num : Int) : TaxIdSrc.NL.mod11_fuelOK num = true := by
  unfold TaxIdSrc.NL.mod11_fuelOK
  simp only [Id.run]
  rw [forIn_range_fuel _ (fun _ _ => rfl)]
  -- eight rounds of a loop with the literal bound 8, unrolled by evaluation: the counter ends at 8
  simp [forFuel]
  rfl

theorem de_fuel_suffices (val : Str) : TaxIdSrc.DE.validateTaxCodeChecksum_fuelOK val = true := by
  unfold TaxIdSrc.DE.validateTaxCodeChecksum_fuelOK
  simp only [Id.run, ite_self]
  rw [forIn_range_fuel _ (fun _ _ => rfl)]
  generalize hr : forFuel _ 8 _ = r
  rcases forFuel_counts (fun b : Option Bool × Int × Int × Int => b.2.2.2) 8 (fun b => b.1 = some true) (fun b => b.1 = none)
      hr rfl (by simp) fun b _ => .ite (fun h => .exit h rfl) fun _ => .ite (fun _ => .ret rfl) fun _ =>
        .ite (fun _ => .next rfl rfl) fun _ => .next rfl rfl with h | ⟨h1, h2⟩
  · simp only [pure_bind, h]; rfl
  · simp only [pure_bind, h1, h2, if_false]; rfl

theorem gr_fuel_suffices (val : Str) : TaxIdSrc.GR.hasValidChecksum_fuelOK val = true := by
  unfold TaxIdSrc.GR.hasValidChecksum_fuelOK
  simp only [Id.run]
  generalize hr1 : forIn (m := Id) val.zipIdx _ _ = r1
  have h1 : r1.1 = none ∨ r1.1 = some true := by
    rw [← hr1]
    refine forIn_list_inv _ _ (fun b : Option Bool × List Int => b.1 = none ∨ b.1 = some true) (fun a b _ => ?_) _ (Or.inl rfl)
    dsimp only [Id.run]
    split
    · exact Or.inr rfl
    · exact Or.inl rfl
  clear hr1
  rcases h1 with h1 | h1
  · simp only [bind, h1]
    rw [forIn_range_fuel _ (fun _ _ => rfl)]
    generalize hr : forFuel _ 8 _ = r
    exact if_neg (forFuel_counts_noret (fun b : Int × Int => b.2) 8 hr (by simp) fun b =>
      .ite (fun h => .exit h trivial) fun _ => .next trivial rfl)
  · simp only [bind, h1]; rfl

theorem br_fuel_suffices (cnpj : Str) (weights : List Int) (position : Int) :
    TaxIdSrc.BR.verifyDigit_fuelOK cnpj weights position = true := by
  unfold TaxIdSrc.BR.verifyDigit_fuelOK
  simp only [Id.run, ite_self]
  rw [forIn_range_fuel _ (fun _ _ => rfl)]
  generalize hr : forFuel _ weights.length _ = r
  rcases forFuel_counts (fun b : Option Bool × Int × Int => b.2.2) (weights.length : Int) (fun b => b.1 = some true)
      (fun b => b.1 = none) hr rfl (by simp) fun b _ =>
        .ite (fun h => .exit h rfl) fun _ => .ite (fun _ => .ret rfl) fun _ => .next rfl rfl with h | ⟨h1, h2⟩
  · simp only [pure_bind, h]; rfl
  · simp only [pure_bind, h1, h2, if_false]; rfl

theorem gb_fuel_suffices (val : Str) : TaxIdSrc.GB.commercialCheck_fuelOK val = true := by
  unfold TaxIdSrc.GB.commercialCheck_fuelOK
  simp only [Id.run, ite_self]
  generalize (forIn (m := Id) TaxIdSrc.GB.taxCodeMultipliers.zipIdx _ _) = sum
  simp only [bind]
  rw [forIn_range_fuel _ (fun _ _ => rfl), forFuel_sub97 _ (by intro c; simp only [Id.run]; split <;> rfl)]
  simp only [id_pure, if_neg (GB.subLoop_nonpos sum), ite_self]

/-! ### bookkeeping of the translation

  Translated, compiled, and not related to the model by a theorem (nothing is claimed about them):
  `at.commercialCheck`, `at.validateTaxCode`, `be.commercialCheck`, `be.validateTaxCode`, `ch.commercialCheck`,
  `ch.validateTaxCode` (the float64 detours: `math.Mod`, `math.Floor`, `float64(n)`), and `br.validateTaxCode` on
  strings of 14 characters that are not all digits (`src_br_validate_digits` covers the digit strings). -/

/-- every loop with a fuel term has its theorem above -/
theorem fuel_checks_listed : TaxIdSrc.fuelChecks =
    ["common.ComputeLuhnCheckDigit_fuelOK", "pt.validateTaxCode_fuelOK", "nl.mod11_fuelOK", "de.validateTaxCodeChecksum_fuelOK",
     "gr.hasValidChecksum_fuelOK", "br.verifyDigit_fuelOK", "gb.commercialCheck_fuelOK"] := by decide +kernel

/-- what the subset does not reach: MX `ValidateTaxCode` reads a variable of
    package tax; ES goes through `regexp.FindStringSubmatch`/`SubexpNames`, a map that is written, and `k & 1` -/
theorem untranslated_pinned : TaxIdSrc.untranslated =
    ["mx.ValidateTaxCode", "es.verifyOrgCodeMatches", "es.verifyNationalCode", "es.verifyForeignCode", "es.verifyOrgCode",
     "es.verifyOtherCode", "es.DetermineTaxCodeType", "es.validateTaxCode", "es.extractMatches"] := by decide +kernel

/-- every subtraction on a byte (`val[i] - '0'`: truncated in the translation, wrapping in Go), with
    the conditions around it: each is reached only behind a digit gate (luhn: callers pass digit
    strings; GB, AT, BE, CH: the regexp of `validateTaxCode` admits digits only at these positions) -/
theorem nat_subtractions_as_reviewed : TaxIdSrc.natSubs =
    [("common.ComputeLuhnCheckDigit", "number[i] - '0'", ["i >= 0"]),
     ("gb.commercialCheck", "val[i] - '0'", []),
     ("at.commercialCheck", "val[i+1] - '0'", []),
     ("at.commercialCheck", "val[8] - '0'", []),
     ("be.commercialCheck", "val[1] - '0'", []),
     ("ch.commercialCheck", "val[i+1] - '0'", []),
     ("ch.commercialCheck", "val[9] - '0'", [])] := by decide +kernel

/-- every regexp that a translated function matches against has an entry in the table of the
    declared primitive `Re.reMatch` (Model/TaxIdRe.lean): a changed pattern text breaks this -/
theorem re_patterns_known :
    ([TaxIdSrc.PL.taxIdentityRegexp, TaxIdSrc.FR.taxCodeVATRegexp, TaxIdSrc.FR.taxCodeSIRENRegexp, TaxIdSrc.GR.taxCodeRegexp,
      TaxIdSrc.IN.taxCodeRegexp, TaxIdSrc.AE.trnRegex, TaxIdSrc.MX.TaxIdentityRegexpPerson, TaxIdSrc.MX.TaxIdentityRegexpCompany,
      TaxIdSrc.ES.taxCodeNationalRegexp, TaxIdSrc.ES.taxCodeForeignRegexp, TaxIdSrc.ES.taxCodeOrgRegexp, TaxIdSrc.ES.taxCodeOtherRegexp]
      ++ TaxIdSrc.DE.taxCodeRegexps ++ TaxIdSrc.GB.taxCodeRegexps ++ TaxIdSrc.AT.taxCodeRegexps ++ TaxIdSrc.BE.taxCodeRegexps
      ++ TaxIdSrc.CH.taxCodeRegexps).all Re.reKnown = true := by decide +kernel

/-- a dynamic value that is not a `cbc.Code` is accepted by every checker (`if !ok { return nil }`) -/
theorem src_not_a_code :
    TaxIdSrc.PL.validateTaxCode none = none ∧ TaxIdSrc.PT.validateTaxCode none = none ∧ TaxIdSrc.NL.validateTaxCode none = none ∧
    TaxIdSrc.IT.validateTaxCode none = none ∧ TaxIdSrc.FR.validateVATTaxCode none = none ∧ TaxIdSrc.DE.validateTaxCode none = none ∧
    TaxIdSrc.CO.validateTaxCode none = none ∧ TaxIdSrc.GR.validateTaxCode none = none ∧ TaxIdSrc.IN.validateTaxCode none = none ∧
    TaxIdSrc.GB.validateTaxCode none = none ∧ TaxIdSrc.AE.validateTRNCode none = none :=
  ⟨rfl, rfl, rfl, rfl, rfl, rfl, rfl, rfl, rfl, rfl, rfl⟩

/-! ### non-vacuity: the regenerated checkers on real codes -/

example : (TaxIdSrc.PL.validateTaxCode (some "5260001246".toList)).isNone = true ∧
    (TaxIdSrc.PL.validateTaxCode (some "5260001247".toList)).isNone = false := by
  rw [src_pl_validate, src_pl_validate]; decide +kernel
example : (TaxIdSrc.NL.validateTaxCode (some "000099998B57".toList)).isNone = true := by
  rw [src_nl_validate _ (by decide +kernel)]; decide +kernel
example : (TaxIdSrc.CO.validateTaxCode (some "9014586527".toList)).isNone = true ∧
    (TaxIdSrc.FR.validateVATTaxCode (some "39356000000".toList)).isNone = true ∧
    (TaxIdSrc.GB.validateTaxCode (some "350983637".toList)).isNone = true ∧
    (TaxIdSrc.IN.validateTaxCode (some "27AAPFU0939F1ZV".toList)).isNone = true ∧
    (TaxIdSrc.DE.validateTaxCode (some "111111125".toList)).isNone = true := by
  rw [src_co_validate, src_fr_validate, src_gb_validate, src_in_validate, src_de_validate]; decide +kernel
example : gate "000099998B57".toList = true ∧ DE.fmt "111111125".toList = true ∧ GR.fmt "925667500".toList = true ∧
    allDig "11222333000181".toList = true := by decide +kernel
/-- the hypotheses of the gated theorems above are satisfiable (luhn, FR, CO, IN, GB, GD/HA, NL digits) -/
example : allDig "7992739871".toList = true ∧ ("356000000".toList).all isAZ09 = true ∧
    (allDig "901458652".toList = true ∧ isDig '7' = true ∧ "901458652".toList.length = 9) ∧
    ("27AAPFU0939F1ZV".toList.length = 15 ∧ ("27AAPFU0939F1ZV".toList).all isAZ09 = true) ∧
    (allDig "350983637".toList = true ∧ 9 ≤ "350983637".toList.length) ∧
    (("GD001".toList.drop 2).all isAZ09 = true ∧ ("HA501".toList.drop 2).all isAZ09 = true) ∧
    (("000099998".toList).all isAZ09 = true ∧ ("57".toList).all isAZ09 = true) ∧ isAZ09 'Q' = true ∧ 35 < 36 := by decide +kernel

end Src

end GoblVerif.Props.C13
