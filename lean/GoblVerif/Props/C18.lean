/-
  C18 — validated documents only reference defined codes, keys and rates.
  PARTIAL: only the generic reference rules of Model/Refs.lean are covered
  (tax combo category / rate / country override, Extensions.Validate — also for
  the rates of stored tax summaries —, tags (the rule is applied by bill.Invoice
  only), `tax.prices_include`, addons, currency and country codes).  The ~35 regime and addon validators
  (addon-specific extension requirements etc.) are exercised by the harness,
  not modelled.

  Each theorem has the shape  validateX defs x = true → resolvesX defs x,
  for ANY definitions `defs` and any pattern matcher `pm`.
  `combo_sound` needs the hypothesis that the regime applying to the combo is
  defined; `combo_unchecked_without_regime` and `prices_include_without_regime`
  state what the code does without it; `doc_tags_unchecked_outside_invoices`
  states the known finding of this property (`$tags` of orders, deliveries and
  payments are not compared with the defined tags).

  Key positions (`means_key_sound`, `note_key_sound`, `terms_key_sound`): payment means keys
  (by their base), payment terms keys and note keys against the key sets the schemas
  publish (`Generated.Defs.keySets`); `Refs.openKeyPositions` lists the positions the code
  leaves open.

  `namespace Src` (before `Expect`) ties the model to the source: the leaf predicates of
  /repo/cbc and /repo/tax that implement the rules are TRANSLATED from Go on every run
  (Generated/RefsSrc.lean, harness/cmd/extract/refssrc.go) and proved equal to the model's
  predicates for all arguments — those the rules go through.  Seven of the 22 translated units
  (`Src.translated_units`) have no theorem: `Key.IsEmpty`, `Definition.KeyDef`, `Definition.HasKey`,
  `GetKeyDefinition`, `GetCodeDefinition`, `TagSetForSchema`, `validateExtCodeMap.Validate`.
-/
import GoblVerif.Spec.C18
import GoblVerif.Generated.Defs
import GoblVerif.Generated.RefsFacts
import GoblVerif.Model.RefsCtx
import GoblVerif.Generated.RefsCtxFacts
import GoblVerif.Generated.RefsSrc
import GoblVerif.Proofs.RefsSrc
import GoblVerif.Proofs.Refs
import GoblVerif.Props.C19

namespace GoblVerif.Props.C18
open GoblVerif.Refs GoblVerif.Spec.C18

/-! ## lookups -/

theorem regimeResolvesB_iff (d : Defs) (code : String) :
    regimeResolvesB d code = true ↔ regimeResolves d code := by
  unfold regimeResolvesB regimeResolves
  constructor
  · intro h
    obtain ⟨r, hr⟩ := Option.isSome_iff_exists.mp h
    exact ⟨r, Defs.regimeFor_some hr⟩
  · rintro ⟨r, hr, hc⟩
    rw [Defs.regimeFor, List.find?_isSome]
    exact ⟨r, hr, by simpa using hc⟩

theorem addonResolvesB_iff (d : Defs) (key : String) :
    addonResolvesB d key = true ↔ addonResolves d key := by
  simp [addonResolvesB, addonResolves, Defs.addonFor]

theorem extPairResolvesB_iff (d : Defs) (pm : PatternMatch) (kv : String × String) :
    extPairResolvesB d pm kv = true ↔ extPairResolves d pm kv := by
  simp [extPairResolvesB, extPairResolves, and_assoc]

theorem tagResolvesB_iff (docRegime : Option Regime) (addons : List Addon) (schema tag : String) :
    tagResolvesB docRegime addons schema tag = true ↔ tagResolves docRegime addons schema tag := by
  cases docRegime <;> simp [tagResolvesB, tagResolves]

/-- the executable combo check used by the driver is sound for the relation -/
theorem comboResolvesB_sound (d : Defs) (docCode : String) (c : Combo)
    (h : comboResolvesB d docCode c = true) : comboResolves d docCode c := by
  simp only [comboResolvesB, beq_iff_eq] at h
  cases hrr : d.regimeFor (if c.country = "" then docCode else c.country) with
  | none => simp [hrr] at h
  | some r =>
    cases hcd : r.category c.category with
    | none => simp [hrr, hcd] at h
    | some cat =>
      simp only [hrr, hcd, Bool.or_eq_true, beq_iff_eq, List.any_eq_true, Category.rateKeys, List.mem_map] at h
      refine ⟨r, Defs.regimeFor_some hrr, cat, (Regime.category_some hcd).1, (Regime.category_some hcd).2,
        h.imp_right ?_⟩
      rintro ⟨k, ⟨rt, hrt, rfl⟩, hk⟩
      exact ⟨rt, hrt, hk⟩

/-- the executable `prices_include` check used by the driver is sound for the relation -/
theorem includesResolvesB_sound (d : Defs) (docCode cat : String)
    (h : includesResolvesB d docCode cat = true) : includesResolves d docCode cat := by
  unfold includesResolvesB at h
  cases hrr : d.regimeFor docCode with
  | none => simp [hrr] at h
  | some r =>
    obtain ⟨c, hcm, hce⟩ := by simpa [hrr] using h
    exact ⟨r, (Defs.regimeFor_some hrr).1, (Defs.regimeFor_some hrr).2, c, hcm, hce⟩

/-! ## soundness of the generic rules -/

/-- **extensions**: `Extensions.Validate` accepts only pairs whose key some regime,
    addon or catalogue defines and whose value is allowed / matches the pattern -/
theorem ext_sound (d : Defs) (pm : PatternMatch) (ext : List (String × String))
    (h : validateExt d pm ext = true) : extResolves d pm ext := by
  intro kv hkv
  have := List.all_eq_true.mp h kv hkv
  unfold validateExtPair at this
  cases hd : d.extDef kv.1 with
  | none => simp [hd] at this
  | some kd =>
    simp only [hd, Bool.and_eq_true, Bool.or_eq_true, beq_iff_eq, List.isEmpty_iff, List.contains_eq_mem,
      decide_eq_true_eq] at this
    exact ⟨kd, (Defs.extDef_some hd).1, (Defs.extDef_some hd).2, this.1.2, this.2⟩

/-- **tax combos**: when the regime that applies to the combo (country override,
    else the document's) is defined, an accepted combo's category belongs to it,
    its rate key names one of the category's rates, and its extensions resolve -/
theorem combo_sound (d : Defs) (pm : PatternMatch) (docCode : String) (c : Combo)
    (h : validateCombo d pm (d.regimeFor docCode) c = true)
    (hr : (comboRegime d (d.regimeFor docCode) c).isSome = true) :
    comboResolves d docCode c ∧ extResolves d pm c.ext := by
  simp only [validateCombo, Bool.and_eq_true] at h
  obtain ⟨⟨⟨_, hcat⟩, hrate⟩, hext⟩ := h
  exact ⟨comboResolvesB_sound d docCode c (by rw [comboResolvesB_eq, hr, hcat, hrate]; rfl), ext_sound d pm c.ext hext⟩

/-- **what the combo rules do without a regime definition**: EVERY non-empty category code
    passes.  (A document whose `$regime` is undefined is refused before it gets here,
    `Expect.undefined_regime_is_rejected`; a document without `$regime` and a combo without a
    country is the case left.) -/
theorem combo_unchecked_without_regime (d : Defs) (pm : PatternMatch) (cat : String) (hc : cat ≠ "") :
    validateCombo d pm none { category := cat, country := "", rate := "", ext := [] } = true := by
  unfold validateCombo comboRegime inCategories inCategoryRates validateExt
  simp [hc]

/-- **regime_sound**: an accepted `$regime` is empty or names a defined regime -/
theorem regime_sound (d : Defs) (code : String) (h : validateRegime d code = true) :
    code = "" ∨ (d.regimeFor code).isSome = true := by
  unfold validateRegime at h
  simpa using h

/-- **tags**: an accepted tag is offered, for that document type, by the document's
    regime or by one of the addons in use -/
theorem tags_sound (docRegime : Option Regime) (addons : List Addon) (schema : String) (tags : List String)
    (h : validateTags docRegime addons schema tags = true) :
    ∀ t ∈ tags, tagResolves docRegime addons schema t := fun t ht =>
  mem_supportedTags.mp (by simpa using List.all_eq_true.mp h t ht)

/-- the `TagsIn` rule accepts a tag list for a document type for which neither the regime
    nor an addon in use declares a tag set exactly when the list is empty (no tag set is
    published today for any type but bill/invoice: applying the rule to the other
    documents as they stand would refuse every tag, `customer-rates` included) -/
theorem tags_refused_without_tagset (docRegime : Option Regime) (addons : List Addon) (schema : String)
    (tags : List String) (hs : supportedTags docRegime addons schema = []) :
    validateTags docRegime addons schema tags = true ↔ tags = [] := by
  unfold validateTags
  rw [hs]
  cases tags with
  | nil => simp
  | cons t ts => simp

/-- **document tags**: on a document type that applies the rule (bill/invoice) accepted
    tags are offered, for that type, by the regime or by one of the addons in use -/
theorem doc_tags_sound (docRegime : Option Regime) (addons : List Addon) (schema : String) (tags : List String)
    (hs : schema ∈ tagCheckedSchemas)
    (h : validateDocTags docRegime addons schema tags = true) :
    ∀ t ∈ tags, tagResolves docRegime addons schema t := by
  unfold validateDocTags at h
  have hc : tagCheckedSchemas.contains schema = true := by simpa using hs
  rw [if_pos hc] at h
  exact tags_sound docRegime addons schema tags h

/-- **known finding, as a theorem about the code's rules**: on the other tagged document
    types (bill/order, bill/delivery, bill/payment) EVERY tag list passes -/
theorem doc_tags_unchecked_outside_invoices (docRegime : Option Regime) (addons : List Addon) (schema : String)
    (tags : List String) (hs : schema ∉ tagCheckedSchemas) :
    validateDocTags docRegime addons schema tags = true := by
  unfold validateDocTags
  have hc : ¬ (tagCheckedSchemas.contains schema = true) := by simpa using hs
  rw [if_neg hc]

/-- **prices_include**: on a document whose `$regime` was accepted and is not empty, an
    accepted non-empty `tax.prices_include` names a category of that regime -/
theorem prices_include_sound (d : Defs) (docCode cat : String)
    (hreg : validateRegime d docCode = true) (hdoc : docCode ≠ "")
    (h : validatePricesInclude (d.regimeFor docCode) cat = true) (hc : cat ≠ "") :
    includesResolves d docCode cat := by
  apply includesResolvesB_sound
  obtain ⟨r, hr⟩ := Option.isSome_iff_exists.mp ((regime_sound d docCode hreg).resolve_left hdoc)
  rw [includesResolvesB_eq, hr]
  simpa [hr, validatePricesInclude, inCategories, hc] using h

/-- what the rule does when the validation context carries no regime (a document
    without `$regime` whose supplier has no tax identity): nothing is compared, any code
    passes the reference rule (its syntax is still checked by `cbc.Code`) -/
theorem prices_include_without_regime (cat : String) : validatePricesInclude none cat = true := rfl

/-- **stored tax summaries**: an accepted `tax.Total` (under `preceding[*].tax`, a
    payment's `tax`, `lines[*].document.tax`, `totals.taxes`) carries, in every rate of every
    category, only extension pairs that resolve -/
theorem stored_total_sound (d : Defs) (pm : PatternMatch) (cats : List CategoryTotal)
    (h : validateTotal d pm cats = true) : totalResolves d pm cats := by
  intro ct hct rt hrt
  have h1 := List.all_eq_true.mp h ct hct
  simp only [validateCategoryTotal, Bool.and_eq_true, List.all_eq_true] at h1
  have h2 := h1.2 rt hrt
  simp only [validateRateTotal, Bool.and_eq_true] at h2
  exact ext_sound d pm rt.ext h2.2

/-- **addons**: every accepted addon key is a published addon -/
theorem addons_sound (d : Defs) (keys : List String) (h : validateAddons d keys = true) :
    ∀ k ∈ keys, addonResolves d k := fun k hk =>
  (addonResolvesB_iff d k).mp (List.all_eq_true.mp h k hk)

/-- **codes**: accepted currency and country codes are known codes -/
theorem codes_sound (d : Defs) (currencies countries : List String)
    (h : validateCodes d currencies countries = true) :
    (∀ c ∈ currencies, currencyResolves d c) ∧ (∀ c ∈ countries, countryResolves d c) := by
  unfold validateCodes at h
  simp only [Bool.and_eq_true, List.all_eq_true, List.contains_eq_mem, decide_eq_true_eq] at h
  exact ⟨fun c hc => h.1 c hc, fun c hc => h.2 c hc⟩

/-! ## the rules over a whole document: which regime reaches a combo (Model/RefsCtx.lean) -/

/-- **the regime that applies to a combo is the document's** (unless the combo names a
    country: `comboRegime`): in an accepted document every combo passed the combo rules with
    the DOCUMENT's regime definition, whatever `$regime` the parties declare -/
theorem doc_combos_judged_by_document_regime (d : Defs) (pm : PatternMatch) (doc : Doc)
    (h : validateDoc d pm doc = true) :
    ∀ c ∈ doc.combos, validateCombo d pm (d.regimeFor doc.regime) c = true := by
  unfold validateDoc at h
  simp only [Bool.and_eq_true, List.all_eq_true] at h
  intro c hc
  have := h.2 c hc
  rwa [docContext_eq] at this

/-- **a party's `$regime` concerns that party only**: the verdict on a document is the
    verdict on the document without its parties, and the verdict on each party; in
    particular replacing the parties (their regimes included) cannot make a combo, a tag or
    `prices_include` acceptable that was not -/
theorem party_regimes_do_not_reach_the_lines (d : Defs) (pm : PatternMatch) (doc : Doc) (ps : List Party) :
    validateDoc d pm { doc with parties := ps } =
      (validateDoc d pm { doc with parties := [] } && ps.all (validateParty d pm (docContext d doc))) := by
  simp only [validateDoc, docContext, List.all_nil, Bool.and_true]
  ac_rfl

/-- **whole-document soundness of the generic rules**: an accepted document with a
    `$regime` names a defined regime and defined addons; every combo whose applicable regime
    (country override, else the DOCUMENT's) is defined resolves in it, with its extensions;
    every party's own `$regime` is empty or defined and its extensions resolve; on the
    document types that apply the rule the tags are offered by the document's regime or an
    addon in use; a non-empty `prices_include` is a category of the document's regime -/
theorem doc_sound (d : Defs) (pm : PatternMatch) (doc : Doc)
    (h : validateDoc d pm doc = true) (hreg : doc.regime ≠ "") :
    regimeResolves d doc.regime ∧
    (∀ k ∈ doc.addons, addonResolves d k) ∧
    (∀ c ∈ doc.combos, (comboRegime d (d.regimeFor doc.regime) c).isSome = true →
        comboResolves d doc.regime c ∧ extResolves d pm c.ext) ∧
    (∀ p ∈ doc.parties, (p.regime = "" ∨ regimeResolves d p.regime) ∧ extResolves d pm p.ext) ∧
    (doc.schema ∈ tagCheckedSchemas →
        ∀ t ∈ doc.tags, tagResolves (d.regimeFor doc.regime) (doc.addons.filterMap d.addonFor) doc.schema t) ∧
    (doc.pricesInclude ≠ "" → includesResolves d doc.regime doc.pricesInclude) := by
  have hcombos := doc_combos_judged_by_document_regime d pm doc h
  unfold validateDoc at h
  simp only [Bool.and_eq_true, List.all_eq_true] at h
  obtain ⟨⟨⟨⟨⟨hr, ha⟩, ht⟩, hpi⟩, hp⟩, _⟩ := h
  have hsome := (regime_sound d doc.regime hr).resolve_left hreg
  refine ⟨(regimeResolvesB_iff d doc.regime).mp hsome, addons_sound d doc.addons ha, ?_, ?_, ?_, ?_⟩
  · intro c hc hcr
    exact combo_sound d pm doc.regime c (hcombos c hc) hcr
  · intro p hpm
    have := hp p hpm
    unfold validateParty at this
    simp only [Bool.and_eq_true] at this
    exact ⟨(regime_sound d p.regime this.1).imp_right (regimeResolvesB_iff d p.regime).mp, ext_sound d pm p.ext this.2⟩
  · intro hs
    exact doc_tags_sound (d.regimeFor doc.regime) (doc.addons.filterMap d.addonFor) doc.schema doc.tags hs ht
  · intro hne
    rw [docContext_eq] at hpi
    exact prices_include_sound d doc.regime doc.pricesInclude hr hreg hpi hne

/-- one shared slot for the regime gives the code's verdict as long as no party declares a
    defined regime of its own — which is why no shipped example tells the two apart -/
theorem shared_agrees_without_party_regimes (d : Defs) (pm : PatternMatch) (doc : Doc)
    (hp : ∀ p ∈ doc.parties, d.regimeFor p.regime = none) :
    validateDocShared d pm doc = validateDoc d pm doc := by
  unfold validateDocShared validateDoc
  simp only [sharedAfterParties_eq d doc.parties (docContext d doc) hp]

/-! ## key positions: payment means, payment terms, notes -/

/-- the base of a key, as `keyHasPrefix` reads it, is the first `+`-separated part -/
theorem keyHasPrefix_iff (k ke : String) :
    keyHasPrefix k ke = true ↔ (splitPlus k.toList []).head? = some ke.toList := by
  unfold keyHasPrefix
  cases h : splitPlus k.toList [] with
  | nil => exact absurd h (splitPlus_ne_nil _ _)
  | cons a l => simp

/-- **payment means keys**: an accepted `payment.instructions.key` / `advances[*].key` is blank
    (advances only) or its base is one of the published means keys -/
theorem means_key_sound (ks : KeySets) (required : Bool) (k : String)
    (h : validateMeansKey ks required k = true) : (k = "" ∧ required = false) ∨ meansKeyResolves ks k := by
  unfold validateMeansKey hasValidKeyIn at h
  simp only [Bool.and_eq_true, Bool.or_eq_true, Bool.not_eq_true', bne_iff_ne, ne_eq, beq_iff_eq, List.any_eq_true] at h
  obtain ⟨hreq, hk⟩ := h
  rcases hk with h0 | ⟨base, hb, hp⟩
  · left
    rcases hreq with hr | hr
    · exact ⟨h0, hr⟩
    · exact absurd h0 hr
  · right
    exact ⟨base, hb, (keyHasPrefix_iff k base).mp hp⟩

/-- **note keys / payment terms keys**: accepted keys are blank or published -/
theorem note_key_sound (ks : KeySets) (k : String) (h : validateNoteKey ks k = true) :
    k = "" ∨ noteKeyResolves ks k := by
  unfold validateNoteKey at h
  simpa [noteKeyResolves] using h

theorem terms_key_sound (ks : KeySets) (k : String) (h : validateTermsKey ks k = true) :
    k = "" ∨ termsKeyResolves ks k := by
  unfold validateTermsKey at h
  simpa [termsKeyResolves] using h

theorem meansKeyResolvesB_iff (ks : KeySets) (k : String) :
    meansKeyResolvesB ks k = true ↔ meansKeyResolves ks k := by
  unfold meansKeyResolvesB meansKeyResolves
  simp [List.any_eq_true]

/-! ## the tie to the source: regenerated definition = model, for all arguments

`Generated/RefsSrc.lean` is regenerated on every run from /repo/cbc and /repo/tax by the
go2lean translator (harness/cmd/extract/refssrc.go, go2lean_refs.go).  Strings are the lists
of their bytes there; the model's `String` arguments enter through `String.toList`
(injective: `String.toList_inj`).  Trusted: the translator's reading of Go and the declared
primitives of Model/RefsSrc.lean (header of the generated file). -/
namespace Src
open GoblVerif.Generated GoblVerif.Refs.Src GoblVerif.GoStr GoblVerif.Proofs.RefsSrc

/-- everything asked for was translated -/
theorem all_translated : RefsSrc.untranslated = [] := rfl

theorem translated_units :
    RefsSrc.Cbc.translated = ["Key.String", "var KeySeparator", "Key.Has", "Key.HasPrefix", "Key.In", "Key.IsEmpty",
      "hasKeyRule.Validate", "Definition.CodeDef", "Definition.HasCode", "Definition.KeyDef", "Definition.HasKey",
      "GetKeyDefinition", "GetCodeDefinition"] ∧
    RefsSrc.Tax.translated = ["inCategoryRatesRule.Validate", "RegimeDef.CategoryDef", "TagSetForSchema",
      "tagValidation.Validate", "addonValidation.Validate", "Regime.Validate", "validateExtCodeValues.Validate",
      "validateExtCodeMap.Validate", "Extensions.Validate"] ∧
    RefsSrc.fuelChecks = [] := ⟨rfl, rfl, rfl⟩

/-- the separator handed to `strings.Split` is "+" (the primitives model non-empty separators) -/
theorem key_separator : RefsSrc.Cbc.KeySeparator = ['+'] ∧ sepOK RefsSrc.Cbc.KeySeparator = true := by decide

/-- the Go declarations the structures stand for, and what was left out of them -/
theorem structs_as_modelled :
    RefsSrc.Cbc.struct_hasKeyRule = [("elements", "[]Key")] ∧
    RefsSrc.Cbc.structLean_Definition = ("GoblVerif.Refs.Src.CDef", ["key", "code", "values", "pattern"]) ∧
    RefsSrc.Cbc.struct_Definition.filter (fun f => f.1 ∈ ["Key", "Code", "Values", "Pattern"]) =
      [("Key", "Key"), ("Code", "Code"), ("Values", "[]*Definition"), ("Pattern", "string")] ∧
    RefsSrc.Tax.struct_inCategoryRatesRule = [("cat", "cbc.Code"), ("keys", "[]cbc.Key")] ∧
    RefsSrc.Tax.struct_tagValidation = [("keys", "[]cbc.Key")] ∧
    RefsSrc.Tax.struct_addonValidation = [] ∧
    RefsSrc.Tax.struct_Regime = [("Country", "l10n.TaxCountryCode")] ∧
    RefsSrc.Tax.struct_validateExtCodeValues = [("key", "cbc.Key"), ("values", "[]cbc.Code")] ∧
    RefsSrc.Tax.struct_validateExtCodeMap = [("keys", "[]cbc.Key"), ("required", "bool"), ("exclude", "bool")] ∧
    RefsSrc.Tax.struct_Tags = [("List", "[]cbc.Key")] ∧
    RefsSrc.Tax.struct_TagSet = [("Schema", "string"), ("List", "[]*cbc.Definition")] ∧
    RefsSrc.Tax.structLean_RegimeDef = ("GoblVerif.Refs.Src.RegimeD", ["categories"]) ∧
    RefsSrc.Tax.structLean_CategoryDef = ("GoblVerif.Refs.Src.CategoryD", ["code", "rates"]) ∧
    RefsSrc.Tax.structLean_RateDef = ("GoblVerif.Refs.Src.RateD", ["key"]) :=
  ⟨rfl, rfl, by decide, rfl, rfl, rfl, rfl, rfl, rfl, rfl, rfl, rfl, rfl, rfl⟩

/-- the primitives of the translation (what is NOT looked into), and the bookkeeping of maps:
    the ranges over the extension map (their order does not matter: only nil-ness of the
    error is observed, and `List.all` does not depend on the order) and the writes to the
    local `validation.Errors` maps -/
theorem primitives_as_declared :
    RefsSrc.Cbc.primitives = [("errors.New", "GoblVerif.GoStr.errNew {0:lit}"), ("regexp.MustCompile", "{0:lit}"),
      ("strings.Split", "GoblVerif.Refs.Src.split {0} {1}"), ("strings.SplitN", "GoblVerif.Refs.Src.splitN {0} {1} {2}")] ∧
    RefsSrc.Tax.primitives.map (·.1) = ["AddonForKey", "ExtensionForKey", "Regime.RegimeDef", "assert Extensions",
      "assert Tags", "assert []cbc.Key", "assert cbc.Key", "cbc.Code.String", "cbc.Definition.HasCode", "cbc.Key.Has",
      "cbc.Key.In", "cbc.Key.IsEmpty", "cbc.Key.String", "cbc.Key.Validate", "error validation.Errors", "errors.New",
      "l10n.TaxCountryCode.Code", "l10n.TaxCountryCode.Empty", "l10n.TaxCountryCode.String", "regexp.Compile",
      "regexp.Regexp.MatchString", "validation.Validate"] ∧
    RefsSrc.Tax.mapRanges = [("validateExtCodeMap.Validate", "em"), ("Extensions.Validate", "em"), ("Extensions.Validate", "em")] ∧
    RefsSrc.Tax.mapNilTests = [] ∧ RefsSrc.Tax.inOutParams = [] ∧ RefsSrc.Cbc.mapWrites = [] :=
  ⟨rfl, rfl, rfl, rfl, rfl, rfl⟩

/-! ### cbc -/

/-- **`cbc.Key.Has`, regenerated from the source, is the model's `keyHas`**: one of the
    `+`-separated parts equals the argument — for all keys -/
theorem src_Key_Has (k ke : String) : RefsSrc.Cbc.Key_Has k.toList ke.toList = keyHas k ke :=
  src_Key_Has_list k.toList ke.toList

/-- … and for every byte string, not only the valid UTF-8 ones -/
theorem src_Key_Has_bytes (k ke : Str) : RefsSrc.Cbc.Key_Has k ke = (splitPlus k []).any (· == ke) :=
  src_Key_Has_list k ke

/-- `cbc.Key.In` is list membership -/
theorem src_Key_In (k : Str) (set : List Str) : RefsSrc.Cbc.Key_In k set = set.contains k :=
  GoblVerif.Proofs.RefsSrc.src_Key_In k set

/-- **`cbc.Key.HasPrefix` is the model's `keyHasPrefix`** -/
theorem src_Key_HasPrefix (k ke : String) : RefsSrc.Cbc.Key_HasPrefix k.toList ke.toList = keyHasPrefix k ke :=
  GoblVerif.Proofs.RefsSrc.src_Key_HasPrefix k.toList ke.toList

/-- **`hasKeyRule.Validate` (`cbc.HasValidKeyIn`) is the model's `hasValidKeyIn`**: nil exactly
    when the key is blank or its base is one of the rule's keys; a value of another dynamic
    type passes -/
theorem src_hasKeyRule (keys : List String) (k : String) :
    (RefsSrc.Cbc.hasKeyRule_Validate ⟨keys.map String.toList⟩ (some k.toList)).isNone = hasValidKeyIn keys k := by
  unfold RefsSrc.Cbc.hasKeyRule_Validate hasValidKeyIn
  simp only [GoblVerif.GoSem.forIn_list_id, pure_bind]
  simp only [Id.run, GoblVerif.GoSem.id_pure, Option.getD_some, Option.isSome_some, not_true_eq_false, false_or]
  by_cases hk : k = ""
  · subst hk; simp
  · have h1 : ¬ k.toList = [] := by simpa using hk
    have h2 : (k == "") = false := by simpa using hk
    simp only [h1, if_false, h2, Bool.false_or]
    rw [GoblVerif.GoSem.forList_any (fun e => RefsSrc.Cbc.Key_HasPrefix k.toList e = true), List.any_map]
    have hf : ((fun x => RefsSrc.Cbc.Key_HasPrefix k.toList x) ∘ String.toList) = keyHasPrefix k :=
      funext fun x => src_Key_HasPrefix k x
    simp only [Bool.decide_eq_true, hf]
    cases keys.any (keyHasPrefix k) <;> simp [errNew]

theorem src_hasKeyRule_other (r : RefsSrc.Cbc.hasKeyRule) : RefsSrc.Cbc.hasKeyRule_Validate r none = none := by
  unfold RefsSrc.Cbc.hasKeyRule_Validate
  simp [Id.run, GoblVerif.GoSem.id_pure]

/-- `(*cbc.Definition).HasCode`: one of the values carries the code -/
theorem src_Definition_HasCode (d : CDef) (c : Str) :
    RefsSrc.Cbc.Definition_HasCode d c = d.values.any (fun v => v.code == c) :=
  GoblVerif.Proofs.RefsSrc.src_Definition_HasCode d c

/-! ### tax -/

/-- **`inCategoryRatesRule.Validate` is the last branch of the model's `inCategoryRates`**: with
    the keys of the category's rates, nil exactly when the rate key is blank or `Has` one of them -/
theorem src_inCategoryRates (r : Regime) (cat key : String) (c : Category) (hc : r.category cat = some c) :
    (RefsSrc.Tax.inCategoryRatesRule_Validate ⟨cat.toList, c.rateKeys.map String.toList⟩ (.key key.toList)).isNone =
      inCategoryRates (some r) cat key := by
  rw [src_inCategoryRatesRule]
  unfold inCategoryRates
  simp only [hc]
  congr 1
  · exact toList_beq_nil key
  · rw [List.any_map]
    congr 1
    funext k
    exact src_Key_Has key k

/-- a value that is no `cbc.Key` passes the rate rule (ozzo hands the field's value on) -/
theorem src_inCategoryRates_other (r : RefsSrc.Tax.inCategoryRatesRule) (v : Dyn) (h : ∀ k, v ≠ .key k) :
    RefsSrc.Tax.inCategoryRatesRule_Validate r v = none := src_inCategoryRatesRule_other r v h

/-- `(*RegimeDef).CategoryDef` is the first category with the code (nil regime: nil) -/
theorem src_CategoryDef (r : Option RegimeD) (code : Str) :
    RefsSrc.Tax.RegimeDef_CategoryDef r code = r.bind (fun r => r.categories.find? (fun c => c.code == code)) :=
  GoblVerif.Proofs.RefsSrc.src_CategoryDef r code

/-- **`tagValidation.Validate` (`tax.TagsIn`) is the model's `validateTags`**, for a `[]cbc.Key`
    and for a `tax.Tags` value alike; any other dynamic type passes -/
theorem src_TagsIn (docRegime : Option Regime) (addons : List Addon) (schema : String) (tags : List String) :
    (RefsSrc.Tax.tagValidation_Validate ⟨(supportedTags docRegime addons schema).map String.toList⟩
        (.keys (tags.map String.toList))).isNone = validateTags docRegime addons schema tags ∧
    (RefsSrc.Tax.tagValidation_Validate ⟨(supportedTags docRegime addons schema).map String.toList⟩
        (.tags ⟨tags.map String.toList⟩)).isNone = validateTags docRegime addons schema tags := by
  have e : ∀ (sup : List String), (tags.map String.toList).all (fun x => (sup.map String.toList).contains x) =
      tags.all (fun t => sup.contains t) := by
    intro sup
    simp only [List.all_map, Function.comp_def, contains_map_toList]
  unfold validateTags
  exact ⟨by rw [src_tagValidation_keys, e], by rw [src_tagValidation_tags, e]⟩

theorem src_TagsIn_other (keys : List Str) (v : Dyn) (h1 : ∀ l, v ≠ .keys l) (h2 : ∀ t, v ≠ .tags t) :
    RefsSrc.Tax.tagValidation_Validate ⟨keys⟩ v = none := src_tagValidation_other keys v h1 h2

/-- with no tag offered the rule accepts the empty list only (seed C18-4) -/
theorem src_TagsIn_without_tagset (tags : List Str) :
    (RefsSrc.Tax.tagValidation_Validate ⟨[]⟩ (.keys tags)).isNone = tags.isEmpty := by
  rw [src_tagValidation_keys]
  cases tags <;> simp

/-! the registry of the published definitions: its three lookups are the model's -/

theorem ofDefs_addonDefined (d : Defs) (k : String) :
    (Registry.ofDefs d).addonDefined k.toList = (d.addonFor k).isSome := by
  unfold Registry.ofDefs Defs.addonFor
  simp only [toList_beq, List.isSome_find?]

theorem ofDefs_regimeDefined (d : Defs) (c : String) :
    (Registry.ofDefs d).regimeDefined c.toList = (d.regimeFor c).isSome := by
  unfold Registry.ofDefs Defs.regimeFor
  simp only [toList_beq, List.isSome_find?]

private theorem ofDefs_extensionForKey (d : Defs) (k : String) :
    (Registry.ofDefs d).extensionForKey k.toList = (d.extDef k).map cdefOfExt := by
  unfold Registry.ofDefs Defs.extDef
  simp only [toList_beq]

/-- **`addonValidation.Validate` (`tax.AddonRegistered`) over the published definitions is the
    model's `validateAddons`** for one key -/
theorem src_AddonRegistered (d : Defs) (k : String) :
    (RefsSrc.Tax.addonValidation_Validate (reg := Registry.ofDefs d) ⟨⟩ (.key k.toList)).isNone =
      validateAddons d [k] := by
  rw [@src_addonValidation (Registry.ofDefs d), ofDefs_addonDefined]
  simp [validateAddons]

/-- for any registry: nil exactly when the addon is registered -/
theorem src_AddonRegistered_any [reg : Registry] (k : Str) :
    (RefsSrc.Tax.addonValidation_Validate ⟨⟩ (.key k)).isNone = reg.addonDefined k := src_addonValidation k

/-- **`tax.Regime.Validate` over the published definitions is the model's `validateRegime`** -/
theorem src_Regime_Validate (d : Defs) (code : String) :
    (RefsSrc.Tax.Regime_Validate (reg := Registry.ofDefs d) ⟨code.toList⟩).isNone = validateRegime d code := by
  rw [@GoblVerif.Proofs.RefsSrc.src_Regime_Validate (Registry.ofDefs d), ofDefs_regimeDefined]
  rw [validateRegime, toList_beq_nil]

/-- `validateExtCodeValues.Validate` (`tax.ExtensionsHasCodes`): nil exactly when the key is
    absent or its value is one of the codes -/
theorem src_ExtensionsHasCodes (key : Str) (values : List Str) (em : List (Str × Str)) :
    (RefsSrc.Tax.validateExtCodeValues_Validate ⟨key, values⟩ (.ext em)).isNone =
      (match em.lookup key with | none => true | some ev => values.contains ev) := src_ExtCodeValues key values em

/-- **`tax.Extensions.Validate`, regenerated from the source**, for ANY registry, regexp
    matcher and key / code syntax check: nil exactly when every key has the key syntax and
    every pair passes `extPairOK` — the key is registered, the value is present (and a
    well-formed code), listed when the definition lists values, matched when it has a pattern -/
theorem src_Extensions_Validate [reg : Registry] (reMatch : Str → Str → Bool) (keySyntax : Str → Option Str)
    (codeSyntax : Str → Bool) (em : List (Str × Str)) :
    (RefsSrc.Tax.Extensions_Validate reMatch keySyntax codeSyntax em).isNone =
      (em.all (fun x => (keySyntax x.1).isNone) && em.all (extPairOK reMatch codeSyntax)) :=
  GoblVerif.Proofs.RefsSrc.src_Extensions_Validate reMatch keySyntax codeSyntax em

/-- one pair, over the published definitions and with the syntax checks passing (C11's
    business), **is the model's `validateExtPair`** -/
theorem src_extPair (d : Defs) (rm : Str → Str → Bool) (kv : String × String) :
    extPairOK (reg := Registry.ofDefs d) rm (fun _ => true) (kv.1.toList, kv.2.toList) =
      validateExtPair d (fun p v => rm p.toList v.toList) kv := by
  unfold extPairOK validateExtPair
  simp only [ofDefs_extensionForKey]
  cases d.extDef kv.1 with
  | none => rfl
  | some kd =>
    simp only [Option.map_some, cdefOfExt, validateCode, requiredCode, if_true]
    have e1 : (if kv.2.toList.isEmpty = true then some "cannot be blank".toList else (none : Option Str)).isNone = (kv.2 != "") := by
      rw [← List.beq_nil_eq, toList_beq_nil, bne]
      cases kv.2 == "" <;> rfl
    have e2 : ((kd.codes.map cdefOfCode).isEmpty || (kd.codes.map cdefOfCode).any (fun v => v.code == kv.2.toList)) =
        (kd.codes.isEmpty || kd.codes.contains kv.2) := by
      congr 1
      · cases kd.codes <;> rfl
      · rw [List.any_map, List.contains_eq_any_beq]
        congr 1; funext c
        simp only [Function.comp, cdefOfCode, toList_beq]
        exact Bool.beq_comm
    rw [e1, e2, toList_beq_nil]

/-- **`Extensions.Validate` over the published definitions is the model's `validateExt`** (with
    the key and code syntax checks passing) -/
theorem src_validateExt (d : Defs) (rm : Str → Str → Bool) (ext : List (String × String)) :
    (RefsSrc.Tax.Extensions_Validate (reg := Registry.ofDefs d) rm (fun _ => none) (fun _ => true)
        (ext.map fun kv => (kv.1.toList, kv.2.toList))).isNone =
      validateExt d (fun p v => rm p.toList v.toList) ext := by
  rw [@src_Extensions_Validate (Registry.ofDefs d)]
  unfold validateExt
  have h1 : (ext.map fun kv => (kv.1.toList, kv.2.toList)).all (fun x => (none : Option Str).isNone) = true := by
    simp
  simp only [h1, Bool.true_and]
  rw [List.all_map]
  congr 1
  funext kv
  exact src_extPair d rm kv

end Src

/-! ## non-vacuity and the findings on the published data -/
namespace Expect
open GoblVerif.Generated.Defs

/-- the hypotheses of `combo_sound` are satisfiable on the published definitions -/
example : validateCombo defs (fun _ _ => true) (defs.regimeFor "ES") ⟨"VAT", "", "standard+eqs", []⟩ = true ∧
    (comboRegime defs (defs.regimeFor "ES") ⟨"VAT", "", "standard+eqs", []⟩).isSome = true := by decide +kernel

/-- per-combo country override: a PT category on an ES document resolves in PT -/
example : comboResolvesB defs "ES" ⟨"VAT", "PT", "reduced", []⟩ = true := by decide +kernel
example : comboResolvesB defs "ES" ⟨"IGIC", "PT", "", []⟩ = false := by decide +kernel

/-- "ZZ" is not a published regime and is rejected as a document `$regime`; a combo
    evaluated without any regime (possible through a country override naming an undefined
    regime) still accepts any category: `combo_unchecked_without_regime` -/
theorem undefined_regime_is_rejected :
    (defs.regimeFor "ZZ").isNone = true ∧ validateRegime defs "ZZ" = false ∧
    validateCombo defs (fun _ _ => true) (defs.regimeFor "ZZ") ⟨"ZZT", "", "", []⟩ = true := by decide +kernel

/-- the hypotheses of `prices_include_sound` are satisfiable on the published definitions -/
example : validateRegime defs "ES" = true ∧ "ES" ≠ "" ∧
    validatePricesInclude (defs.regimeFor "ES") "VAT" = true ∧ "VAT" ≠ "" := by decide +kernel

/-- a category no regime publishes is refused as `prices_include` of a Spanish document,
    a Spanish one is accepted and resolves -/
theorem undefined_prices_include_is_rejected :
    validatePricesInclude (defs.regimeFor "ES") "ZZT" = false ∧
    validatePricesInclude (defs.regimeFor "ES") "IGIC" = true ∧
    includesResolvesB defs "ES" "IGIC" = true ∧ includesResolvesB defs "ES" "ZZT" = false := by decide +kernel

/-- an undefined tag is refused on an invoice and a published invoice tag accepted; on an
    order the same undefined tag passes although nothing offers it (the known finding on
    the published data: no tag set is published for bill/order) -/
theorem undefined_tag_is_rejected_on_invoices :
    validateDocTags (defs.regimeFor "ES") [] "bill/invoice" ["zz-undefined"] = false ∧
    validateDocTags (defs.regimeFor "ES") [] "bill/invoice" ["simplified"] = true ∧
    (taggedSchemas.filter (!tagCheckedSchemas.contains ·)) = ["bill/order", "bill/delivery", "bill/payment"] ∧
    validateDocTags (defs.regimeFor "ES") [] "bill/order" ["zz-undefined"] = true ∧
    tagResolvesB (defs.regimeFor "ES") [] "bill/order" "zz-undefined" = false ∧
    validateTags (defs.regimeFor "ES") [] "bill/order" ["simplified"] = false := by decide +kernel

/-- the hypothesis of `stored_total_sound` is satisfiable, and an undefined value or key
    in a rate of a stored summary is refused, as are a category without code or rates, an
    unknown rate country and an empty extension value -/
theorem undefined_stored_ext_is_rejected :
    validateTotal defs (fun _ _ => true) [⟨"VAT", [⟨"", "", [("es-tbai-exemption", "E1")]⟩]⟩] = true ∧
    validateTotal defs (fun _ _ => true) [⟨"VAT", [⟨"", "", [("es-tbai-exemption", "ZZZ")]⟩]⟩] = false ∧
    validateTotal defs (fun _ _ => true) [⟨"VAT", [⟨"", "", [("zz-undefined-key", "E1")]⟩]⟩] = false ∧
    -- since `CategoryTotal.Validate` requires code and rates, `RateTotal.Validate` checks the
    -- country and `Extensions.Validate` requires the value:
    validateTotal defs (fun _ _ => true) [⟨"", [⟨"", "", []⟩]⟩] = false ∧
    validateTotal defs (fun _ _ => true) [⟨"VAT", []⟩] = false ∧
    validateTotal defs (fun _ _ => true) [⟨"VAT", [⟨"", "ZZ", []⟩]⟩] = false ∧
    validateTotal defs (fun _ _ => true) [⟨"VAT", [⟨"standard", "ES", []⟩]⟩] = true ∧
    validateTotal defs (fun _ _ => true) [⟨"VAT", [⟨"", "", [("mx-cfdi-prod-serv", "")]⟩]⟩] = false ∧
    validateTotal defs (fun _ _ => true) [⟨"VAT", [⟨"", "", [("mx-cfdi-prod-serv", "01010101")]⟩]⟩] = true := by decide +kernel

/-- the key sets the schemas publish: the two places that take a payment means key list the
    same keys; a means key resolves by its base (`card+zz`), an undefined base or a defined
    key in second place does not; the hypotheses of `means_key_sound`, `note_key_sound`,
    `terms_key_sound` are satisfiable -/
theorem key_sets_published :
    KeySets.get keySets "pay/means" = KeySets.get keySets "pay/means-advance" ∧ (KeySets.get keySets "pay/means").length = 14 ∧
    validateMeansKey keySets true "card+zz" = true ∧ validateMeansKey keySets true "cardx" = false ∧
    validateMeansKey keySets true "zz+card" = false ∧ validateMeansKey keySets true "" = false ∧
    validateMeansKey keySets false "" = true ∧ meansKeyResolvesB keySets "credit-transfer+sepa" = true ∧
    meansKeyResolvesB keySets "zz+card" = false ∧
    validateNoteKey keySets "general" = true ∧ validateNoteKey keySets "zz-undefined" = false ∧
    validateNoteKey keySets "general+x" = false ∧
    validateTermsKey keySets "due-date" = true ∧ validateTermsKey keySets "due-date+x" = false := by decide +kernel

/-- seed C18-3 on the regenerated `Key.Has`: a tail of a component is not a component -/
theorem key_has_is_by_component :
    Generated.RefsSrc.Cbc.Key_Has "non-standard".toList "standard".toList = false ∧
    Generated.RefsSrc.Cbc.Key_Has "standard+eqs".toList "eqs".toList = true := by
  rw [Src.src_Key_Has, Src.src_Key_Has]; decide

/-! ### where the rules are applied (regenerated from bill/*.go, tax/*.go, org/document_ref.go) -/
section Applied
open GoblVerif.Generated.RefsFacts

/-- bill.Invoice validates `$tags` with `tax.TagsIn` over its `supportedTags`; Order, Delivery
    and Payment hold the list to the key syntax only (every entry required, nothing else, on `Tags.List`,
    since /repo 6a2cb4a) and never call `TagsIn`: `tagCheckedSchemas` is what the code does -/
theorem tags_rule_applied_by_invoices_only :
    ("Tags.List", ["tax.TagsIn(inv.supportedTags()...)"]) ∈ rules_Invoice_ValidateWithContext ∧
    "TagsIn" ∉ calls_Order_ValidateWithContext ∧ "TagsIn" ∉ calls_Delivery_ValidateWithContext ∧
    "TagsIn" ∉ calls_Payment_ValidateWithContext ∧
    (rules_Order_ValidateWithContext.filter (fun r => r.1 == "Tags" || r.1 == "Tags.List")) = [("Tags.List", ["validation.Each(validation.Required)"])] ∧
    (rules_Payment_ValidateWithContext.filter (fun r => r.1 == "Tags" || r.1 == "Tags.List")) = [("Tags.List", ["validation.Each(validation.Required)"])] ∧
    (rules_Delivery_ValidateWithContext.filter (fun r => r.1 == "Tags" || r.1 == "Tags.List")) = [("Tags.List", ["validation.Each(validation.Required)"])] := by
  decide +kernel

/-- `(*Invoice).supportedTags`: the regime's tag set, then each addon's, merged, then the
    keys, all looked up with the invoice's own short schema -/
theorem supportedTags_shape :
    calls_Invoice_supportedTags =
      ["RegimeDef", "Merge", "TagSetForSchema", "AddonDefs", "Merge", "TagSetForSchema", "Keys"] ∧
    schema_Invoice = ["bill/invoice", "bill/invoice"] ∧
    tagCheckedSchemas = ["bill/invoice"] := ⟨rfl, rfl, rfl⟩

/-- `TagsIn` refuses the first key not `In` the list; `InCategories` is `validation.In`
    over the regime's category codes -/
theorem tag_and_category_rules_shape :
    calls_tagValidation_Validate = ["In", "Itoa", "Errorf"] ∧
    calls_RegimeDef_InCategories = ["make", "len", "In"] := ⟨rfl, rfl⟩

/-- `bill.Tax` takes the regime from the context and puts its `InCategories` rule on
    `prices_include` -/
theorem prices_include_rule_applied :
    calls_Tax_ValidateWithContext =
      ["RegimeDefFromContext", "append", "InCategories", "ValidateStructWithContext", "Field", "Field",
       "InKeyDefs", "Field", "Field"] ∧
    ("PricesInclude", ["inCategories..."]) ∈ rules_Tax_ValidateWithContext ∧
    ("Tax", []) ∈ rules_Invoice_ValidateWithContext ∧ ("Tax", []) ∈ rules_Order_ValidateWithContext ∧
    ("Tax", []) ∈ rules_Delivery_ValidateWithContext := ⟨rfl, by decide +kernel⟩

/-- a stored tax summary is validated down to the `ext` of its rates, and the places that
    store one (document references, payments) validate the field -/
theorem stored_total_rules_applied :
    rules_Total_Validate = [("Categories", [])] ∧
    rules_CategoryTotal_Validate = [("Code", ["validation.Required"]), ("Rates", ["validation.Required"])] ∧
    rules_RateTotal_Validate = [("Key", []), ("Country", []), ("Ext", [])] ∧
    ("Tax", []) ∈ rules_DocumentRef_ValidateWithContext ∧
    ("Tax", []) ∈ rules_Payment_ValidateWithContext := ⟨rfl, rfl, rfl, by decide +kernel⟩

end Applied

/-! ### the regime in the validation context, and state beside the content
    (regenerated from tax/*.go, org/party.go, bill/*.go and every struct of the library) -/
section Context
open GoblVerif.Generated.RefsCtxFacts

/-- the hypotheses of `doc_sound` are satisfiable on the published definitions: a Spanish
    invoice whose customer declares the French regime, with a Spanish combo and a combo
    naming Portugal -/
example : validateDoc defs (fun _ _ => true)
      ⟨"bill/invoice", "ES", ["es-facturae-v3"], ["simplified"], "VAT", [⟨"", []⟩, ⟨"FR", []⟩],
        [⟨"VAT", "", "standard+eqs", []⟩, ⟨"VAT", "PT", "intermediate", []⟩]⟩ = true ∧ "ES" ≠ "" := by
  decide +kernel

/-- **what one shared slot would do** (not the code): a Portuguese invoice whose customer
    declares the Mexican regime is refused by the rules as the code applies them when a line
    carries the Mexican category ISR — and accepted once the party's regime stays in a
    shared slot, although ISR is no category of the document's regime -/
theorem shared_context_would_be_unsound :
    validateDoc defs (fun _ _ => true) ⟨"bill/invoice", "PT", [], [], "", [⟨"", []⟩, ⟨"MX", []⟩], [⟨"ISR", "", "", []⟩]⟩ = false ∧
    validateDocShared defs (fun _ _ => true) ⟨"bill/invoice", "PT", [], [], "", [⟨"", []⟩, ⟨"MX", []⟩], [⟨"ISR", "", "", []⟩]⟩ = true ∧
    comboResolvesB defs "PT" ⟨"ISR", "", "", []⟩ = false ∧ comboResolvesB defs "MX" ⟨"ISR", "", "", []⟩ = true := by
  decide +kernel

/-- a regime reaches the context by `context.WithValue` under its own key (a derived
    context; the one handed in is not touched), is read back from that key, and is put there
    by the four documents for themselves and by a party for its own validation only:
    `withRegime`, `regimeFromContext`, `docContext`, `partyContext` are what the code does.
    The combo reads the context when it names no country. -/
theorem regime_context_as_modelled :
    body_RegimeDef_WithContext =
      "{ if r == nil { return ctx } ctx = context.WithValue(ctx, keyRegime, r) ctx = contextWithValidator(ctx, r.Validator) return ctx }" ∧
    body_RegimeDefFromContext = "{ r, ok := ctx.Value(keyRegime).(*RegimeDef) if !ok { return nil } return r }" ∧
    body_contextWithValidator =
      "{ if v == nil { return ctx } prev := Validators(ctx) list := append(prev[:len(prev):len(prev)], v) return context.WithValue(ctx, validtorsKey, list) }" ∧
    body_AddonDef_WithContext = "{ if ad == nil { return ctx } ctx = contextWithValidator(ctx, ad.Validator) return ctx }" ∧
    body_Party_validationContext = "{ if r := p.RegimeDef(); r != nil { ctx = r.WithContext(ctx) } return ctx }" ∧
    calls_Party_ValidateWithContext.take 2 = ["validationContext", "ValidateStructWithContext"] ∧
    calls_Invoice_validationContext = ["RegimeDef", "WithContext", "AddonDefs", "WithContext"] ∧
    calls_Order_validationContext = ["RegimeDef", "WithContext", "AddonDefs", "WithContext"] ∧
    calls_Delivery_validationContext = ["RegimeDef", "WithContext", "AddonDefs", "WithContext"] ∧
    calls_Payment_validationContext = ["RegimeDef", "WithContext", "AddonDefs", "WithContext"] ∧
    calls_Combo_ValidateWithContext.take 4 = ["Empty", "RegimeDefFromContext", "RegimeDefFor", "Code"] ∧
    withContext_sites =
      [("bill", "Delivery.validationContext"), ("bill", "Invoice.validationContext"), ("bill", "Order.validationContext"),
       ("bill", "Payment.validationContext"), ("org", "Party.validationContext"), ("tax", "RegimeDef.ValidateWithContext")] :=
  ⟨rfl, rfl, rfl, rfl, rfl, rfl, rfl, rfl, rfl, rfl, rfl, rfl⟩

/-- the members of serialised structs that `encoding/json` neither writes nor reads: a
    freshly parsed copy of a document does not carry them.  Definitions (`RegimeDef`,
    `AddonDef`, `Scenario`) hold functions; `schema.Object.payload` is the document itself
    (written by `MarshalJSON`); the rest is what a calculation leaves behind in a document -/
theorem hidden_state_as_modelled :
    hidden_fields =
      [("bill", "CorrectionOptions", "data"), ("bill", "Tax", "tags"), ("schema", "Object", "payload"),
       ("tax", "AddonDef", "Normalizer"), ("tax", "AddonDef", "Validator"), ("tax", "CategoryTotal", "amount"),
       ("tax", "Combo", "retained"), ("tax", "RegimeDef", "Normalizer"), ("tax", "RegimeDef", "Validator"),
       ("tax", "Scenario", "Filter"), ("tax", "Total", "sum")] := rfl

/-- **the verdict of validation is a function of the document's content** as far as the
    structs go: of the state a document carries beside its content (`bill.Tax.tags`,
    `bill.CorrectionOptions.data`, `tax.Combo.retained`, `tax.CategoryTotal.amount`,
    `tax.Total.sum`) none is mentioned in a function whose name starts with `validate`, in
    whatever case; they are read by the calculation, by `UnmarshalJSON` and by the
    correction options only.  (Package-level state is not covered by this.) -/
theorem validation_reads_no_hidden_document_state :
    (hidden_readers.filter fun r =>
        (r.1 == "bill" && (r.2.2.2 == "tags" || r.2.2.2 == "data") ||
         r.1 == "tax" && (r.2.2.2 == "retained" || r.2.2.2 == "amount" || r.2.2.2 == "sum")) &&
        r.2.2.1 == "validate") = [] ∧
    (hidden_readers.map (·.2.1)).eraseDups =
      ["Invoice.UnmarshalJSON", "Tax.UnmarshalJSON", "WithData", "prepareCorrectionOptions",
       "Object.Calculate", "Object.Correct", "Object.CorrectionOptionsSchema", "Object.Instance", "Object.IsEmpty",
       "Object.MarshalJSON", "Object.Replicate", "Object.UUID", "Object.UnmarshalJSON", "Object.ValidateWithContext",
       "Object.insert", "AddonDef.WithContext", "CategoryTotal.PreciseAmount", "Combo.calculateForRegime",
       "ExtractNormalizers", "RegimeDef.NormalizeObject", "RegimeDef.ValidateObject", "RegimeDef.WithContext",
       "Scenario.match", "Total.Clone", "Total.Merge", "Total.Negate", "Total.PreciseSum", "Total.round",
       "TotalCalculator.removeIncludedTaxes", "newCategoryTotal"] := by
  decide +kernel

end Context

/-- every published extension key has at most one definition, so the registry lookup of the
    model (`Defs.extDef`: first match) and of the code (a map) cannot differ on the published
    data -/
theorem extension_registry_is_a_map :
    ((defs.allExtDefs.map (·.key)).eraseDups.length == defs.allExtDefs.length) = true :=
  C19.Expect.extension_keys_unique

/-- no two published (live) regimes answer for the same country code: the twin fact for
    `Defs.regimeFor` (first match) against the code's map of regimes by country -/
theorem regime_codes_disjoint :
    (((defs.liveRegimes.flatMap fun r => r.country :: r.alt).eraseDups.length) ==
      (defs.liveRegimes.flatMap fun r => r.country :: r.alt).length) = true := by decide +kernel

end Expect

end GoblVerif.Props.C18
