/-
  C15 — bulk replies pair up, whatever the interleaving.   **PARTIAL**

  What is proved here: the *dispatcher protocol* of /repo/internal/cli/bulk.go
  (Model/Bulk.lean: reader, per-request workers, wait group, buffered channel,
  final marker; input ends at EOF or at the first decode error), for every
  request list, every capacity, every `f` and EVERY schedule:

  * `no_loss_no_dup`   accounting invariant at every reachable state
  * `final_last`       a final marker is last, unique, and preceded by everything owed
  * `bulk_pairing`     terminated ⇒ responses = permutation of (req_idᵢ, i, f reqᵢ), i = 1..n,
                       followed by exactly one final marker with seq n+1
  * `no_deadlock`, `schedule_length`, `maximal_schedule_terminates`
                       every schedule can be extended, has exactly 4n+3 steps at most and a
                       stuck one is terminated: no hang, no lost wake-up in the protocol
  * `validTrace_iff_schedule`  the decidable acceptor used by the harness on
                       real `POST /bulk` streams accepts exactly the traces of the system
  * input layer (Model/BulkInput.lean: the stream as the reader meets it — complete requests,
    values that do not decode, and an end that is clean, inside a value, or a failing reader):
    `after_unreadable_ignored`, `unreadable_request_rule`, `truncated_input_rule`,
    `clean_end_rule`, `owed_independent_of_ending`: the complete requests before the first
    unreadable one are answered exactly as if the stream had ended cleanly after them; the
    unreadable request gets no reply of its own, its position n+1 is the seq of the single
    final marker, which carries the error flag and the partial request id
  * context layer (workers read through the caller's cancellable context):
    `uncancelled_results` (no cancellation by the caller ⇒ every reply is the request's
    uncancelled result, whatever the ending), `cancelled_pairing`, `cancelled_payloads`
    (with cancellations pairing is untouched and every reply is still the request's OWN
    result, computed with or without the cancellation seen)

  What is NOT proved (and cannot be, in Lean): that the Go program has no data
  race on the shared regime / addon / tag / extension / schema / currency
  tables, and that each goroutine's result equals the sequential one.  That is
  a property of the Go memory model, scheduler and of ~100 k lines that are not
  modelled; the harness searches for violations with the race detector, a
  frozen-registry hash (including the hidden len..cap region of every shared
  slice) and byte comparison with sequential runs.  Also outside the model:
  `processRequest` being a function of the request alone (`f`) — sampled by
  the payload comparison with the standalone operation.

  -- full statement of the property (not a theorem):
  --   ∀ Go executions of N goroutines over independent documents: no data race on shared
  --   definitions ∧ each result = the sequential result ∧ (bulk) bulk_pairing on the real stream
-/
import GoblVerif.Proofs.Bulk
import GoblVerif.Proofs.BulkInput
import GoblVerif.Generated.BulkFacts
import GoblVerif.Generated.BulkCtxFacts

namespace GoblVerif.Props.C15
open GoblVerif.Bulk List

variable {α β : Type}

/-- **Invariant (no loss, no duplication)** at every reachable state: the
    non-final responses sent so far, the responses still owed by running
    workers and those owed to unread requests are together a permutation of
    the owed responses — every request is accounted for exactly once. -/
theorem no_loss_no_dup (c : Cfg α β) (s : State α β) (h : Reachable c s) :
    (s.stream.filter (fun r => !r.isFinal) ++ s.running.map (respOf c) ++
      expectedFrom c (s.next + 1) s.pending).Perm (expected c) := by
  have inv := inv_reachable c s h
  have hf (l : List (Resp β)) (hl : ∀ r ∈ l, r.isFinal = false) : l.filter (fun r => !r.isFinal) = l :=
    filter_eq_self.mpr fun r hr => by simp [hl r hr]
  by_cases hc : s.phase = .closed
  · obtain ⟨hrun, _, hpd, body, hst, hperm⟩ := inv.cls hc
    have hb := hf body fun r hr => expected_nonfinal c r (hperm.subset hr)
    simp [hst, hrun, hpd, expectedFrom, workersFrom, filter_append, hb, finalResp, finalOf, hperm]
  · obtain ⟨hnf, hperm⟩ := inv.opn hc
    rw [hf _ hnf]; exact hperm

/-- **The final marker is last**: whenever any response flagged final is in
    the stream, the stream is `body ++ [final]` with `final` the marker with
    seq n+1, `body` free of final flags and a permutation of all owed
    responses (so nothing can follow or overtake it, and it is unique). -/
theorem final_last (c : Cfg α β) (s : State α β) (h : Reachable c s)
    (r : Resp β) (hr : r ∈ s.stream) (hfin : r.isFinal = true) :
    ∃ body, s.stream = body ++ [finalResp c] ∧ body.Perm (expected c) ∧
      (∀ x ∈ body, x.isFinal = false) ∧ (finalResp c).seq = c.reqs.length + 1 := by
  have inv := inv_reachable c s h
  by_cases hc : s.phase = .closed
  · obtain ⟨_, _, _, body, hst, hperm⟩ := inv.cls hc
    exact ⟨body, hst, hperm, fun x hx => expected_nonfinal c x (hperm.subset hx), rfl⟩
  · have := (inv.opn hc).1 r hr
    simp [this] at hfin

/-- **Pairing**: for every schedule that reaches termination, what the
    consumer received is a permutation of (req_idᵢ, i, f reqᵢ) for i = 1..n
    followed by exactly one final marker, which carries seq n+1. -/
theorem bulk_pairing (c : Cfg α β) (sched : List Label) (s : State α β)
    (hex : exec c (init c) sched = some s) (hterm : terminated s = true) :
    ∃ body, s.out = body ++ [finalResp c] ∧ body.Perm (expected c) ∧
      (finalResp c).seq = c.reqs.length + 1 ∧ (finalResp c).isFinal = true ∧
      (∀ x ∈ body, x.isFinal = false) := by
  have inv := inv_reachable c s ⟨sched, hex⟩
  simp only [terminated, Bool.and_eq_true, beq_iff_eq, isEmpty_iff] at hterm
  obtain ⟨_, _, _, body, hst, hperm⟩ := inv.cls hterm.1
  refine ⟨body, ?_, hperm, rfl, rfl, fun x hx => expected_nonfinal c x (hperm.subset hx)⟩
  simpa [State.stream, hterm.2] using hst

/-- the owed responses are exactly one per request, numbered 1..n in input
    order, each with the request's own id (what `expected` means) -/
theorem expected_spec (c : Cfg α β) (i : Nat) (hi : i < c.reqs.length) :
    (expected c)[i]? = some ⟨c.reqs[i].reqId, i + 1, some (c.f c.reqs[i]), false, false⟩ := by
  simp [expected, expectedFrom, workersFrom_eq_zipIdx, hi, respOf, Nat.add_comm]

/-- **No deadlock**: in any state that is not terminated some step is enabled
    (capacity ≥ 1, as extracted from the code). -/
theorem no_deadlock (c : Cfg α β) (hcap : 1 ≤ c.cap) (s : State α β) (h : terminated s = false) :
    ∃ l s', step c s l = some s' := by
  cases hb : s.buf with
  | cons r rest => exact ⟨_, _, (Step.recv hb).step⟩
  | nil =>
    have hlt : s.buf.length < c.cap := by simp [hb]; omega
    cases hph : s.phase with
    | closed => simp [terminated, hph, hb] at h
    | reading =>
      cases hpd : s.pending with
      | nil => exact ⟨_, _, (Step.stop hph hpd).step⟩
      | cons p ps => exact ⟨_, _, (Step.read hph hpd).step⟩
    | waiting =>
      cases hrun : s.running with
      | cons w ws => exact ⟨.send 0, _, (Step.send (by rw [hrun]; rfl) hlt).step⟩
      | nil =>
        cases hs : s.sent with
        | succ n => exact ⟨_, _, (Step.done hs).step⟩
        | zero => exact ⟨_, _, (Step.final hph hrun hs hlt).step⟩

/-- every schedule from the initial state has used up exactly its length of
    the 4n+3 available steps: schedules are bounded, no livelock -/
theorem schedule_length (c : Cfg α β) (sched : List Label) (s : State α β)
    (hex : exec c (init c) sched = some s) :
    s.measure + sched.length = 4 * c.reqs.length + 3 := by
  have := measure_exec c sched _ _ hex
  simpa [init, State.measure] using this

/-- a schedule that cannot be extended has terminated (with the pairing above) -/
theorem maximal_schedule_terminates (c : Cfg α β) (hcap : 1 ≤ c.cap) (sched : List Label) (s : State α β)
    (_hex : exec c (init c) sched = some s) (hstuck : ∀ l, step c s l = none) :
    terminated s = true := by
  cases ht : terminated s with
  | true => rfl
  | false =>
    obtain ⟨l, s', hs⟩ := no_deadlock c hcap s ht
    simp [hstuck l] at hs

/-- **Acceptor complete**: every trace the system can produce is accepted -/
theorem validTrace_of_schedule [DecidableEq β] (c : Cfg α β) (sched : List Label) (s : State α β)
    (hex : exec c (init c) sched = some s) (hterm : terminated s = true) :
    validTrace c s.out = true := by
  obtain ⟨body, hout, hperm, _⟩ := bulk_pairing c sched s hex hterm
  exact (validTrace_iff c s.out).mpr ⟨body, hout, hperm⟩

/-- **Acceptor sound**: every accepted trace is produced by some schedule -/
theorem schedule_of_validTrace [DecidableEq β] (c : Cfg α β) (hcap : 1 ≤ c.cap) (obs : List (Resp β))
    (hv : validTrace c obs = true) :
    ∃ sched s, exec c (init c) sched = some s ∧ terminated s = true ∧ s.out = obs := by
  obtain ⟨body, rfl, hperm⟩ := (validTrace_iff c obs).mp hv
  -- 1. read everything, 2. stop
  let s1 : State α β := { init c with pending := [], next := c.reqs.length, running := workersFrom 1 c.reqs, phase := .waiting }
  have h12 : exec c (init c) (replicate c.reqs.length Label.read ++ [Label.stop]) = some s1 := by
    rw [exec_append, exec_reads c c.reqs (init c) rfl rfl]
    simp [exec, step, init, s1]
  -- 3. serve the body in the observed order
  obtain ⟨sched, he⟩ := exec_serve c hcap body s1 rfl rfl (by simpa [s1, expected, expectedFrom] using hperm)
  -- 4. final, recv
  let s2 : State α β := { s1 with running := [], out := s1.out ++ body }
  let s3 : State α β := { s2 with phase := .closed, out := s2.out ++ [finalResp c] }
  have h34 : exec c s2 [Label.final, Label.recv] = some s3 := by
    have h0 : 0 < c.cap := by omega
    simp [exec, step, h0, finalResp, s1, s2, s3, init]
  refine ⟨(replicate c.reqs.length Label.read ++ [Label.stop]) ++ (sched ++ [Label.final, Label.recv]), s3, ?_, ?_, ?_⟩
  · rw [exec_append, h12, Option.bind_some, exec_append, he]
    exact h34
  · simp [terminated, s1, s2, s3, init]
  · simp [s1, s2, s3, init]

/-- **The acceptor accepts exactly the terminated traces of the system.** -/
theorem validTrace_iff_schedule [DecidableEq β] (c : Cfg α β) (hcap : 1 ≤ c.cap) (obs : List (Resp β)) :
    validTrace c obs = true ↔
      ∃ sched s, exec c (init c) sched = some s ∧ terminated s = true ∧ s.out = obs := by
  constructor
  · exact schedule_of_validTrace c hcap obs
  · rintro ⟨sched, s, hex, hterm, rfl⟩
    exact validTrace_of_schedule c sched s hex hterm


/-! ## the input layer: what a request that cannot be read gets

`Model/BulkInput.lean`: the stream is a list of values (complete requests and
values `Decode` fails on) and an `Ending` of the bytes; `parse` is the decode
loop.  The rule pinned here is the one the harness judges real streams by. -/

/-- nothing after the first unreadable value is ever read: what follows it,
    and how the bytes end after it, do not change the run -/
theorem after_unreadable_ignored (pre : List (Req α)) (id : String) (rest rest' : List (Item α))
    (e e' : Ending) (f : Req α → β) (cap : Nat) :
    Cfg.ofInput (pre.map Item.ok ++ Item.broken id :: rest) e f cap =
      Cfg.ofInput (pre.map Item.ok ++ Item.broken id :: rest') e' f cap := by
  simp [Cfg.ofInput, parse_unreadable]

/-- what the complete requests are owed does not depend on how the stream ends -/
theorem owed_independent_of_ending (c : Cfg α β) (t : Tail) :
    expected { c with tail := t } = expected c := rfl

/-- every ending, one rule: the replies are those owed after a clean end, all
    with a position ≤ n and none final, then the single final marker with
    position n+1 which says whether and with which partial id the input broke -/
theorem ending_rule (c : Cfg α β) (sched : List Label) (s : State α β)
    (hex : exec c (init c) sched = some s) (hterm : terminated s = true) :
    ∃ body, s.out = body ++ [⟨c.tail.reqId, c.reqs.length + 1, none, true, c.tail.isErr⟩] ∧
      body.Perm (expected { c with tail := .eof }) ∧
      ∀ x ∈ body, x.isFinal = false ∧ 1 ≤ x.seq ∧ x.seq ≤ c.reqs.length := by
  obtain ⟨body, hout, hperm, _, _, hnf⟩ := bulk_pairing c sched s hex hterm
  refine ⟨body, hout, hperm, fun x hx => ⟨hnf x hx, ?_⟩⟩
  have := expectedFrom_seq_bounds c c.reqs 1 x (hperm.subset hx)
  omega

/-- the same for a raw input: the final marker is determined by where `parse`
    stops, and the complete requests before that point are owed what a clean
    end after them would owe them -/
theorem input_rule (items : List (Item α)) (e : Ending) (f : Req α → β) (cap : Nat) (sched : List Label)
    (s : State α β) (hex : exec (Cfg.ofInput items e f cap) (init (Cfg.ofInput items e f cap)) sched = some s)
    (hterm : terminated s = true) :
    ∃ body, s.out = body ++
        [⟨(parse items e).2.reqId, (parse items e).1.length + 1, none, true, (parse items e).2.isErr⟩] ∧
      body.Perm (expected (Cfg.ofInput ((parse items e).1.map Item.ok) .eof f cap)) ∧
      ∀ x ∈ body, x.isFinal = false ∧ 1 ≤ x.seq ∧ x.seq ≤ (parse items e).1.length := by
  obtain ⟨body, hout, hperm, hb⟩ := ending_rule _ sched s hex hterm
  exact ⟨body, hout, by simpa [Cfg.ofInput, parse_complete, Ending.tail] using hperm, hb⟩

/-- **A request that cannot be decoded** (not JSON, or a wrongly typed member
    that leaves `id` in `req_id`) after `pre` complete requests, whatever
    follows it: every terminated run delivers a permutation of what `pre` is
    owed after a clean end — positions 1..n, none of them the unreadable
    request's — and then exactly the marker (id, n+1, no payload, final, error). -/
theorem unreadable_request_rule (pre : List (Req α)) (id : String) (rest : List (Item α)) (e : Ending)
    (f : Req α → β) (cap : Nat) (sched : List Label) (s : State α β)
    (hex : exec (Cfg.ofInput (pre.map Item.ok ++ Item.broken id :: rest) e f cap)
      (init (Cfg.ofInput (pre.map Item.ok ++ Item.broken id :: rest) e f cap)) sched = some s)
    (hterm : terminated s = true) :
    ∃ body, s.out = body ++ [unreadableMarker pre.length id] ∧
      body.Perm (expected (Cfg.ofInput (pre.map Item.ok) .eof f cap)) ∧
      ∀ x ∈ body, x.isFinal = false ∧ 1 ≤ x.seq ∧ x.seq ≤ pre.length := by
  simpa [parse_unreadable, unreadableMarker, Tail.reqId, Tail.isErr] using input_rule _ e f cap sched s hex hterm

/-- **A request cut short, or a failing reader**, after `pre` complete
    requests: the same, with an empty request id on the marker. -/
theorem truncated_input_rule (pre : List (Req α)) (e : Ending) (he : e ≠ .eof)
    (f : Req α → β) (cap : Nat) (sched : List Label) (s : State α β)
    (hex : exec (Cfg.ofInput (pre.map Item.ok) e f cap) (init (Cfg.ofInput (pre.map Item.ok) e f cap)) sched = some s)
    (hterm : terminated s = true) :
    ∃ body, s.out = body ++ [unreadableMarker pre.length ""] ∧
      body.Perm (expected (Cfg.ofInput (pre.map Item.ok) .eof f cap)) ∧
      ∀ x ∈ body, x.isFinal = false ∧ 1 ≤ x.seq ∧ x.seq ≤ pre.length := by
  have ht : e.tail = .bad "" := by cases e <;> simp_all [Ending.tail]
  simpa [parse_complete, ht, unreadableMarker, Tail.reqId, Tail.isErr] using input_rule _ e f cap sched s hex hterm

/-- **A clean end**: the same replies, the marker without error. -/
theorem clean_end_rule (pre : List (Req α)) (f : Req α → β) (cap : Nat) (sched : List Label) (s : State α β)
    (hex : exec (Cfg.ofInput (pre.map Item.ok) .eof f cap) (init (Cfg.ofInput (pre.map Item.ok) .eof f cap)) sched = some s)
    (hterm : terminated s = true) :
    ∃ body, s.out = body ++ [⟨"", pre.length + 1, none, true, false⟩] ∧
      body.Perm (expected (Cfg.ofInput (pre.map Item.ok) .eof f cap)) ∧
      ∀ x ∈ body, x.isFinal = false ∧ 1 ≤ x.seq ∧ x.seq ≤ pre.length := by
  simpa [parse_complete, Ending.tail, Tail.reqId, Tail.isErr] using input_rule _ .eof f cap sched s hex hterm

/-! ## the context layer: cancellation

The workers' results depend on whether the shared context was cancelled
(`CCfg.f req cancelled`); the only cancellation is the caller's (`CLabel.cancel`). -/

/-- **Without a cancellation by the caller every reply is the request's
    uncancelled result** — for every ending of the input, every schedule. -/
theorem uncancelled_results (c : CCfg α β) (ls : List CLabel) (hn : ∀ l ∈ ls, l ≠ CLabel.cancel)
    (s : CState α β) (hex : cexec c (cinit c) ls = some s) (hterm : terminated s.base = true) :
    s.cancelled = false ∧
    ∃ body, s.base.out = body ++ [finalResp (c.at false)] ∧ body.Perm (expected (c.at false)) ∧
      ∀ x ∈ body, x.isFinal = false := by
  obtain ⟨hc, sched, hex'⟩ := cexec_of_no_cancel c ls s (fun h => hn _ h rfl) hex
  obtain ⟨body, hout, hperm, _, _, hnf⟩ := bulk_pairing (c.at false) sched s.base hex' hterm
  exact ⟨hc, body, hout, hperm, hnf⟩

/-- **Cancellations do not disturb pairing**: whatever the caller cancels and
    when, the replies with their payloads blanked are a permutation of
    (req_idᵢ, i) for i = 1..n followed by the one final marker. -/
theorem cancelled_pairing (c : CCfg α β) (ls : List CLabel) (s : CState α β)
    (hex : cexec c (cinit c) ls = some s) (hterm : terminated s.base = true) :
    ∃ body, s.base.out.map Resp.shape = body ++ [finalResp c.shape] ∧ body.Perm (expected c.shape) ∧
      ∀ x ∈ body, x.isFinal = false := by
  obtain ⟨sched, hex'⟩ := cexec_shape c ls s hex
  have ht : terminated s.base.shape = true := by rw [terminated_shape]; exact hterm
  obtain ⟨body, hout, hperm, _, _, hnf⟩ := bulk_pairing c.shape sched s.base.shape hex' ht
  exact ⟨body, hout, hperm, hnf⟩

/-- **… and every reply is the request's own result**, computed either with
    or without the cancellation seen: a reply never carries anything else, in
    particular never something that depends on another request. -/
theorem cancelled_payloads (c : CCfg α β) (ls : List CLabel) (s : CState α β)
    (hex : cexec c (cinit c) ls = some s) (r : Resp β) (hr : r ∈ s.base.out) (hnf : r.isFinal = false) :
    r ∈ expected (c.at false) ∨ r ∈ expected (c.at true) := by
  exact cexec_sent c ls s hex r (by simp [State.stream, hr]) hnf

/-! ## non-vacuity: a concrete run with reordering, and a rejected trace -/

/-- two requests, the second answered first -/
def exCfg : Cfg String String :=
  { reqs := [⟨"a", "x"⟩, ⟨"b", "y"⟩], tail := .eof, f := fun r => r.body ++ "!", cap := 1 }

example : ∃ s, exec exCfg (init exCfg)
      [.read, .read, .send 1, .recv, .stop, .send 0, .done, .recv, .done, .final, .recv] = some s ∧
    terminated s = true ∧
    s.out = [⟨"b", 2, some "y!", false, false⟩, ⟨"a", 1, some "x!", false, false⟩, ⟨"", 3, none, true, false⟩] :=
  ⟨_, rfl, rfl, rfl⟩
example : validTrace exCfg
    [⟨"b", 2, some "y!", false, false⟩, ⟨"a", 1, some "x!", false, false⟩, ⟨"", 3, none, true, false⟩] = true := by decide
-- swapped request ids, a duplicate, a missing reply, a marker that is not last, a wrong final seq: all rejected
example : validTrace exCfg
    [⟨"a", 2, some "y!", false, false⟩, ⟨"b", 1, some "x!", false, false⟩, ⟨"", 3, none, true, false⟩] = false := by decide
example : validTrace exCfg
    [⟨"a", 1, some "x!", false, false⟩, ⟨"a", 1, some "x!", false, false⟩, ⟨"", 3, none, true, false⟩] = false := by decide
example : validTrace exCfg [⟨"a", 1, some "x!", false, false⟩, ⟨"", 3, none, true, false⟩] = false := by decide
example : validTrace exCfg
    [⟨"a", 1, some "x!", false, false⟩, ⟨"", 3, none, true, false⟩, ⟨"b", 2, some "y!", false, false⟩] = false := by decide
example : validTrace exCfg
    [⟨"a", 1, some "x!", false, false⟩, ⟨"b", 2, some "y!", false, false⟩, ⟨"", 2, none, true, false⟩] = false := by decide
-- the final step is not enabled while a worker is still running (wg.Wait)
example : exec exCfg (init exCfg) [.read, .read, .stop, .send 0, .recv, .done, .final] = none := rfl
-- the early-termination path: a decode error after one request
example : finalResp { exCfg with reqs := [⟨"a", "x"⟩], tail := .bad "p" } = ⟨"p", 2, none, true, true⟩ := rfl

-- the input layer: two complete requests, then a value with a wrongly typed member that left "p" in
-- req_id, then a request that is never read; the second request is answered first
def exItems : List (Item String) := [.ok ⟨"a", "x"⟩, .ok ⟨"b", "y"⟩, .broken "p", .ok ⟨"never", "z"⟩]
example : parse exItems .eof = ([⟨"a", "x"⟩, ⟨"b", "y"⟩], Tail.bad "p") := rfl
example : ∃ s, exec (Cfg.ofInput exItems .eof (fun r => r.body ++ "!") 1) (init (Cfg.ofInput exItems .eof (fun r => r.body ++ "!") 1))
      [.read, .read, .send 1, .recv, .stop, .send 0, .done, .recv, .done, .final, .recv] = some s ∧
    terminated s = true ∧
    s.out = [⟨"b", 2, some "y!", false, false⟩, ⟨"a", 1, some "x!", false, false⟩, unreadableMarker 2 "p"] :=
  ⟨_, rfl, rfl, rfl⟩
-- a request cut short after one complete request (hypotheses of `truncated_input_rule`)
example : ∃ s, exec (Cfg.ofInput [Item.ok ⟨"a", "x"⟩] .cut (fun r => r.body ++ "!") 1)
      (init (Cfg.ofInput [Item.ok ⟨"a", "x"⟩] .cut (fun r => r.body ++ "!") 1))
      [.read, .stop, .send 0, .done, .recv, .final, .recv] = some s ∧ terminated s = true ∧
    s.out = [⟨"a", 1, some "x!", false, false⟩, unreadableMarker 1 ""] ∧ Ending.cut ≠ Ending.eof :=
  ⟨_, rfl, rfl, rfl, by decide⟩
-- the context layer: the caller cancels between the two sends; the first reply is the uncancelled
-- result, the second the cancelled one (hypotheses of `cancelled_pairing` / `cancelled_payloads`),
-- and without the cancel step both are uncancelled (hypotheses of `uncancelled_results`)
def exCCfg : CCfg String String :=
  { reqs := [⟨"a", "x"⟩, ⟨"b", "y"⟩], tail := .bad "", f := fun r b => if b then "cancelled" else r.body ++ "!", cap := 1 }
example : ∃ s, cexec exCCfg (cinit exCCfg)
      [.sys .read, .sys .read, .sys (.send 0), .sys .recv, .cancel, .sys .stop, .sys (.send 0), .sys .done, .sys .recv,
       .sys .done, .sys .final, .sys .recv] = some s ∧ terminated s.base = true ∧ s.cancelled = true ∧
    s.base.out = [⟨"a", 1, some "x!", false, false⟩, ⟨"b", 2, some "cancelled", false, false⟩, ⟨"", 3, none, true, true⟩] :=
  ⟨_, rfl, rfl, rfl, rfl⟩
example : ∃ s, cexec exCCfg (cinit exCCfg)
      [.sys .read, .sys .read, .sys (.send 0), .sys .recv, .sys .stop, .sys (.send 0), .sys .done, .sys .recv,
       .sys .done, .sys .final, .sys .recv] = some s ∧ terminated s.base = true ∧
    s.base.out = [⟨"a", 1, some "x!", false, false⟩, ⟨"b", 2, some "y!", false, false⟩, ⟨"", 3, none, true, true⟩] :=
  ⟨_, rfl, rfl, rfl⟩

/-! ## expectations over facts regenerated from /repo/internal/cli/bulk.go

The model was written against this synchronisation skeleton.  Moving
`wg.Done()` before the send, dropping `wg.Wait()`, sending the marker before
waiting, or numbering differently breaks one of these. -/
namespace Expect
open GoblVerif.Generated.Bulk

theorem channel_capacity_positive : 1 ≤ chanCap := by decide
theorem dispatcher_skeleton : bulkShape =
    ["go", "func{", "defer", "close", "for{", "atomic.AddInt64(1)", "decode", "if(err != nil){",
     "wg.Wait", "if(err != io.EOF){", "}", "send(resCh)", "return", "}",
     "wg.Add", "go", "func{", "send(resCh)", "wg.Done", "}", "}", "}", "return"] := rfl
theorem final_marker_members : finalFields =
    [("ReqID", "req.ReqID"), ("SeqID", "seq"), ("IsFinal", "true")] := rfl
theorem response_members : respFields = [("ReqID", "req.ReqID"), ("SeqID", "seq")] := rfl
theorem seq_only_copied : seqUsesInProcessRequest = 1 := rfl
theorem action_list : actions =
    ["verify", "validate", "build", "sign", "correct", "replicate", "keygen", "ping", "sleep",
     "schemas", "schema", "regime"] := rfl

end Expect

/-! ## expectations over `Generated/BulkCtxFacts.lean`

What the input and context layers assume about the source beyond the
synchronisation skeleton: the worker's context is the caller's (no context is
derived, rebound or cancelled inside `Bulk`: how the stream ends cannot reach
a dispatched request), the decode-error branch is one branch for every error
and builds the marker the rule above describes, a fresh request structure per
iteration, and a cancellable reader shares nothing with another reader (no
package-level state, the inner read gets the caller's own slice). -/
namespace ExpectCtx
open GoblVerif.Generated.BulkCtx

theorem worker_context_is_the_callers :
    bulkParams = ["ctx context.Context", "opts *BulkOptions"] ∧ workerArgs = ["ctx", "req", "seq", "opts"] ∧
      contextCalls = [] ∧ ctxRebound = 0 ∧ otherFunctionsCalled = [] := ⟨rfl, rfl, rfl, rfl, rfl⟩
theorem decode_error_branch_as_modelled : decodeErrorBranch =
    ["wg.Wait()", "res := &BulkResponse{ ReqID: req.ReqID, SeqID: seq, IsFinal: true, }",
     "if err != io.EOF { res.Error = wrapError(StatusUnprocessableEntity, err) }", "resCh <- res", "return"] := rfl
theorem read_loop_as_modelled : readLoop =
    ["seq := atomic.AddInt64(&seq, 1)", "var req BulkRequest", "err := dec.Decode(&req)", "if err != nil {...}",
     "wg.Add(1)", "go func() { resCh <- processRequest(ctx, req, seq, opts) wg.Done() }()"] := rfl
theorem cancellable_reader_shares_nothing :
    readerPackageVars = [] ∧ readParam = "p" ∧ innerReadArgs = ["p"] := ⟨rfl, rfl, rfl⟩
theorem cancellable_reader_as_modelled : readerRead =
    ["var c int", "var err error", "wait := make(chan struct{}, 1)", "go func", "  c, err = r.r.Read(p)", "  close(wait)",
     "select", "case <-r.ctx.Done(): return 0, r.ctx.Err()", "case <-wait: return c, err"] := rfl

end ExpectCtx

end GoblVerif.Props.C15
