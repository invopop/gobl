/-
  C20 — Tax summaries combine component-wise; payment totals add up.

  The property theorems and their private helpers (helper lemmas: Proofs/Merge.lean,
  Proofs/Payment.lean).  They are about the models of /repo/tax/totals.go
  (Model/Merge.lean) and of the payment calculation (Model/Payment.lean), which
  use the *faithful* `num` operations, and relate them to Spec/C20.lean.

  The merge theorems are stated for summaries at one common precision `e`
  (`uniform e`, what `Total.Calculate` produces): there `Amount.Add` is integer
  addition.  "Neither operation alters its operands" has no content in a
  functional model; it is checked on the real objects by the harness.
-/
import GoblVerif.Spec.C20
import GoblVerif.Proofs.Merge
import GoblVerif.Proofs.Payment
import GoblVerif.Generated.MergeFacts
import GoblVerif.Generated.TaxTotalsSrc
import GoblVerif.Proofs.TaxTotalsSrc

namespace GoblVerif.Props.C20
open GoblVerif GoblVerif.Merge GoblVerif.Spec.C20

/-! ## rate groups -/

/-- `RateTotal.Matches` decides exactly "same rate group" of the specification:
    equal extensions and country, both exempt or percentages of equal *value*
    (20% = 20.0%) with surcharge percentages of equal value; keys are ignored. -/
theorem matches_is_same_group (a b : RateTotal) : a.matches b = sameGroup a b :=
  matches_eq_sameGroup a b

/-- "same rate group" is an equivalence relation -/
theorem same_group_equivalence (a b c : RateTotal) :
    sameGroup a a = true ∧ sameGroup a b = sameGroup b a ∧
    (sameGroup a b = true → sameGroup b c = true → sameGroup a c = true) :=
  ⟨sameGroup_refl a, sameGroup_symm a b, sameGroup_trans⟩

/-! ## merge: every figure is the sum of the operands' -/

private theorem merge_category (e : ℕ) (g : CategoryTotal → ℤ)
    (hg : ∀ m c, uniformCategory e m = true → uniformCategory e c = true → g (m.absorb c) = g m + g c)
    (t1 t2 : Total) (code : String) (h1 : uniform e t1 = true) (h2 : uniform e t2 = true) :
    categoryFigure g code (t1.merge t2) = categoryFigure g code t1 + categoryFigure g code t2 :=
  categories_figure e g code hg _ _ ((uniform_iff e t1).mp h1).2 ((uniform_iff e t2).mp h2).2

private theorem merge_group (e : ℕ) (f : RateTotal → ℤ)
    (hf : ∀ m x, uniformRate e m = true → uniformRate e x = true → f (m.absorb x) = f m + f x)
    (t1 t2 : Total) (code : String) (k : RateTotal)
    (h1 : uniform e t1 = true) (h2 : uniform e t2 = true) :
    groupFigure f code k (t1.merge t2) = groupFigure f code k t1 + groupFigure f code k t2 :=
  merge_category e _ (fun m c hm hc => rates_figure e f k hf m.rates c.rates
    ((uniformCategory_iff e m).mp hm).2.2 ((uniformCategory_iff e c).mp hc).2.2) t1 t2 code h1 h2

/-- for every category code and rate group, the base of the merged summary is the
    sum of the operands' bases -/
theorem merge_bases (e : ℕ) (t1 t2 : Total) (code : String) (k : RateTotal)
    (h1 : uniform e t1 = true) (h2 : uniform e t2 = true) :
    groupFigure (·.base.value) code k (t1.merge t2) =
      groupFigure (·.base.value) code k t1 + groupFigure (·.base.value) code k t2 :=
  merge_group e _ (absorb_base e) t1 t2 code k h1 h2

/-- … the tax amount is the sum of the operands' amounts -/
theorem merge_amounts (e : ℕ) (t1 t2 : Total) (code : String) (k : RateTotal)
    (h1 : uniform e t1 = true) (h2 : uniform e t2 = true) :
    groupFigure (·.amount.value) code k (t1.merge t2) =
      groupFigure (·.amount.value) code k t1 + groupFigure (·.amount.value) code k t2 :=
  merge_group e _ (absorb_amount e) t1 t2 code k h1 h2

/-- … and the rate surcharge is the sum of the operands' surcharges (absent = 0),
    whichever operand carries one — also for exempt groups, which match whatever
    their surcharges (this is what fix 333c166 restored: before it `Merge`
    dereferenced nil when only the second operand's exempt group had one) -/
theorem merge_surcharges (e : ℕ) (t1 t2 : Total) (code : String) (k : RateTotal)
    (h1 : uniform e t1 = true) (h2 : uniform e t2 = true) :
    groupFigure surchargeValue code k (t1.merge t2) =
      groupFigure surchargeValue code k t1 + groupFigure surchargeValue code k t2 :=
  merge_group e _ (absorb_surcharge e) t1 t2 code k h1 h2

/-- the amount of every category (by code) is the sum of the operands' -/
theorem merge_category_amounts (e : ℕ) (t1 t2 : Total) (code : String)
    (h1 : uniform e t1 = true) (h2 : uniform e t2 = true) :
    categoryFigure (·.amount.value) code (t1.merge t2) =
      categoryFigure (·.amount.value) code t1 + categoryFigure (·.amount.value) code t2 :=
  merge_category e _ (cat_absorb_amount e) t1 t2 code h1 h2

/-- the category surcharge (absent = 0) is the sum of the operands', whichever
    side carries one (this is what fix 51a93ed restored) -/
theorem merge_category_surcharges (e : ℕ) (t1 t2 : Total) (code : String)
    (h1 : uniform e t1 = true) (h2 : uniform e t2 = true) :
    categoryFigure catSurchargeValue code (t1.merge t2) =
      categoryFigure catSurchargeValue code t1 + categoryFigure catSurchargeValue code t2 :=
  merge_category e _ (cat_absorb_surcharge e) t1 t2 code h1 h2

/-- the total is the sum of the totals, at the same precision -/
theorem merge_sum (e : ℕ) (t1 t2 : Total) (h1 : uniform e t1 = true) (h2 : uniform e t2 = true) :
    (t1.merge t2).sum = ⟨t1.sum.value + t2.sum.value, e⟩ := by
  obtain ⟨s1, _⟩ := (uniform_iff e t1).mp h1
  obtain ⟨s2, _⟩ := (uniform_iff e t2).mp h2
  unfold Total.merge
  simp only
  rw [add_of_exp_eq _ _ (by omega), s1]

/-- the merged summary is again at precision `e` -/
theorem merge_uniform (e : ℕ) (t1 t2 : Total) (h1 : uniform e t1 = true) (h2 : uniform e t2 = true) :
    uniform e (t1.merge t2) = true := by
  obtain ⟨s1, c1⟩ := (uniform_iff e t1).mp h1
  obtain ⟨s2, c2⟩ := (uniform_iff e t2).mp h2
  exact (uniform_iff e _).mpr ⟨by rw [merge_sum e t1 t2 h1 h2], categories_uniform e _ _ c1 c2⟩

/-! ## the executable oracle holds of the model; order independence -/

/-- the Bool oracle the harness evaluates on Go's output holds of the model's merge,
    for every pair of summaries at one precision (no condition on their shape) -/
theorem merge_figures_add (e : ℕ) (t1 t2 : Total)
    (h1 : uniform e t1 = true) (h2 : uniform e t2 = true) :
    mergeOracle e t1 t2 (t1.merge t2) = true := by
  unfold mergeOracle figuresAdd
  simp only [Bool.and_eq_true, List.all_eq_true, beq_iff_eq]
  refine ⟨merge_uniform e t1 t2 h1 h2, ?_, ?_⟩
  · rw [merge_sum e t1 t2 h1 h2]
  · intro code _
    refine ⟨⟨merge_category_amounts e t1 t2 code h1 h2, merge_category_surcharges e t1 t2 code h1 h2⟩, ?_⟩
    intro k _
    exact ⟨⟨merge_bases e t1 t2 code k h1 h2, merge_amounts e t1 t2 code k h1 h2⟩,
      merge_surcharges e t1 t2 code k h1 h2⟩

/-- Order independence: for every category code and rate group `t1.Merge(t2)` and
    `t2.Merge(t1)` present the same figures, and the same total. -/
theorem merge_order_independent (e : ℕ) (t1 t2 : Total)
    (h1 : uniform e t1 = true) (h2 : uniform e t2 = true) :
    sameFigures (t1.merge t2) (t2.merge t1) = true := by
  -- every figure of the merge is the sum of the operands' figures, and sums commute
  have comm : ∀ {F : Total → ℤ}, (∀ a b, uniform e a = true → uniform e b = true → F (a.merge b) = F a + F b) →
      F (t1.merge t2) = F (t2.merge t1) := fun hF => by rw [hF t1 t2 h1 h2, hF t2 t1 h2 h1, add_comm]
  unfold sameFigures
  simp only [Bool.and_eq_true, List.all_eq_true, beq_iff_eq]
  exact ⟨by rw [merge_sum e t1 t2 h1 h2, merge_sum e t2 t1 h2 h1, add_comm], fun code _ =>
    ⟨⟨comm fun a b => merge_category_amounts e a b code, comm fun a b => merge_category_surcharges e a b code⟩,
      fun k _ => ⟨⟨comm fun a b => merge_bases e a b code k, comm fun a b => merge_amounts e a b code k⟩,
        comm fun a b => merge_surcharges e a b code k⟩⟩⟩

/-! ## negation -/

private theorem zipAll_map {α : Type} (p : α → α → Bool) (f : α → α) (h : ∀ x, p x (f x) = true) (xs : List α) :
    zipAll p xs (xs.map f) = true := by
  induction xs with
  | nil => rfl
  | cons x xs ih => simp [zipAll, h x, ih]

private theorem rate_negated (r : RateTotal) : rateNegated r r.negate = true := by
  unfold rateNegated RateTotal.negate Amount.negate
  rcases r.surcharge with _ | s <;> simp

private theorem category_negated (c : CategoryTotal) : categoryNegated c c.negate = true := by
  unfold categoryNegated CategoryTotal.negate Amount.negate
  have := zipAll_map rateNegated RateTotal.negate rate_negated c.rates
  rcases c.surcharge with _ | s <;> simp [this]

/-- `Negate` flips the sign of every amount — total, category amounts and
    category surcharges, bases, tax amounts and rate surcharges — and leaves
    codes, keys, percentages, precisions and the order of rows alone. -/
theorem negate_flips_all (t : Total) : isNegationOf t t.negate = true := by
  unfold isNegationOf Total.negate Total.clone Amount.negate
  simp [zipAll_map categoryNegated CategoryTotal.negate category_negated t.categories]

theorem negate_involutive (t : Total) : t.negate.negate = t := by
  obtain ⟨cs, s, sp⟩ := t
  simp [Total.negate, Total.clone, negate_negate, Function.comp_def, category_negate_negate]

/-! ## a summary merged with its negation is zero everywhere -/

/-- For a summary without duplicate categories / rate groups (any precisions, any
    shape), every amount of `t.Merge(t.Negate())` is zero: total, category amounts
    and surcharges, bases, tax amounts and rate surcharges.  (With duplicates the
    Go code leaves non-zero rows: known finding `duplicate-groups-in-summary`.) -/
theorem merge_negate_zero (t : Total) (h : noDuplicates t = true) :
    allZero (t.merge t.negate) = true := by
  obtain ⟨hc, hr⟩ := (noDuplicates_iff t).mp h
  unfold allZero Total.merge Total.negate Total.clone
  simp only [Bool.and_eq_true, beq_iff_eq, List.all_eq_true]
  refine ⟨add_negate_zero t.sum, ?_⟩
  rw [categories_self_negate t.categories hc]
  intro c' hc'
  rw [List.mem_map] at hc'
  obtain ⟨c, hcm, rfl⟩ := hc'
  refine ⟨cat_absorb_negate_zero c, fun r' hr' => ?_⟩
  rw [cat_absorb_rates, show c.negate.rates = c.rates.map RateTotal.negate from rfl,
    rates_self_negate c.rates (hr c hcm), List.mem_map] at hr'
  obtain ⟨r, _, rfl⟩ := hr'
  exact rate_absorb_negate_zero r


/-! ## matched rows of any shape; no new duplicates -/

/-- The "merge the amounts" step is additive in all three figures for *any* two
    rows at one precision — in particular when only the absorbed row carries a
    surcharge (two exempt rows): it is copied, percentage included.  `Total.merge`
    has no partial step, so it is the result of `Merge` for every pair of
    summaries (the harness reports any panic of the real code as a violation). -/
theorem merge_rows_add_in_any_shape (e : ℕ) (m x : RateTotal)
    (hm : uniformRate e m = true) (hx : uniformRate e x = true) :
    (m.absorb x).base.value = m.base.value + x.base.value ∧
    (m.absorb x).amount.value = m.amount.value + x.amount.value ∧
    surchargeValue (m.absorb x) = surchargeValue m + surchargeValue x ∧
    (m.surcharge = none → (m.absorb x).surcharge = x.surcharge) :=
  ⟨absorb_base e m x hm hx, absorb_amount e m x hm hx, absorb_surcharge e m x hm hx, by
    intro h
    unfold RateTotal.absorb
    rcases hxs : x.surcharge with _ | xs <;> simp [h]⟩

/-- an exempt group whose surcharge 2.50 is in the second operand only (the case of fix 333c166):
    both orders give
    base 150.00 and surcharge 2.50, the same summary up to row order -/
theorem merge_exempt_surcharge_either_order :
    let ex : RateTotal := { key := "", country := "", ext := [], base := ⟨10000, 2⟩, percent := none, surcharge := none, amount := ⟨0, 2⟩ }
    let exS : RateTotal := { ex with base := ⟨5000, 2⟩, surcharge := some ⟨⟨⟨5, 2⟩⟩, ⟨250, 2⟩⟩ }
    let t1 : Total := { categories := [{ code := "VAT", retained := false, rates := [ex], amount := ⟨0, 2⟩, surcharge := none, amountP := ⟨0, 0⟩ }], sum := ⟨0, 2⟩, sumP := ⟨0, 0⟩ }
    let t2 : Total := { categories := [{ code := "VAT", retained := false, rates := [exS], amount := ⟨0, 2⟩, surcharge := none, amountP := ⟨0, 0⟩ }], sum := ⟨0, 2⟩, sumP := ⟨0, 0⟩ }
    wellFormed t2 = false ∧
    groupFigure (·.base.value) "VAT" ex (t1.merge t2) = 15000 ∧ groupFigure surchargeValue "VAT" ex (t1.merge t2) = 250 ∧
    groupFigure (·.base.value) "VAT" ex (t2.merge t1) = 15000 ∧ groupFigure surchargeValue "VAT" ex (t2.merge t1) = 250 ∧
    sameUpToOrder (t1.merge t2) (t2.merge t1) = true ∧ allZero (t2.merge t2.negate) = true := by
  decide +kernel

/-- merging summaries without duplicate categories / rate groups creates none -/
theorem merge_no_duplicates (t1 t2 : Total) (h1 : noDuplicates t1 = true) (h2 : noDuplicates t2 = true) :
    noDuplicates (t1.merge t2) = true := by
  obtain ⟨c1, r1⟩ := (noDuplicates_iff t1).mp h1
  obtain ⟨_, r2⟩ := (noDuplicates_iff t2).mp h2
  rw [noDuplicates_iff]
  unfold Total.merge Total.clone
  exact mergeCategories_nodup t1.categories t2.categories c1 r1 r2

/-- PARTIAL.  Order independence up to row order: the two merge orders present
    the same figures for every category code and rate group, the same total, and
    neither result lists a category or rate group twice — so a row of one result
    corresponds to at most one row of the other, with the same figures.

    Full statement wanted: `sameUpToOrder (t1.merge t2) (t2.merge t1) = true`, i.e.
    additionally *equally many* categories and rows per category (a bijection
    between rows).  Missing: the counting argument that both results contain
    exactly the union of the operands' groups; `sameUpToOrder` (with the counts)
    is evaluated by the harness on the Go outputs of every generated pair. -/
theorem merge_comm_up_to_order_partial (e : ℕ) (t1 t2 : Total)
    (h1 : uniform e t1 = true) (h2 : uniform e t2 = true)
    (d1 : noDuplicates t1 = true) (d2 : noDuplicates t2 = true) :
    sameFigures (t1.merge t2) (t2.merge t1) = true ∧
    noDuplicates (t1.merge t2) = true ∧ noDuplicates (t2.merge t1) = true :=
  ⟨merge_order_independent e t1 t2 h1 h2, merge_no_duplicates t1 t2 d1 d2, merge_no_duplicates t2 t1 d2 d1⟩

/-! ## payments -/

open GoblVerif.Payment in
/-- The payment total is the sum of the line totals, each line total is
    (debit converted) − (credit converted) at the payment currency's precision;
    with at least one line the total is at that precision too, and a payment
    without lines gets `num.AmountZero` (the empty sum; fix 8194945). -/
theorem payment_total (p : Payment) (res : Result) (h : p.calculate = .ok res) :
    ∃ lts : List Amount,
      List.Forall₂ (fun l lt => l.calculate p.currency p.curExp p.rates = .ok lt) p.lines lts ∧
      res.lineTotals = lts ∧
      (∀ lt ∈ lts, lt.exp = p.curExp) ∧
      res.total.value = (lts.map (·.value)).sum ∧
      (p.lines ≠ [] → res.total = ⟨(lts.map (·.value)).sum, p.curExp⟩) ∧
      (p.lines = [] → res.total = ⟨0, 0⟩) := by
  obtain ⟨⟨lts, hf, g1, g2⟩, -⟩ := calculate_ok p res h
  have hexp := forall2_exp _ _ _ _ _ hf
  have hnil : lts = [] ↔ p.lines = [] := by
    rw [← List.length_eq_zero_iff, ← hf.length_eq, List.length_eq_zero_iff]
  rw [foldl_accTotal_none p.curExp lts hexp] at g2
  refine ⟨lts, hf, g1, hexp, ?_, ?_, ?_⟩
  · rw [g2]; split <;> simp [*, amountZero]
  · intro hne; rw [g2, if_neg (mt hnil.mp hne)]
  · intro he; rw [g2, if_pos (hnil.mpr he)]; rfl

open GoblVerif.Payment in
/-- The total a payment carried before the calculation plays no role in its
    result (before fix 8194945 a payment without lines kept it). -/
theorem payment_ignores_previous_total (p : Payment) (a : Amount) :
    ({ p with total := a } : Payment).calculate = p.calculate := by
  unfold Payment.calculate
  rw [runLines_total_irrelevant]

open GoblVerif.Payment in
/-- `Payment.calculate` is defined exactly when every line can be converted (an
    exchange rate exists) and every line document's currency is defined: merging
    the documents' summaries cannot fail, whatever their shape. -/
theorem payment_defined (p : Payment) :
    (∃ res, p.calculate = .ok res) ↔
      ∀ l ∈ p.lines, (∃ lt, l.calculate p.currency p.curExp p.rates = .ok lt) ∧
        ∀ dr, l.document = some dr → dr.docValid = true := by
  simp only [← docOK_iff]
  refine Iff.trans ?_ (runLines_defined p p.lines ⟨[], none, none⟩)
  unfold Payment.calculate
  cases runLines p p.lines ⟨[], none, none⟩ <;> simp

open GoblVerif.Payment in
/-- each line total is debit minus credit, converted (`currency.Convert`) and
    brought to the payment currency's precision -/
theorem payment_line_total (pl : PaymentLine) (cur : String) (e : ℕ) (rates : List ExchangeRate) (lt : Amount)
    (h : pl.calculate cur e rates = .ok lt) :
    ∃ d c, lineSide pl cur rates pl.debit = .ok d ∧ lineSide pl cur rates pl.credit = .ok c ∧
      lt = ⟨sideValue e d - sideValue e c, e⟩ :=
  line_total pl cur e rates lt h

open GoblVerif.Payment in
/-- `ExchangeRate.Convert` of an amount of *any* precision is the exact product
    with the declared rate, rounded half away from zero once, to the destination
    currency's precision — inside the float-exact domain (the product of the
    amount's value, scaled up to the destination precision when it is coarser,
    and the rate's value stays below 2^52; `Multiply` divides by at most 10^22).
    Before fix 7d1829e this held only for `a.exp = er.toExp`: a coarser amount
    lost the decimals of the product, a finer one was rounded twice. -/
theorem convert_is_exact_rounding (er : ExchangeRate) (a : Amount)
    (hm : |a.value * pow10 (er.toExp - a.exp) * er.amount.value| < 2 ^ 52)
    (he : er.amount.exp + (a.exp - er.toExp) ≤ 22) :
    er.convert a = convertSpec er.amount.toRat er.toExp a :=
  convert_exact er a hm he

open GoblVerif.Payment in
/-- the converted amount is at the destination currency's precision, whatever
    the precision of the amount and of the rate (no domain condition) -/
theorem convert_at_destination_precision (er : ExchangeRate) (a : Amount) :
    (er.convert a).exp = er.toExp := by
  unfold ExchangeRate.convert
  dsimp only
  split
  · exact congrArg Amount.exp (rescaleUp_of_le ⟨a.value, er.toExp⟩ _ (le_refl _))
  · exact congrArg Amount.exp (rescaleUp_of_le a _ (by omega))

open GoblVerif.Payment in
/-- how an amount is written plays no role: two spellings of the same value
    (`100` and `100.00`) convert to the same result -/
theorem convert_ignores_spelling (er : ExchangeRate) (a b : Amount) (hab : a.toRat = b.toRat)
    (hma : |a.value * pow10 (er.toExp - a.exp) * er.amount.value| < 2 ^ 52)
    (hea : er.amount.exp + (a.exp - er.toExp) ≤ 22)
    (hmb : |b.value * pow10 (er.toExp - b.exp) * er.amount.value| < 2 ^ 52)
    (heb : er.amount.exp + (b.exp - er.toExp) ≤ 22) :
    er.convert a = er.convert b := by
  rw [convert_exact er a hma hea, convert_exact er b hmb heb]
  unfold convertSpec
  rw [hab]


open GoblVerif.Payment in
/-- A payment line in a foreign currency: its total is, to the unit, the
    specification Σ — debit times rate rounded once to the payment currency,
    minus credit times rate rounded once — for debit and credit of any precision
    (`r` is the first declared rate from the line's currency to the payment's;
    `convDomain`: the float-exact domain of `convert_is_exact_rounding`). -/
theorem payment_line_total_converted (pl : PaymentLine) (cur : String) (e : ℕ) (rates : List ExchangeRate)
    (r : ExchangeRate) (lt : Amount) (hc : pl.currency ≠ "") (hne : pl.currency ≠ cur)
    (hr : matchExchangeRate rates pl.currency cur = some r) (hre : r.toExp = e)
    (hd : convDomain r pl.debit) (hcr : convDomain r pl.credit)
    (h : pl.calculate cur e rates = .ok lt) :
    lt = ⟨specSide r.amount.toRat e pl.debit - specSide r.amount.toRat e pl.credit, e⟩ := by
  obtain ⟨d, c, h1, h2, h3⟩ := line_total pl cur e rates lt h
  rw [lineSide_converted pl cur rates r _ hc hne hr hd] at h1
  rw [lineSide_converted pl cur rates r _ hc hne hr hcr] at h2
  simp only [Except.ok.injEq] at h1 h2
  subst h1 h2
  rw [h3, hre, sideValue_spec, sideValue_spec]

open GoblVerif.Payment in
/-- the payment's tax summary is the left-to-right merge of the recalculated
    summaries of its lines' documents (`none` when no line has one) -/
theorem payment_tax (p : Payment) (res : Result) (h : p.calculate = .ok res) :
    res.tax = mergeAll (p.lines.filterMap (lineTax p)) :=
  (calculate_ok p res h).2

/-! ## non-vacuity -/

private def r20 : RateTotal := { key := "standard", country := "", ext := [], base := ⟨10000, 2⟩, percent := some ⟨⟨20, 2⟩⟩, surcharge := none, amount := ⟨2000, 2⟩ }
private def r20' : RateTotal := { key := "other", country := "", ext := [], base := ⟨5000, 2⟩, percent := some ⟨⟨200, 3⟩⟩, surcharge := none, amount := ⟨1000, 2⟩ }
private def r10s : RateTotal := { key := "reduced", country := "", ext := [], base := ⟨3000, 2⟩, percent := some ⟨⟨10, 2⟩⟩, surcharge := some ⟨⟨⟨52, 3⟩⟩, ⟨156, 2⟩⟩, amount := ⟨300, 2⟩ }
private def tA : Total := { categories := [{ code := "VAT", retained := false, rates := [r20, r10s], amount := ⟨2300, 2⟩, surcharge := some ⟨156, 2⟩, amountP := ⟨0, 0⟩ }], sum := ⟨2456, 2⟩, sumP := ⟨0, 0⟩ }
private def rEx : RateTotal := { key := "exempt", country := "PT", ext := [("pt-exemption", "M01")], base := ⟨700, 2⟩, percent := none, surcharge := none, amount := ⟨0, 2⟩ }
private def tC : Total := { categories := [{ code := "IRPF", retained := true, rates := [r20'], amount := ⟨1000, 2⟩, surcharge := none, amountP := ⟨100000, 4⟩ }, { code := "VAT", retained := false, rates := [rEx, r10s], amount := ⟨300, 2⟩, surcharge := some ⟨156, 2⟩, amountP := ⟨0, 0⟩ }], sum := ⟨-544, 2⟩, sumP := ⟨-54400, 4⟩ }
private def tB : Total := { categories := [{ code := "VAT", retained := false, rates := [r20'], amount := ⟨1000, 2⟩, surcharge := none, amountP := ⟨0, 0⟩ }], sum := ⟨1000, 2⟩, sumP := ⟨0, 0⟩ }

example : uniform 2 tA = true ∧ uniform 2 tB = true ∧
    noDuplicates tA = true ∧ noDuplicates tB = true := by decide +kernel
example : groupFigure (·.base.value) "VAT" r20 (tA.merge tB) = 15000 ∧
    categoryFigure catSurchargeValue "VAT" (tB.merge tA) = 156 ∧
    sameUpToOrder (tA.merge tB) (tB.merge tA) = true := by decide +kernel
example : allZero (tA.merge tA.negate) = true ∧ isNegationOf tA tA.negate = true := by decide +kernel


/- conversion: three inputs inside the domain of `convert_is_exact_rounding` (the cases of fix
   7d1829e), on which the model gives the specified results
   (1500 JPY at 0.0061 = 9.15 EUR, not 9.00; 0.0010 USD at 4.9995 = 0.00 EUR, not
   0.01; 2.01 EUR at 163.93 = 329 JPY, not 330) -/
private def jpyEur : Payment.ExchangeRate := ⟨"JPY", "EUR", ⟨61, 4⟩, 2⟩
private def usdEur : Payment.ExchangeRate := ⟨"USD", "EUR", ⟨49995, 4⟩, 2⟩
private def eurJpy : Payment.ExchangeRate := ⟨"EUR", "JPY", ⟨16393, 2⟩, 0⟩

example : |(1500 : ℤ) * pow10 (jpyEur.toExp - 0) * jpyEur.amount.value| < 2 ^ 52 ∧ jpyEur.amount.exp + (0 - jpyEur.toExp) ≤ 22 := by decide
example : |(10 : ℤ) * pow10 (usdEur.toExp - 4) * usdEur.amount.value| < 2 ^ 52 ∧ usdEur.amount.exp + (4 - usdEur.toExp) ≤ 22 := by decide
example : jpyEur.convert ⟨1500, 0⟩ = ⟨915, 2⟩ := by
  rw [convert_is_exact_rounding _ _ (by decide) (by decide)]; decide +kernel
example : usdEur.convert ⟨10, 4⟩ = ⟨0, 2⟩ := by
  rw [convert_is_exact_rounding _ _ (by decide) (by decide)]; decide +kernel
example : eurJpy.convert ⟨201, 2⟩ = ⟨329, 0⟩ ∧ eurJpy.convert ⟨-201, 2⟩ = ⟨-329, 0⟩ := by
  rw [convert_is_exact_rounding _ _ (by decide) (by decide), convert_is_exact_rounding _ _ (by decide) (by decide)]
  decide +kernel
example : (⟨100, 0⟩ : Amount).toRat = (⟨10000, 2⟩ : Amount).toRat := by decide +kernel
example : Payment.convDomain jpyEur (some ⟨1500, 0⟩) ∧ Payment.convDomain jpyEur none := by
  constructor
  · intro a h; cases h; decide
  · intro a h; cases h

/-! ## the model and the source (`namespace Src`)

`Generated/TaxTotalsSrc.lean` is the translation (go2lean) of /repo/tax/totals.go,
regenerated on every run; its Go structs are MAPPED onto the records of Model/Merge.lean
and its `num` calls are the fields of the class `TaxTotals.NumOps`, read here
with `faithfulOps` (the operations of Model/Num.lean that Model/Merge.lean is
written with).  Proved for ALL arguments: `Matches`, `clone`,
`matchRoundingPrecision`, and `Clone`, `Negate`, `Merge` for summaries of any
shape (`src_Clone`, `src_Negate`, `src_Merge`): the loops that write in place
through slices of pointers (go2lean_own.go) are handled by the loop principles of
Proofs/GoSemCursor.lean (cursor loop, fill loop, inner loop with write-through) and
Proofs/GoSemList.lean (search loop with a found pointer).  `src_merge_figures_add`,
`src_merge_order_independent`, `src_negate_flips_all` and `src_merge_negate_zero`
restate the headline theorems of this file directly over the regenerated
definitions.  What the translation cannot see — sharing between the operands and
the result — stays with the harness; `Expect` pins the shape of the Go functions as well. -/
namespace Src
open GoblVerif.Generated GoblVerif.TaxTotals GoblVerif.Proofs.TaxTotalsSrc

theorem all_translated : TaxTotalsSrc.untranslated = [] := rfl

theorem translated_as_listed :
    TaxTotalsSrc.translated = ["RateTotal.matches", "RateTotal.Matches", "RateTotal.clone", "newCategoryTotal",
      "newRateTotal", "matchRoundingPrecision", "CategoryTotal.PreciseAmount", "Total.PreciseSum", "Total.Category",
      "Total.Clone", "Total.Negate", "Total.Merge", "Total.calculateBaseCategoryTotal", "Total.calculateFinalSum",
      "Total.round", "Total.rateTotalFor", "TotalCalculator.calculateBaseRateTotals"] := rfl

theorem struct_Total_as_mapped :
    TaxTotalsSrc.struct_Total = [("Categories", "[]*CategoryTotal"), ("Sum", "num.Amount"), ("sum", "num.Amount")] ∧
    TaxTotalsSrc.structLean_Total = ("GoblVerif.Merge.Total", ["categories", "sum", "sumP"]) ∧
    TaxTotalsSrc.structOmitted_Total = [] :=
  ⟨rfl, rfl, rfl⟩

theorem struct_CategoryTotal_as_mapped :
    TaxTotalsSrc.struct_CategoryTotal = [("Code", "cbc.Code"), ("Retained", "bool"), ("Rates", "[]*RateTotal"),
      ("Amount", "num.Amount"), ("Surcharge", "*num.Amount"), ("amount", "num.Amount")] ∧
    TaxTotalsSrc.structLean_CategoryTotal =
      ("GoblVerif.Merge.CategoryTotal", ["code", "retained", "rates", "amount", "surcharge", "amountP"]) ∧
    TaxTotalsSrc.structOmitted_CategoryTotal = [] :=
  ⟨rfl, rfl, rfl⟩

theorem struct_RateTotal_as_mapped :
    TaxTotalsSrc.struct_RateTotal = [("Key", "cbc.Key"), ("Country", "l10n.TaxCountryCode"), ("Ext", "Extensions"),
      ("Base", "num.Amount"), ("Percent", "*num.Percentage"), ("Surcharge", "*RateTotalSurcharge"), ("Amount", "num.Amount")] ∧
    TaxTotalsSrc.structLean_RateTotal =
      ("GoblVerif.Merge.RateTotal", ["key", "country", "ext", "base", "percent", "surcharge", "amount"]) ∧
    TaxTotalsSrc.structOmitted_RateTotal = [] :=
  ⟨rfl, rfl, rfl⟩

theorem struct_RateTotalSurcharge_as_mapped :
    TaxTotalsSrc.struct_RateTotalSurcharge = [("Percent", "num.Percentage"), ("Amount", "num.Amount")] ∧
    TaxTotalsSrc.structLean_RateTotalSurcharge = ("GoblVerif.Merge.Surcharge", ["percent", "amount"]) ∧
    TaxTotalsSrc.structOmitted_RateTotalSurcharge = [] :=
  ⟨rfl, rfl, rfl⟩

theorem struct_Combo_as_mapped :
    TaxTotalsSrc.struct_Combo = [("Category", "cbc.Code"), ("Country", "l10n.TaxCountryCode"), ("Rate", "cbc.Key"),
      ("Percent", "*num.Percentage"), ("Surcharge", "*num.Percentage"), ("Ext", "Extensions"), ("retained", "bool")] ∧
    TaxTotalsSrc.structLean_Combo =
      ("GoblVerif.TaxTotals.Combo", ["category", "country", "rate", "percent", "surcharge", "ext", "retained"]) ∧
    TaxTotalsSrc.structOmitted_Combo = [] :=
  ⟨rfl, rfl, rfl⟩

/-- what the translation assumes beyond its general reading of Go (see the
    header of go2lean_own.go): which slices hold no nil; which locals own a fresh
    object; which loops write through their range variable and which pointers
    are found by a search loop (all with write-back into the slice); the three
    `make` calls whose nil elements are overwritten before they are read
    (`newCategoryTotal`: length 0; `Clone`: `nt.Categories[i] = new(…)` and
    `…Rates[j] = rt.clone()` are the first statements of the loops over the same
    lengths); the one shared pointer (`clone` copies `Percent`, which nothing
    writes through); `&ns`, `&x` taken after the last assignment; no unsigned
    subtraction, no condition-controlled loop -/
theorem assumptions_as_reviewed :
    TaxTotalsSrc.nonNilElems = ["[]*CategoryTotal", "[]*Combo", "[]*RateTotal", "[]*taxLine"] ∧
    TaxTotalsSrc.inOutParams = [("Total.calculateBaseCategoryTotal", "ct"), ("Total.calculateFinalSum", "t"),
      ("Total.round", "t"), ("Total.rateTotalFor", "t"), ("TotalCalculator.calculateBaseRateTotals", "t")] ∧
    TaxTotalsSrc.ownedLocals = [("RateTotal.clone", "nrt"), ("newCategoryTotal", "ct"), ("newRateTotal", "rt"),
      ("Total.Clone", "nt"), ("Total.Negate", "nt"), ("Total.Merge", "nt")] ∧
    TaxTotalsSrc.elemCursors = [("Total.Negate", "ct := range nt.Categories"), ("Total.Negate", "rt := range ct.Rates"),
      ("Total.calculateBaseCategoryTotal", "rt := range ct.Rates"), ("Total.calculateFinalSum", "ct := range t.Categories"),
      ("Total.round", "ct := range t.Categories"), ("Total.round", "rt := range ct.Rates")] ∧
    TaxTotalsSrc.foundCursors = [("Total.Merge", "catTotal in nt.Categories"), ("Total.Merge", "rateTotal in catTotal.Rates"),
      ("Total.rateTotalFor", "catTotal in t.Categories"), ("Total.rateTotalFor", "rateTotal in catTotal.Rates")] ∧
    TaxTotalsSrc.nilFreeMakes = [("newCategoryTotal", "make([]*RateTotal, 0)"),
      ("Total.Clone", "make([]*CategoryTotal, len(t.Categories))"), ("Total.Clone", "make([]*RateTotal, len(ct.Rates))")] ∧
    TaxTotalsSrc.ptrCopies = [("RateTotal.clone", "nrt.Percent = rt.Percent")] ∧
    TaxTotalsSrc.lateAddr = [("Total.Merge", "&ns"), ("Total.calculateBaseCategoryTotal", "&x")] ∧
    TaxTotalsSrc.mapRanges = [] ∧ TaxTotalsSrc.mapWrites = [] ∧ TaxTotalsSrc.mapNilTests = [] ∧
    TaxTotalsSrc.natSubs = [] ∧ TaxTotalsSrc.fuelChecks = [] :=
  ⟨rfl, rfl, rfl, rfl, rfl, rfl, rfl, rfl, rfl, rfl, rfl, rfl, rfl⟩

/-- the opaque types and their zero values: Go's zero `num.Amount` is `0` with exponent 0, a nil `Extensions` is empty -/
theorem opaque_types_as_reviewed :
    TaxTotalsSrc.namedTypes = [("Extensions", "map[cbc.Key]cbc.Code", "List (String × String)"),
      ("Set", "[]*Combo", "List GoblVerif.TaxTotals.Combo"),
      ("TaxableLine", "interface{GetTaxes() Set; GetTotal() num.Amount}", "GoblVerif.TaxTotals.TaxLine"),
      ("cal.Date", "struct{invalid type}", "GoblVerif.TaxTotals.CalDate"),
      ("cbc.Code", "string", "String"), ("cbc.Key", "string", "String"), ("currency.Code", "string", "String"),
      ("l10n.TaxCountryCode", "string", "String"),
      ("num.Amount", "struct{value int64; exp uint32}", "GoblVerif.Amount"),
      ("num.Percentage", "struct{amount num.Amount}", "GoblVerif.Pct")] ∧
    TaxTotalsSrc.opaqueZeros = [("Extensions", "(default : List (String × String))"), ("num.Amount", "(default : GoblVerif.Amount)")] ∧
    (default : Amount) = ⟨0, 0⟩ ∧ (default : List (String × String)) = [] :=
  ⟨rfl, rfl, rfl, rfl⟩

/-- every `num` call is a field of `NumOps` (or the exponent), `Extensions.Equals` is the model's `extEquals` -/
theorem primitives_as_reviewed :
    TaxTotalsSrc.primitives = [("Extensions.Equals", "GoblVerif.Merge.extEquals {0} {1}"),
      ("num.Amount.Add", "NumOps.add {0} {1}"), ("num.Amount.Exp", "GoblVerif.Amount.exp {0}"),
      ("num.Amount.IsZero", "NumOps.isZero {0}"), ("num.Amount.MatchPrecision", "NumOps.matchPrecision {0} {1}"),
      ("num.Amount.Negate", "NumOps.negate {0}"), ("num.Amount.Remove", "NumOps.remove {0} {1}"),
      ("num.Amount.Rescale", "NumOps.rescale {0} {1}"), ("num.Amount.RescaleUp", "NumOps.rescaleUp {0} {1}"),
      ("num.Amount.Subtract", "NumOps.sub {0} {1}"), ("num.Percentage.Equals", "NumOps.pctEquals {0} {1}"),
      ("num.Percentage.Of", "NumOps.pctOf {0} {1}")] := rfl

/-- the reading of the primitives this file uses is the one Model/Merge.lean is written with -/
theorem faithful_reading (a b : Amount) (p q : Pct) (e : ℕ) :
    @NumOps.add faithfulOps a b = a.add b ∧ @NumOps.sub faithfulOps a b = a.sub b ∧
    @NumOps.negate faithfulOps a = a.negate ∧ @NumOps.rescale faithfulOps a e = a.rescale e ∧
    @NumOps.matchPrecision faithfulOps a b = a.matchPrecision b ∧ @NumOps.pctOf faithfulOps p a = p.of a ∧
    @NumOps.pctEquals faithfulOps p q = p.equals q :=
  ⟨rfl, rfl, rfl, rfl, rfl, rfl, rfl⟩

/-! ### regenerated definition = model, for all arguments -/

/-- **the regenerated `(*RateTotal).Matches` is `RateTotal.matches`** -/
theorem src_Matches (rt rt2 : RateTotal) :
    @TaxTotalsSrc.RateTotal_Matches faithfulOps rt rt2 = rt.matches rt2 := Matches_eq rt rt2

/-- … hence it decides "same rate group" of the specification -/
theorem spec_of_the_source_Matches (a b : RateTotal) :
    @TaxTotalsSrc.RateTotal_Matches faithfulOps a b = sameGroup a b := by
  rw [src_Matches]; exact matches_is_same_group a b

/-- **the regenerated `(*RateTotal).clone` returns a copy of its receiver** (it calls no primitive) -/
theorem src_clone (rt : RateTotal) : TaxTotalsSrc.RateTotal_clone rt = some rt := clone_eq rt

/-- **the regenerated `matchRoundingPrecision` is the model's**, with `currency` = "the rule key is `currency`" -/
theorem src_matchRoundingPrecision (rr : String) (a b : Amount) :
    @TaxTotalsSrc.matchRoundingPrecision faithfulOps rr a b = Merge.matchRoundingPrecision (rr == "currency") a b :=
  mrp_faithful rr a b

/-! ### `Clone`, `Negate`, `Merge`: summaries of any shape -/

theorem src_Clone_nil : TaxTotalsSrc.Total_Clone none = none := Clone_none
theorem src_Negate_nil [NumOps] : TaxTotalsSrc.Total_Negate none = none := Negate_none

/-- **the regenerated `(*Total).Clone` returns a copy of its receiver**, whatever the numbers of
    categories and rate groups (it calls no primitive; "a copy that shares nothing" is not visible in
    the value reading and stays with the harness) -/
theorem src_Clone (t : Total) : TaxTotalsSrc.Total_Clone (some t) = some t.clone := Clone_eq t

/-- **the regenerated `(*Total).Negate` is `Total.negate`**, for every summary: all eight amounts
    (category amount, precise amount, surcharge; base, amount, surcharge amount of every rate group;
    sum, precise sum) in every category and every rate group -/
theorem src_Negate (t : Total) : @TaxTotalsSrc.Total_Negate faithfulOps (some t) = some t.negate := Negate_eq t

/-- **the regenerated `(*Total).Merge` is `Total.merge`**, for every pair of summaries: the search
    for the category by code, the new category with cloned rates, the `else` branch with the category
    surcharge added or copied, the search for the rate group by `Matches`, the appended clone and the
    "merge the amounts" block with the rate surcharge added or copied -/
theorem src_Merge (t t2 : Total) :
    @TaxTotalsSrc.Total_Merge faithfulOps (some t) t2 = some (t.merge t2) := Merge_eq t t2

/-- the empty and the one-row shapes, as corollaries: the empty summary and every
    summary with one category and one rate group -/
theorem src_Clone_one_row (cd : String) (ret : Bool) (r : RateTotal) (am : Amount) (su : Option Amount)
    (ap s sp : Amount) :
    TaxTotalsSrc.Total_Clone (some ⟨[], s, sp⟩) = some (Total.clone ⟨[], s, sp⟩) ∧
    TaxTotalsSrc.Total_Clone (some (oneRow cd ret r am su ap s sp)) = some (oneRow cd ret r am su ap s sp).clone :=
  ⟨src_Clone _, src_Clone _⟩

theorem src_Negate_one_row (cd : String) (ret : Bool) (r : RateTotal) (am : Amount) (su : Option Amount)
    (ap s sp : Amount) :
    @TaxTotalsSrc.Total_Negate faithfulOps (some (oneRow cd ret r am su ap s sp)) =
      some (oneRow cd ret r am su ap s sp).negate :=
  src_Negate _

/-- … and the sample summaries (one and two categories, a retained one, a category surcharge on one
    side, a rate-group surcharge, an exempt row, different spellings of 20%), both orders -/
theorem src_Clone_Negate_Merge_on_samples :
    TaxTotalsSrc.Total_Clone (some tA) = some tA.clone ∧
    @TaxTotalsSrc.Total_Negate faithfulOps (some tA) = some tA.negate ∧
    @TaxTotalsSrc.Total_Merge faithfulOps (some tA) tB = some (tA.merge tB) ∧
    @TaxTotalsSrc.Total_Merge faithfulOps (some tB) tA = some (tB.merge tA) ∧
    @TaxTotalsSrc.Total_Merge faithfulOps (some tA) tA.negate = some (tA.merge tA.negate) ∧
    @TaxTotalsSrc.Total_Merge faithfulOps (some tB) tC = some (tB.merge tC) ∧
    @TaxTotalsSrc.Total_Merge faithfulOps (some tC) tA = some (tC.merge tA) :=
  ⟨src_Clone _, src_Negate _, src_Merge _ _, src_Merge _ _, src_Merge _ _, src_Merge _ _, src_Merge _ _⟩

/-- the kernel also evaluates the regenerated definitions themselves on a sample (this does not go
    through the theorems above: a check of the reading, and of the non-triviality of the samples) -/
example : @TaxTotalsSrc.Total_Merge faithfulOps (some tC) tA = some (tC.merge tA) ∧
    (tC.merge tA).categories.map (·.rates.length) = [1, 3] := by
  refine ⟨by decide +kernel, by decide +kernel⟩

example : (oneRow "VAT" false r10s ⟨300, 2⟩ (some ⟨156, 2⟩) ⟨0, 0⟩ ⟨456, 2⟩ ⟨0, 0⟩).negate.categories.map (·.surcharge) =
    [some ⟨-156, 2⟩] := by decide +kernel

/-! ### `Total.Calculate` (as `DocumentRef.Calculate` uses it): the regenerated pieces are `Merge.calc*` -/

/-- **the regenerated `calculateBaseCategoryTotal` is `calcCategory`**, for any number of rate groups -/
theorem src_calculateBaseCategoryTotal (t : Total) (ct : CategoryTotal) (zero : Amount) (rr : String) :
    (@TaxTotalsSrc.Total_calculateBaseCategoryTotal faithfulOps t ct zero rr).2 =
      calcCategory (rr == "currency") zero ct := by
  rw [@calcBase_eq faithfulOps]; exact calcCatG_faithful zero rr ct

/-- **the regenerated `calculateFinalSum`** is the fold of `calcSumStep` from the empty list and zero -/
theorem src_calculateFinalSum (t : Total) (zero : Amount) (rr : String) :
    (@TaxTotalsSrc.Total_calculateFinalSum faithfulOps t zero rr).2 =
      ⟨(t.categories.foldl (calcSumStep (rr == "currency") zero) ([], zero)).1,
       (t.categories.foldl (calcSumStep (rr == "currency") zero) ([], zero)).2, t.sumP⟩ := by
  rw [@calcFinalSum_eq faithfulOps, sumStep_fold]; simp

/-- **the regenerated `round`** is `roundCategory` on every category, the sum kept as the precise sum -/
theorem src_round (t : Total) (zero : Amount) :
    (@TaxTotalsSrc.Total_round faithfulOps t zero).2 =
      ⟨t.categories.map (roundCategory zero.exp), t.sum.rescale zero.exp, t.sum⟩ := by
  rw [@round_eq faithfulOps]; rfl

/-- **`calculateFinalSum` then `round` is `Total.calculate`** of Model/Merge.lean (the body of the Go
    `Total.Calculate` after its nil test; `e` = the currency's subunit digits, `currency` = "the rule
    key is `currency`"), for summaries of any shape -/
theorem src_Calculate_body (t : Total) (e : ℕ) (rr : String) :
    (@TaxTotalsSrc.Total_round faithfulOps (@TaxTotalsSrc.Total_calculateFinalSum faithfulOps t ⟨0, e⟩ rr).2 ⟨0, e⟩).2 =
      t.calculate e (rr == "currency") := Calculate_body_faithful t e rr

/-! ### the headline theorems, stated over the regenerated definitions

The same statements as `merge_figures_add`, `merge_order_independent`,
`negate_flips_all`, `merge_negate_zero` above, with the translated Go functions
in the place of the model: the result of the regenerated `Merge` / `Negate` is
never nil on a non-nil receiver (`∃ r, … = some r`), and it satisfies the
specification. -/

/-- **merge is component-wise**: for every pair of summaries at one precision the result of the
    regenerated `Merge` passes the oracle of Spec/C20 — the total, every category amount and category
    surcharge, and base, tax and surcharge of every rate group are the sums of the operands' figures -/
theorem src_merge_figures_add (e : ℕ) (t1 t2 : Total) (h1 : uniform e t1 = true) (h2 : uniform e t2 = true) :
    ∃ r, @TaxTotalsSrc.Total_Merge faithfulOps (some t1) t2 = some r ∧ mergeOracle e t1 t2 r = true :=
  ⟨t1.merge t2, src_Merge t1 t2, merge_figures_add e t1 t2 h1 h2⟩

/-- **order independence** of the regenerated `Merge`: both orders present the same figures -/
theorem src_merge_order_independent (e : ℕ) (t1 t2 : Total) (h1 : uniform e t1 = true) (h2 : uniform e t2 = true) :
    ∃ r r', @TaxTotalsSrc.Total_Merge faithfulOps (some t1) t2 = some r ∧
      @TaxTotalsSrc.Total_Merge faithfulOps (some t2) t1 = some r' ∧ sameFigures r r' = true :=
  ⟨t1.merge t2, t2.merge t1, src_Merge t1 t2, src_Merge t2 t1, merge_order_independent e t1 t2 h1 h2⟩

/-- **negate flips all**: the result of the regenerated `Negate` is the negation of its receiver in
    the sense of Spec/C20 (every amount, nothing else) -/
theorem src_negate_flips_all (t : Total) :
    ∃ r, @TaxTotalsSrc.Total_Negate faithfulOps (some t) = some r ∧ isNegationOf t r = true :=
  ⟨t.negate, src_Negate t, negate_flips_all t⟩

/-- **merge-negate-zero**: the regenerated `t.Merge(t.Negate())` has every amount zero, for every
    summary without duplicate categories / rate groups (any precisions, any shape) -/
theorem src_merge_negate_zero (t : Total) (h : noDuplicates t = true) :
    ∃ n r, @TaxTotalsSrc.Total_Negate faithfulOps (some t) = some n ∧
      @TaxTotalsSrc.Total_Merge faithfulOps (some t) n = some r ∧ allZero r = true :=
  ⟨t.negate, t.merge t.negate, src_Negate t, src_Merge t t.negate, merge_negate_zero t h⟩

/-- the hypotheses are satisfiable by non-trivial summaries -/
example : uniform 2 tA = true ∧ uniform 2 tB = true ∧ noDuplicates tC = true ∧ tC.categories.length = 2 := by
  decide +kernel

end Src

/-! ## expectations over facts regenerated from /repo on every run

The records of Model/Merge.lean carry exactly these fields; `Negate` negates
eight amounts (category amount, precise amount and surcharge; base, amount and
surcharge amount of every rate; sum and precise sum), `Merge` adds seven, and
the payment code converts, adds and subtracts in this order.  A new amount field
or a dropped negation / addition breaks an obligation here. -/
namespace Expect
open GoblVerif.Generated.Merge

theorem category_total_fields : fields_CategoryTotal = ["Code", "Retained", "Rates", "Amount", "Surcharge", "amount"] := rfl
theorem rate_total_fields : fields_RateTotal = ["Key", "Country", "Ext", "Base", "Percent", "Surcharge", "Amount"] := rfl
theorem rate_surcharge_fields : fields_RateTotalSurcharge = ["Percent", "Amount"] := rfl
theorem total_fields : fields_Total = ["Categories", "Sum", "sum"] := rfl
theorem negate_negates_eight_amounts : calls_Total_Negate =
    ["Clone", "Negate", "Negate", "Negate", "Negate", "Negate", "Negate", "Negate", "Negate"] := rfl
theorem merge_adds_seven_amounts : calls_Total_Merge =
    ["Clone", "new", "append", "clone", "append", "Add", "Add", "Matches", "append", "clone",
     "Add", "Add", "Add", "Add", "Add"] := rfl
theorem matches_compares_three : calls_RateTotal_Matches = ["Equals", "Equals", "Equals"] := rfl
theorem convert_raises_then_multiplies_once : calls_ExchangeRate_Convert =
    ["Exp", "Zero", "Def", "Exp", "Exp", "MakeAmount", "Value", "Exp", "MakeAmount", "Value", "Multiply", "RescaleUp"] := rfl
theorem line_adds_debit_subtracts_credit : calls_PaymentLine_calculate =
    ["Zero", "Def", "Convert", "Errorf", "MatchPrecision", "Add", "Convert", "Errorf", "MatchPrecision", "Subtract"] := rfl
theorem payment_recalculates_clones_merges_adds : calls_Payment_calculate =
    ["RegimeDef", "Def", "Def", "Errorf", "calculate", "Itoa", "Def", "Itoa", "Errorf", "Calculate",
     "GetRoundingRule", "Clone", "Merge", "Add"] := rfl
theorem document_ref_recalculates : calls_DocumentRef_Calculate = ["Calculate"] := rfl

end Expect

end GoblVerif.Props.C20
