/-
  C14 — no input crashes the library; failures are structured errors.   **PARTIAL**

  C14 is mostly a search (harness/props/c14): panics live in ~100 k lines of
  Go (regime/addon normalisers and validators, the validation engine, JSON and
  YAML decoders) that no model in this project covers.  What is proved here is
  small and only about pieces that ARE modelled:

  * the two loop shapes over slices of pointers: `eachDeref`, the loop without a nil test (the shape
    of about fifty loops before /repo 866c253 made a null entry of a document array a parse error),
    and `eachGuarded`, the loop that skips nil rows:
      -- full statement (false of `eachDeref`, see `null_row_panics`):
      --   theorem never_panics : ∀ rows, (eachDeref site f rows).isPanic = false
      `never_panics_partial`  holds under the hypothesis `NoNullRows`
      `null_row_panics`       the counter-example class: a null row ⇒ panic at that site
      `guarded_never_panics`  the guarded loop shape never panics, for every input
  * the stamp loop of bill.validatePrecedingData as it was before /repo 85797ba, which reads
    `row.Provider` of a nil option stamp (`findStamp`, `collectStampsNil`; the loop /repo has now
    tests `row != nil` first: Generated/CorrectSrc.lean)
      `stamp_loop_never_panics_partial`, `stamp_loop_nil_panics`
  * the modelled dispatcher and correction return an `Option` / an `Except`: a state or nothing, a
    document or a refusal: `bulk_step_total`, `correct_total`
  * `wrapError_documented`   every error that goes through gobl.wrapError carries a documented key
  * the error the command line prints (`cliPresent` = cli.WrapError, what cmd/gobl
    `printError` encodes since /repo 585d2c1, cac3c9e):
      `cli_error_structured`        whatever error ends the program, the printed object has a code,
                                    a key / message / fields, and no undocumented key
      `cli_usage_error_shape`       an unknown command or flag, an unreadable file: code 400, the text as message
      `cli_encoding_failure_shape`  a result that cannot be encoded: code 422, key `marshal`, the text as message
      `cli_error_code`, `cli_lib_error_keeps_key`, `cli_present_idem`, `cli_members_allowed`, `cli_never_bare`
  * three places where the input controls a pointer (Model/PanicsEnvelope.lean: every pointer an
    `Option`, the function as it is now and as it was at /repo 87b8cf5):
      `verifySignature_never_panics`   FULL: absent header, null entries in the envelope's own stamps /
                                       links, null entries in the header a signature signs, any keys:
                                       always one of the four verdicts
      `verifySignature_head_nil`, `verifySignature_own_null`, `verifySignature_payload_null`,
      `verifySignature_ok_sound`, `verifySignature_agrees_with_old`, `contains_never_panics`
      `old_head_nil_panics`, `old_payload_null_panics`, `old_own_null_panics`   the three guards are
                                       necessary (kernel-checked counter-examples on the old function)
      `sign_never_panics` (FULL), `sign_nil_key`, `old_sign_nil_key_panics`, `sign_agrees_with_old`
      `calcRefs_ok_iff` (FULL characterisation), `calcRefs_never_panics`, `calcRefs_order_irrelevant`,
      `old_calcRefs_unknown_currency_panics`, `calcRefs_on_the_counterexamples`
  * `Expect.*`                over the keys regenerated from errors.go / internal/cli/errors.go, and
                              the guards above over `Generated/PanicGuardFacts.lean`

  A panic the harness finds is identified by call site (entry stage, innermost gobl function) and
  compared with the listed known findings.
-/
import GoblVerif.Proofs.Panics
import GoblVerif.Model.Bulk
import GoblVerif.Generated.ErrorFacts
import GoblVerif.Generated.PanicGuardFacts

namespace GoblVerif.Props.C14
open GoblVerif.Panics

variable {ρ : Type}

/-- the dereferencing loop does not panic when no row is null (PARTIAL: the
    hypothesis is what the loop does not test) -/
theorem never_panics_partial (site : String) (f : ρ → ρ) (rows : List (Option ρ))
    (h : NoNullRows rows) : (eachDeref site f rows).isPanic = false := by
  rw [eachDeref_eq, any_isNone_eq_false.mpr h, eachGuarded_eq]; rfl

/-- the counter-example class: any null row makes the loop panic at its site -/
theorem null_row_panics (site : String) (f : ρ → ρ) (rows : List (Option ρ))
    (h : none ∈ rows) : eachDeref site f rows = .panic site := by
  rw [eachDeref_eq, List.any_eq_true.mpr ⟨none, h, rfl⟩]; rfl

/-- the guarded loop never panics, whatever the rows -/
theorem guarded_never_panics (f : ρ → ρ) (rows : List (Option ρ)) :
    ∃ rs, eachGuarded f rows = .ok rs ∧ rs.length = rows.length :=
  ⟨_, eachGuarded_eq f rows, List.length_map _⟩

example : NoNullRows [some 1, some 2] := by intro r hr; simp at hr; rcases hr with rfl | rfl <;> simp
example : eachDeref "bill.(*Line).Normalize" (· + 1) [some 1, none, some 3] = .panic "bill.(*Line).Normalize" := by decide
example : eachGuarded (· + 1) [some 1, none, some 3] = .ok [some 2, none, some 4] := by decide
example : eachDeref "s" (· + 1) [some 1, some 2] = .ok [some 2, some 3] := by decide

open GoblVerif.Correct in
private theorem findStamp_no_nil (site k : String) (have_ : List (Option Stamp))
    (h : ∀ s ∈ have_, s ≠ none) : (findStamp site k have_).isPanic = false := by
  induction have_ with
  | nil => rfl
  | cons s rest ih =>
    cases s with
    | none => exact absurd rfl (h none (by simp))
    | some x =>
      simp only [findStamp]
      split
      · rfl
      · exact ih (fun s hs => h s (by simp [hs]))

open GoblVerif.Correct in
/-- the stamp loop does not panic when no option stamp is nil (PARTIAL) -/
theorem stamp_loop_never_panics_partial (site : String) (have_ : List (Option Stamp)) (ks : List String)
    (h : ∀ s ∈ have_, s ≠ none) : (collectStampsNil site have_ ks).isPanic = false := by
  induction ks with
  | nil => rfl
  | cons k ks ih =>
    simp only [collectStampsNil]
    have hf := findStamp_no_nil site k have_ h
    cases hh : findStamp site k have_ with
    | panic s => exact absurd hh (Outcome.isPanic_eq_false.mp hf s)
    | err e => rfl
    | ok o =>
      cases o with
      | none => rfl
      | some s =>
        simp only
        cases hc : collectStampsNil site have_ ks with
        | ok rest => rfl
        | err e => rfl
        | panic s' => exact absurd hc (Outcome.isPanic_eq_false.mp ih s')

open GoblVerif.Correct in
/-- counter-example on the loop as it was before /repo 85797ba: `"stamps":[null]` with a required stamp panics -/
theorem stamp_loop_nil_panics (site k : String) (ks : List String) (rest : List (Option Stamp)) :
    collectStampsNil site (none :: rest) (k :: ks) = .panic site := by
  simp [collectStampsNil, findStamp]

/-- the modelled dispatcher answers a step with a state or with nothing: true of any function
    into `Option`; that the model has no crash state is in the type of `Bulk.step` -/
theorem bulk_step_total {α β : Type} (c : Bulk.Cfg α β) (s : Bulk.State α β) (l : Bulk.Label) :
    (∃ s', Bulk.step c s l = some s') ∨ Bulk.step c s l = none := by
  cases h : Bulk.step c s l with
  | none => exact Or.inr rfl
  | some s' => exact Or.inl ⟨s', rfl⟩

/-- the modelled correction gives a document or a refusal: true of any function into `Except`;
    the refusals are the seven constructors of `Correct.Err` -/
theorem correct_total {κ : Type} (calcF : Correct.Invoice κ → Option (Correct.Invoice κ)) (cd : Correct.CorrectionDef)
    (o : Correct.Options) (today : String) (inv : Correct.Invoice κ) :
    (∃ r, inv.correct calcF cd o today = .ok r) ∨ (∃ e, inv.correct calcF cd o today = .error e) := by
  cases h : inv.correct calcF cd o today with
  | ok r => exact Or.inl ⟨r, rfl⟩
  | error e => exact Or.inr ⟨e, rfl⟩

/-- every error that goes through `wrapError` carries a documented key,
    provided already-keyed errors do (they are made by `NewError` only) -/
theorem wrapError_documented (e : ErrKind)
    (h : ∀ k, e = .keyed k → k ∈ GoblVerif.Generated.Errors.documentedKeys) :
    wrapError e ∈ GoblVerif.Generated.Errors.documentedKeys := by
  cases e with
  | keyed k => exact h k rfl
  | unknownSchema => decide
  | validationErrors => decide
  | other => decide

/-! ## the error the command line prints -/

open GoblVerif.Spec.C14 GoblVerif.Generated.Errors

/-- an error of the library that reaches `main` unwrapped keeps key, fields and message -/
theorem cli_lib_error_keeps_key (k : String) (f : Bool) (m : String) :
    cliPresent (.lib k f m) = ⟨400, k, f, m⟩ := rfl

theorem empty_key_not_documented : "" ∉ documentedKeys := by decide

/-- whatever error ends the program, what is printed is structured: a code,
    at least one of key / message / fields, and a key that is documented if
    there is one (formerly `{}` for usage errors and the raw
    `json.MarshalerError` struct for an encoding failure: known findings
    `c14.clierr:empty:usage`, `c14.clierr:empty`) -/
theorem cli_error_structured (e : CliErrIn) (h : e.WellFormed documentedKeys) :
    structured documentedKeys (cliPresent e).shown = true := by
  cases e with
  | structured e' => exact h
  | lib k f m =>
    have hk : k ∈ documentedKeys := h
    have hne : k ≠ "" := fun h0 => empty_key_not_documented (h0 ▸ hk)
    simp [cli_lib_error_keeps_key, CliError.shown, structured, hne, hk]
  | encoding t =>
    simp [cliPresent_encoding, CliError.shown, structured]
    decide
  | plain t =>
    have ht : t ≠ "" := h
    simp [cliPresent_plain, CliError.shown, structured, ht]

/-- a refusal of the request itself (unknown command or flag, unreadable
    input or key file) is a bad request that carries the text of the error -/
theorem cli_usage_error_shape (t : String) (h : t ≠ "") :
    usageShape (cliPresent (.plain t)).shown = true ∧ (cliPresent (.plain t)).message = t ∧
      (cliPresent (.plain t)).key = "" := by
  simp [cliPresent_plain, CliError.shown, usageShape, h]

/-- a result that cannot be encoded is reported under the library's key for
    that, with code 422 and the text of the encoder's error -/
theorem cli_encoding_failure_shape (t : String) (h : t ≠ "") :
    encodingShape (cliPresent (.encoding t)).shown = true ∧ (cliPresent (.encoding t)).message = t ∧
      (cliPresent (.encoding t)).key ∈ documentedKeys := by
  refine ⟨?_, rfl, ?_⟩
  · simp [cliPresent_encoding, CliError.shown, encodingShape, h]
  · rw [cliPresent_encoding]; show "marshal" ∈ documentedKeys; decide

/-- the code of an error that was not structured already is 422 exactly for
    an encoding failure and 400 otherwise -/
theorem cli_error_code (e : CliErrIn) (h : ∀ e', e ≠ .structured e') :
    ((∃ t, e = .encoding t) → (cliPresent e).code = 422) ∧
    ((∀ t, e ≠ .encoding t) → (cliPresent e).code = 400) := by
  cases e with
  | structured e' => exact absurd rfl (h e')
  | lib k f m => simp [cli_lib_error_keeps_key]
  | encoding t => simp [cliPresent_encoding]
  | plain t => simp [cliPresent_plain]

/-- presenting what was presented changes nothing (`errors.As` finds the `*cli.Error`) -/
theorem cli_present_idem (e : CliErrIn) : cliPresent (.structured (cliPresent e)) = cliPresent e := rfl

/-- the printed object has a `code` and only members of the `cli.Error` struct -/
theorem cli_members_allowed (e : CliErrIn) :
    "code" ∈ (cliPresent e).members ∧ ∀ m ∈ (cliPresent e).members, m ∈ cliErrorJSONMembers := by
  refine ⟨by simp [CliError.members], fun m hm => ?_⟩
  simp only [CliError.members, List.mem_append, List.mem_singleton] at hm
  rw [show cliErrorJSONMembers = ["code", "key", "fields", "message"] from rfl]
  rcases hm with ((rfl | hm) | hm) | hm
  · simp
  all_goals split at hm <;> simp_all

/-- the printed object is never the bare `{"code":…}` (nor `{}`): something says what went wrong -/
theorem cli_never_bare (e : CliErrIn) (h : e.WellFormed documentedKeys) :
    (cliPresent e).members ≠ ["code"] := by
  have hs := cli_error_structured e h
  generalize cliPresent e = p at hs
  obtain ⟨c, k, f, m⟩ := p
  simp only [structured, CliError.shown, Bool.and_eq_true, Bool.or_eq_true, bne_iff_ne, ne_eq] at hs
  obtain ⟨⟨_, hany⟩, _⟩ := hs
  simp only [CliError.members]
  rcases hany with (hk | hm) | hf
  · simp [hk]
  · simp [hm]
  · simp [hf]

/-! ## verifySignature, Sign, calculateOrgDocumentRefs: no dereference is left -/

/-- `Contains` between two headers without null entries: a truth value, nothing else -/
theorem contains_never_panics (rest : Bool) (h p : PHeader) (hh : hasNullEntries h = false) (hp : hasNullEntries p = false) :
    ∃ b, containsP rest h p = .ok b :=
  containsP_ok rest h p hh hp

/-- FULL: whatever the header of the envelope (absent, with null entries),
    whatever the signature signs (nothing readable, a header with null
    entries) and whatever keys are given, `verifySignature` answers with one
    of its four verdicts: it neither panics nor fails otherwise -/
theorem verifySignature_never_panics (rest : Bool) (head : Option PHeader) (sig : PSig) :
    ∃ v, verifySignatureP rest head sig = .ok v := by
  cases head with
  | none => exact ⟨_, rfl⟩
  | some h =>
    cases hh : hasNullEntries h with
    | true => exact ⟨.mismatch, by simp [verifySignatureP, hh]⟩
    | false =>
      rw [verifySignatureP_some rest h sig hh]
      split
      · split
        · exact ⟨_, rfl⟩
        · exact afterPayload_verdict rest h _ hh
      · exact ⟨_, rfl⟩

/-- an envelope without a header: "header mismatch" -/
theorem verifySignature_head_nil (rest : Bool) (sig : PSig) :
    verifySignatureP rest none sig = .ok .mismatch := rfl

/-- null entries in the envelope's own stamps or links: "header mismatch" -/
theorem verifySignature_own_null (rest : Bool) (h : PHeader) (sig : PSig) (hh : hasNullEntries h = true) :
    verifySignatureP rest (some h) sig = .ok .mismatch := by
  simp [verifySignatureP, hh]

/-- null entries in the header a signature signs: "invalid signature payload",
    without keys and under a key that verifies alike -/
theorem verifySignature_payload_null (rest : Bool) (h p : PHeader) (ks : List Bool)
    (hh : hasNullEntries h = false) (hp : hasNullEntries p = true) (hk : ks.isEmpty = true ∨ ks.any id = true) :
    verifySignatureP rest (some h) ⟨some p, ks⟩ = .ok .badPayload := by
  have hk' : (ks.isEmpty || ks.any id) = true := by simpa using hk
  simp [verifySignatureP_some rest h _ hh, hk', afterPayload, hp]

/-- the verdict is `ok` only if the header is there, nothing is null and the signed header is contained -/
theorem verifySignature_ok_sound (rest : Bool) (head : Option PHeader) (sig : PSig)
    (h : verifySignatureP rest head sig = .ok .ok) :
    ∃ hd p, head = some hd ∧ sig.payload = some p ∧ hasNullEntries hd = false ∧ hasNullEntries p = false ∧
      containsP rest hd p = .ok true := by
  cases head with
  | none => simp [verifySignatureP] at h
  | some hd =>
    cases hh : hasNullEntries hd with
    | true => simp [verifySignatureP, hh] at h
    | false =>
      rw [verifySignatureP_some rest hd sig hh] at h
      split at h
      · cases hp : sig.payload with
        | none => rw [hp] at h; cases hE : sig.verifiesUnder.isEmpty <;> simp [hE] at h
        | some p =>
          rw [hp] at h
          obtain ⟨hn, hc⟩ := (afterPayload_ok_iff rest hd p).mp h
          exact ⟨hd, p, rfl, rfl, hh, hn, hc⟩
      · cases h

/-- where nothing is null and the header is there, the guards change nothing:
    the function is the one of 87b8cf5 -/
theorem verifySignature_agrees_with_old (rest : Bool) (h : PHeader) (sig : PSig) (hh : hasNullEntries h = false)
    (hp : ∀ p, sig.payload = some p → hasNullEntries p = false) :
    verifySignatureP rest (some h) sig = verifySignatureOld rest (some h) sig := by
  unfold verifySignatureP verifySignatureOld
  simp only [hh, Bool.false_eq_true, if_false]
  cases hs : sig.payload with
  | none => rfl
  | some p => simp [afterPayload, hp p hs]

/-! ### the three guards are necessary: the function of 87b8cf5 panics (kernel-checked) -/

/-- `"head": null` with a signature present -/
theorem old_head_nil_panics (rest : Bool) (p : PHeader) :
    verifySignatureOld rest none ⟨some p, []⟩ = .panic containsSite := rfl

/-- the signed header holds `"stamps":[null]` and the envelope's header has a stamp of its own -/
theorem old_payload_null_panics :
    verifySignatureOld true (some ⟨"u", none, [some ("prv", "1")], []⟩) ⟨some ⟨"u", none, [none], []⟩, []⟩ =
      .panic containsSite := by decide +kernel

/-- the envelope's own header holds `"links":[null]` and the signed header has a link -/
theorem old_own_null_panics :
    verifySignatureOld true (some ⟨"u", none, [], [none]⟩) ⟨some ⟨"u", none, [], [some ("k", "u")]⟩, [true]⟩ =
      .panic containsSite := by decide +kernel

/-- … and the present function answers those three inputs -/
theorem guarded_on_the_counterexamples :
    verifySignatureP true none ⟨some ⟨"u", none, [], []⟩, []⟩ = .ok .mismatch ∧
    verifySignatureP true (some ⟨"u", none, [some ("prv", "1")], []⟩) ⟨some ⟨"u", none, [none], []⟩, []⟩ = .ok .badPayload ∧
    verifySignatureP true (some ⟨"u", none, [], [none]⟩) ⟨some ⟨"u", none, [], [some ("k", "u")]⟩, [true]⟩ = .ok .mismatch := by
  decide +kernel

/-! ### Sign -/

/-- FULL: `Sign` with any key (nil, without key material, invalid, valid) and
    with or without a header gives a result or a keyed error -/
theorem sign_never_panics (headPresent : Bool) (k : PKey) (validAfter : Bool) :
    signP headPresent k validAfter = .ok () ∨
      ∃ e, signP headPresent k validAfter = .err e ∧ (e = "validation" ∨ e = "signature") := by
  cases headPresent <;> cases k <;> cases validAfter <;> simp [signP, signWith, keyValid]
  all_goals (rename_i v; cases v <;> simp)

/-- a missing key is the error `signature` -/
theorem sign_nil_key (validAfter : Bool) : signP true .nil validAfter = .err "signature" ∧
    signP true .empty validAfter = .err "signature" := ⟨rfl, rfl⟩

/-- the function of 87b8cf5 panics on it -/
theorem old_sign_nil_key_panics (validAfter : Bool) : signOld true .nil validAfter = .panic keyValidateSite := rfl

/-- for every key that is not nil nothing changed -/
theorem sign_agrees_with_old (hp : Bool) (k : PKey) (va : Bool) (hk : k ≠ .nil) : signP hp k va = signOld hp k va := by
  cases k with
  | nil => exact absurd rfl hk
  | empty => rfl
  | key v => rfl

/-! ### calculateOrgDocumentRefs -/

/-- FULL characterisation: the references are calculated iff every one that is
    there has a known currency of its own or, lacking one, the document's is known;
    otherwise the outcome is the error; there is no third outcome -/
theorem calcRefs_ok_iff (known : String → Bool) (docCur : String) (refs : List (Option PRef)) :
    (calcRefs known docCur refs = .ok () ↔ ∀ r, some r ∈ refs → known (r.effective docCur) = true) ∧
    (calcRefs known docCur refs = .ok () ∨ calcRefs known docCur refs = .err "calculation") := by
  induction refs with
  | nil => simp [calcRefs]
  | cons x rest ih =>
    cases x with
    | none => simpa [calcRefs] using ih
    | some r =>
      simp only [calcRefs]
      cases hk : known (r.effective docCur) with
      | false =>
        simp only [Bool.false_eq_true, if_false]
        refine ⟨⟨fun h => by simp at h, fun h => ?_⟩, Or.inr trivial⟩
        have := h r (by simp)
        simp [hk] at this
      | true =>
        simp only [if_true]
        refine ⟨⟨fun h q hq => ?_, fun h => ?_⟩, ih.2⟩
        · simp only [List.mem_cons, Option.some.injEq] at hq
          rcases hq with rfl | hq
          · exact hk
          · exact ih.1.mp h q hq
        · exact ih.1.mpr (fun q hq => h q (by simp [hq]))

/-- hence: never a panic -/
theorem calcRefs_never_panics (known : String → Bool) (docCur : String) (refs : List (Option PRef)) :
    (calcRefs known docCur refs).isPanic = false := by
  rcases (calcRefs_ok_iff known docCur refs).2 with h | h <;> simp [h, Outcome.isPanic]

/-- the outcome does not depend on the order of the references (the currency
    of one reference no longer stays in force for the next: /repo 17c3526) -/
theorem calcRefs_order_irrelevant (known : String → Bool) (docCur : String) (a b : List (Option PRef))
    (h : ∀ x, x ∈ a ↔ x ∈ b) : calcRefs known docCur a = calcRefs known docCur b := by
  have ha := calcRefs_ok_iff known docCur a
  have hb := calcRefs_ok_iff known docCur b
  by_cases hk : ∀ r, some r ∈ a → known (r.effective docCur) = true
  · rw [ha.1.mpr hk, hb.1.mpr (fun r hr => hk r ((h _).mpr hr))]
  · have na : calcRefs known docCur a ≠ .ok () := fun e => hk (ha.1.mp e)
    have nb : calcRefs known docCur b ≠ .ok () := fun e => hk (fun r hr => hb.1.mp e r ((h _).mp hr))
    rcases ha.2 with e | e
    · exact absurd e na
    · rcases hb.2 with e' | e'
      · exact absurd e' nb
      · rw [e, e']

/-- the function of 87b8cf5: an unknown currency on a reference that carries a
    tax summary panics — and so does a LATER reference without a currency of its own -/
theorem old_calcRefs_unknown_currency_panics (known : String → Bool) (hq : known "QQQ" = false) :
    calcRefsOld known "EUR" [some ⟨"QQQ", true⟩] = .panic zeroSite ∧
    calcRefsOld known "EUR" [some ⟨"QQQ", false⟩, some ⟨"", true⟩] = .panic zeroSite := by
  simp [calcRefsOld, hq]

/-- … where the present one returns the error, resp. calculates the second
    reference in the document's currency -/
theorem calcRefs_on_the_counterexamples (known : String → Bool) (hq : known "QQQ" = false) (he : known "EUR" = true) :
    calcRefs known "EUR" [some ⟨"QQQ", true⟩] = .err "calculation" ∧
    calcRefs known "EUR" [some ⟨"", true⟩, none] = .ok () := by
  simp [calcRefs, PRef.effective, hq, he]

/-! non-vacuity: signatures, keys, references -/
example : hasNullEntries ⟨"u", some "d", [some ("a", "b")], []⟩ = false := by decide
example : verifySignatureP true (some ⟨"u", some "d", [some ("a", "b")], []⟩) ⟨some ⟨"u", some "d", [some ("a", "b")], []⟩, [false, true]⟩ = .ok .ok := by decide
example : verifySignatureP true (some ⟨"u", some "d", [], []⟩) ⟨some ⟨"u", some "d", [some ("a", "b")], []⟩, []⟩ = .ok .mismatch := by decide
example : verifySignatureP true (some ⟨"u", none, [], []⟩) ⟨none, [true]⟩ = .ok .noKey := by decide
example : ∃ known : String → Bool, known "QQQ" = false ∧ known "EUR" = true := ⟨fun s => s == "EUR", by decide, by decide⟩
example : signP true (.key true) true = .ok () := rfl
example : (PKey.key true) ≠ .nil := by decide

/-! ## non-vacuity: the error the command line prints -/
example : (CliErrIn.plain "unknown command \"nonsense\" for \"gobl\"").WellFormed documentedKeys := by
  simp [CliErrIn.WellFormed]
example : cliPresent (.plain "open /no/such/file: no such file or directory") =
    ⟨400, "", false, "open /no/such/file: no such file or directory"⟩ := rfl
example : (cliPresent (.plain "unknown flag: --no-such-flag")).members = ["code", "message"] := by decide
example : cliPresent (.encoding "json: error calling MarshalJSON for type *schema.Object: …") =
    ⟨422, "marshal", false, "json: error calling MarshalJSON for type *schema.Object: …"⟩ := rfl
example : (cliPresent (.encoding "json: unsupported type: func()")).members = ["code", "key", "message"] := by decide
example : (CliErrIn.structured ⟨422, "no-document", false, ""⟩).WellFormed documentedKeys := by
  simp [CliErrIn.WellFormed]; decide
example : (CliErrIn.lib "signature" false "no key").WellFormed documentedKeys := by
  simp [CliErrIn.WellFormed]; decide

/-! ## expectations over facts regenerated from /repo/errors.go, internal/cli/errors.go -/
namespace Expect
open GoblVerif.Generated.Errors

theorem documented_keys : documentedKeys =
    ["no-document", "validation", "calculation", "marshal", "unmarshal", "signature", "digest", "internal", "unknown-schema"] := rfl
theorem keys_distinct : documentedKeys.Nodup := by decide +kernel
/-- wrapError returns nil, the error itself (already keyed), or one of three keyed errors -/
theorem wrapError_shape : wrapErrorReturns =
    ["nil", "err", "ErrUnknownSchema", "ErrValidation.WithCause", "ErrInternal.WithCause"] := rfl
theorem wrapError_targets_documented :
    ["ErrUnknownSchema", "ErrValidation", "ErrInternal"].all (fun v => (errorVars.lookup v).any (documentedKeys.contains ·)) = true := by decide +kernel
/-- the model's three keys are those variables' keys -/
theorem model_keys : errorVars.lookup "ErrUnknownSchema" = some (wrapError .unknownSchema) ∧
    errorVars.lookup "ErrValidation" = some (wrapError .validationErrors) ∧
    errorVars.lookup "ErrInternal" = some (wrapError .other) := by decide +kernel
theorem error_json_members : errorJSONMembers = ["key", "fields", "message"] := rfl
theorem cli_error_json_members : cliErrorJSONMembers = ["code", "key", "fields", "message"] := rfl
/-- the specification's members are those of the struct -/
theorem spec_members : GoblVerif.Spec.C14.allowedMembers = cliErrorJSONMembers := rfl

/-! ### the error the command line prints: cmd/gobl main, cli.WrapError, cli.wrapError -/

/-- `main` prints the error and exits with status 1 -/
theorem main_as_modelled : calls_main_main = ["run", "printError", "Exit"] ∧
    mainExitCodes = [toString cliExitCode] := ⟨rfl, rfl⟩
/-- what is handed to the JSON encoder is `cli.WrapError(err)`, never the error
    value itself (the former `enc.Encode(err)` printed `{}` or the exported
    fields of whatever struct the error was) -/
theorem main_prints_wrapped_error : calls_main_printError = ["writeError"] ∧
    mainErrorEncodes = ["cli.WrapError(err)"] ∧
    conds_main_writeError = ["err = enc.Encode(cli.WrapError(err)); err != nil"] := ⟨rfl, rfl, rfl⟩
theorem cli_status_codes : cliStatusCodes.lookup "StatusBadRequest" = some statusBadRequest ∧
    cliStatusCodes.lookup "StatusUnprocessableEntity" = some statusUnprocessableEntity := by decide +kernel
/-- cli.WrapError: nil, the `*cli.Error` found by errors.As, an encoding failure
    under ErrMarshal with 422, anything else through wrapError with 400 -/
theorem cli_WrapError_as_modelled :
    conds_cli_WrapError = ["err == nil", "errors.As(err, &e)", "isEncodingError(err)"] ∧
    stmts_cli_WrapError = ["return nil", "return e",
      "return wrapError(StatusUnprocessableEntity, gobl.ErrMarshal.WithCause(err))",
      "return wrapError(StatusBadRequest, err)"] ∧
    types_cli_WrapError = ["var *Error"] := ⟨rfl, rfl, rfl⟩
/-- the three errors with which encoding/json refuses a value -/
theorem cli_encoding_errors_as_modelled :
    types_cli_isEncodingError = ["var *json.MarshalerError", "var *json.UnsupportedTypeError", "var *json.UnsupportedValueError"] ∧
    stmts_cli_isEncodingError = ["return errors.As(err, &me) || errors.As(err, &te) || errors.As(err, &ve)"] := ⟨rfl, rfl⟩
/-- cli.wrapError: a `*cli.Error` as it is; a `*gobl.Error` gives key, fields, message; anything else its text -/
theorem cli_wrapError_as_modelled :
    conds_cli_wrapError = ["e, ok := err.(*Error); ok"] ∧
    types_cli_wrapError = ["case *gobl.Error", "default"] ∧
    stmts_cli_wrapError = ["e, ok := err.(*Error)", "return e", "out := new(Error)", "out.Code = code",
      "e := err.(type)", "out.Key = e.Key()", "out.Fields = e.Fields()", "out.Message = e.Message()",
      "out.Message = e.Error()", "return out"] := ⟨rfl, rfl, rfl⟩
/-- the key of the model's encoding failure is ErrMarshal's -/
theorem model_marshal_key : errorVars.lookup "ErrMarshal" = some marshalKey := by decide +kernel

open GoblVerif.Generated
/-! ### the guards of Model/PanicsEnvelope.lean, pinned to the source -/

/-- `verifySignature`: the header guard (absent, or null entries of its own)
    comes first; each `Contains` is preceded by the null check of the signed header -/
theorem verifySignature_guards_as_modelled :
    PanicGuards.conds_Envelope_verifySignature =
      ["e.Head == nil || schema.CheckNullElements(e.Head) != nil", "len(keys) == 0",
       "err := sig.UnsafePayload(h); err != nil", "err := schema.CheckNullElements(h); err != nil",
       "!e.Head.Contains(h)", "err := sig.VerifyPayload(k, h); err != nil",
       "err := schema.CheckNullElements(h); err != nil", "e.Head.Contains(h)"] ∧
    PanicGuards.stmts_Envelope_verifySignature =
      ["return errors.New(\"header mismatch\")", "h := new(head.Header)", "err := sig.UnsafePayload(h)",
       "return errors.New(\"invalid signature payload\")", "err := schema.CheckNullElements(h)",
       "return errors.New(\"invalid signature payload\")", "return errors.New(\"header mismatch\")", "return nil",
       "h := new(head.Header)", "err := sig.VerifyPayload(k, h)", "err := schema.CheckNullElements(h)",
       "return errors.New(\"invalid signature payload\")", "return nil", "return errors.New(\"header mismatch\")",
       "return errors.New(\"no key match found\")"] := ⟨rfl, rfl⟩

/-- `Sign`: header required, then `key.Sign` = `NewSignature(k, …)`, whose
    `key.Validate()` answers a nil key and a key without key material with "key not set" -/
theorem sign_guards_as_modelled :
    PanicGuards.conds_Envelope_Sign = ["e.Head == nil", "err != nil", "err := e.Validate(); err != nil"] ∧
    PanicGuards.stmts_Envelope_Sign.take 3 =
      ["return ErrValidation.WithReason(\"header required\")", "sig, err := key.Sign(e.Head)", "return ErrSignature.WithCause(err)"] ∧
    PanicGuards.stmts_PrivateKey_Sign = ["return NewSignature(k, data)"] ∧
    PanicGuards.conds_PrivateKey_Validate =
      ["k == nil || k.jwk == nil", "k.ID() == \"\"", "!k.jwk.Valid()", "k.jwk.IsPublic()"] ∧
    PanicGuards.stmts_PrivateKey_Validate.head? = some "return errors.New(\"key not set\")" := ⟨rfl, rfl, rfl, rfl, rfl⟩

/-- `Signature.Verify`: a nil signature, a nil key and a key without key material are a key mismatch -/
theorem signature_verify_guard_as_modelled :
    PanicGuards.conds_Signature_Verify = ["s == nil || s.jws == nil || key == nil || key.jwk == nil", "err != nil"] ∧
    PanicGuards.stmts_Signature_Verify.head? = some "return nil, ErrKeyMismatch" := ⟨rfl, rfl⟩

/-- the header's validation refuses null entries in stamps and links before it looks for duplicates -/
theorem header_refuses_null_entries :
    PanicGuards.header_rules_Stamps.drop 1 = ["validation.By(noNullEntries)", "DetectDuplicateStamps"] ∧
    PanicGuards.header_rules_Links = ["validation.By(noNullEntries)", "DetectDuplicateLinks"] ∧
    PanicGuards.conds_head_noNullEntries = ["v == nil", "v == nil"] ∧
    PanicGuards.types_head_noNullEntries = ["case []*Stamp", "case []*Link"] := ⟨rfl, rfl, rfl, rfl⟩

/-- `cli.Verify`: the envelope is validated (null entries of its own header are
    refused there) before any signature is looked at, and the signed header is
    checked for null entries before `Contains` -/
theorem cli_verify_guards_as_modelled :
    PanicGuards.conds_cli_Verify =
      ["err != nil", "err := jsonyaml.Unmarshal(body, env); err != nil", "err := env.Validate(); err != nil",
       "key == nil", "!env.Signed()", "err := sig.VerifyPayload(key, h); err != nil",
       "err := schema.CheckNullElements(h); err != nil", "!env.Head.Contains(h)"] := rfl

/-- `calculateOrgDocumentRefs`: nil entries skipped, the document's currency
    unless the reference has its own, an unknown one is an error -/
theorem calculateOrgDocumentRefs_as_modelled :
    PanicGuards.conds_calculateOrgDocumentRefs = ["dr == nil", "dr.Currency != currency.CodeEmpty", "c.Def() == nil"] ∧
    PanicGuards.stmts_calculateOrgDocumentRefs.take 2 = ["c := cur", "c = dr.Currency"] ∧
    PanicGuards.stmts_calculateOrgDocumentRefs.getLast? = some "return nil" ∧
    PanicGuards.calls_calculateOrgDocumentRefs = ["Def", "Itoa", "Errorf", "Calculate"] := ⟨rfl, rfl, rfl, rfl⟩

end Expect

end GoblVerif.Props.C14
