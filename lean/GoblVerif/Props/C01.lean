/-
  C01 — Document totals equal exact decimal arithmetic over the inputs,
  rounded half away from zero only at the documented points.

  The statements are about `Calc.calculate exactOps` (Model/Calc.lean), which
  the correspondence run compares with the real `Invoice.Calculate` on every
  generated document.

  Proved here:
    * every rounding primitive the pipeline uses is the exact rational result
      rounded half away from zero at the stated precision (the three `*_point`
      theorems; `convert_point` for a foreign item price: one rounding of
      price × rate at the document currency's precision), and the non-rounding
      primitives are lossless;
    * accumulations (line sum, discount sum, charge sum, advances) never round;
    * under `precise` a line sum is computed with at least currency + 2
      decimals and is the exact product price × quantity rounded once;
    * every presented total has exactly the currency's decimals and is the
      half-away rounding of the working-precision value.
    * against the rational no-rounding pipeline `Spec.C01.exactQ` (Proofs/CalcError*.lean), for
      the document class `DocCI` (precise rule; lines in the document currency without
      breakdown; line and document discounts and charges that are percentages (≤ 100 %) of the
      sum or of an explicit base or fixed amounts (≤ currency + 2 decimals); tax combos with or
      without surcharge, retained categories; prices that may include one tax category
      (`prices_include`), which is not retained and has percentages ≥ 0; percentage or fixed
      advances): `calc_eq_spec_tight` — every working total, of which the presented total is the
      half-away rounding at currency precision, is within weight × half a unit of the working
      precision of `exactQ d`; the weights are built from the rounding points and the actual
      percentages; every presented total is then within half a minor unit plus `N` half working
      units of the exact value for any `N` from the largest weight up (`presented_within`,
      Proofs/CalcErrorWeights.lean: the explicit bound of a class is this at the weight of its
      amount due, `N = dueWQ` here), and `precise_error_lt_unit_tight` (weight < 100 ⇒ every
      presented total less than one minor unit from the exact value);
    * the same with every percentage bounded by 100 %, so that the weights are numbers of
      rounding points: `calc_eq_spec_included` — all ten totals, `tax_included` among them, with
      one more rounding point per row that carries the included category (the division of
      `removeIncludedTaxes`) and the rate groups of the included category; the explicit bound is
      `presented_within` at `N = dueWI`; `precise_error_lt_unit_included`;
    * for prices that do not include tax, class `DocC` ⊂ `DocCI`: `calc_eq_spec`, the explicit
      bound (`presented_within` at `N = dueW`, without `tax_included`), `precise_error_lt_unit`;
      the statements `adj_line_error`,
      `presented_sum_adj_within_one_unit`, `presented_total_adj_within_one_unit`,
      `presented_tax_within_one_unit`, `presented_payment_within_one_unit` need only the part of
      the class they use, and for plain lines and percentages of the sum the exact values have a
      closed form (`presented_sum_within_one_unit`, `presented_total_within_one_unit`);
    * the presented rows: lines, document discounts and charges, advances and due dates, and the
      rows of the tax summary (`calc_tax_category_rows_spec`: category amount and surcharge;
      `calc_tax_group_rows_spec`: group base, amount, surcharge — Proofs/CalcErrorGroups.lean).
  Not proved (exercised by the correspondence and the error-bound oracle only):
    the same bound outside `DocCI`: lines with a breakdown, foreign-currency items and
    rate × quantity charges (for these it is false: the three known findings), bases,
    fixed amounts and roundings finer than currency + 2 decimals, an included category
    with a negative percentage, the `currency` rule.  Of the presented rows the line
    sums and the line discount / charge rows are not stated.
  The classes are decidable: `inDocC` (Spec/C01.lean; sound by `inDocC_sound`) and
  `inDocI` (`inDocI_sound`), evaluated by the driver; the harness holds the
  real output of every in-class document to `decided_class_bound_tight` and the weaker
  `decided_class_bound_included`, `decided_class_bound`.
-/
import GoblVerif.Proofs.CalcErrorGroups
import GoblVerif.Proofs.CalcErrorWeights
import GoblVerif.Generated.CalcFacts
import GoblVerif.Proofs.CalcCurrency
import GoblVerif.Proofs.BillCalcSrc

namespace GoblVerif.Props.C01
open GoblVerif GoblVerif.Calc GoblVerif.Calc.Err GoblVerif.Spec GoblVerif.Spec.C01

/-! ## the rounding points -/

/-- multiplication (line sums, percentages, exchange rates, rate × quantity):
    one rounding, half away from zero, at the receiver's precision -/
theorem multiply_point (a b : Amount) :
    (exactOps.mul a b).exp = a.exp ∧ (exactOps.mul a b).value = roundTo a.exp (a.toRat * b.toRat) :=
  ⟨rfl, mulX_spec a b⟩

/-- division (removal of an included tax): one rounding at the receiver's precision -/
theorem divide_point (a b : Amount) (hb : b.value ≠ 0) :
    (exactOps.div a b).exp = a.exp ∧ (exactOps.div a b).value = roundTo a.exp (a.toRat / b.toRat) :=
  ⟨divX_exp a b, divX_spec a b⟩

/-- lowering precision (currency rule, presentation): one rounding at the target precision -/
theorem rescale_point (a : Amount) (e : ℕ) (h : e < a.exp) :
    (exactOps.rescale a e).exp = e ∧ (exactOps.rescale a e).value = roundTo e a.toRat :=
  ⟨rescaleX_exp a e, rescaleX_value a e⟩

/-- raising precision, and the precise rule's `RescaleUp`, never change the value -/
theorem raise_lossless (a : Amount) (e : ℕ) : (up a e).toRat = a.toRat ∧ a.exp ≤ (up a e).exp := by
  refine ⟨up_toRat a e, ?_⟩
  rw [up_exp]; omega

/-- currency conversion of a foreign item price (`ExchangeRate.Convert`): one rounding of the
    exact product price × rate, at the document currency's precision, whatever the precision
    the price is written at -/
theorem convert_point (r : XRate) (a : Amount) :
    (convert exactOps r a).exp = r.toSub ∧
    (convert exactOps r a).value = roundTo r.toSub (a.toRat * r.amount.toRat) := by
  unfold convert
  by_cases h : a.exp > r.toSub
  · simp only [h, if_true, exact_mul, mulX_exp]
    have hu : up (⟨a.value, r.toSub⟩ : Amount) r.toSub = ⟨a.value, r.toSub⟩ := up_self _ _ (Nat.le_refl _)
    rw [hu]
    refine ⟨rfl, ?_⟩
    rw [mulX_spec]
    congr 1
    obtain ⟨d, hd⟩ : ∃ d, a.exp = r.toSub + d := ⟨a.exp - r.toSub, by omega⟩
    have hd' : r.toSub + d - r.toSub = d := by omega
    have h1 : ((10 : ℚ) ^ r.toSub) ≠ 0 := by positivity
    have h2 : ((10 : ℚ) ^ d) ≠ 0 := by positivity
    have h3 : ((10 : ℚ) ^ r.amount.exp) ≠ 0 := by positivity
    unfold Amount.toRat pow10
    simp only [hd, hd']
    push_cast
    rw [pow_add, pow_add]
    field_simp
  · simp only [h, if_false, exact_mul, mulX_exp]
    have he : (up a r.toSub).exp = r.toSub := by rw [up_exp]; omega
    refine ⟨he, ?_⟩
    rw [mulX_spec, he, up_toRat]

example : convert exactOps ⟨"JPY", "EUR", 2, ⟨61, 4⟩⟩ ⟨1500, 0⟩ = ⟨915, 2⟩ ∧
    convert exactOps ⟨"USD", "EUR", 2, ⟨49995, 4⟩⟩ ⟨10, 4⟩ = ⟨0, 2⟩ ∧
    convert exactOps ⟨"EUR", "JPY", 0, ⟨16393, 2⟩⟩ ⟨201, 2⟩ = ⟨329, 0⟩ := by decide +kernel

/-! ## sums never round -/

/-- the discount / charge totals are exactly the sums of their rows -/
theorem sums_exact_adjustments (c : ℕ) (ds : List DocAdj) (s : Amount) (h : adjSum exactOps c ds = some s) :
    s.toRat = (ds.map (·.amount.toRat)).sum := by
  have := adjSum_toRat c ds
  rwa [h, Spec.C03.qsum, List.map_map] at this

/-- the advances total is exactly the sum of the advances -/
theorem sums_exact_advances (c : ℕ) (as : List Advance) (s : Amount) (h : advanceTotal exactOps c as = some s) :
    s.toRat = (as.map (·.amount.toRat)).sum := by
  have := advanceTotal_toRat c as
  rwa [h, Spec.C03.qsum, List.map_map] at this

/-! ## working precision under `precise` -/

/-- a plain line (item priced in the document currency, no breakdown): under
    `precise` the sum carries at least currency + 2 decimals and is the exact
    product price × quantity rounded half away from zero exactly once. -/
theorem line_sum_precise (cur : String) (c : ℕ) (rates : List XRate) (l l' : Line) (it : Item) (p : Amount)
    (hit : l.item = some it) (hcur : it.cur = "") (hp : it.price = some p) (hbd : l.breakdown = [])
    (h : calcLine exactOps cur c rates .precise l = .ok l') :
    ∃ s, l'.sum = some s ∧ c + 2 ≤ s.exp ∧ s.value = roundTo s.exp (p.toRat * l.qty.toRat) := by
  obtain ⟨_, rfl, _, hs, _⟩ := calcLine_plain cur c rates l l' it p hit hcur hp hbd h
  refine ⟨_, hs, by simp only [mulX_exp, up_exp, E]; omega, ?_⟩
  rw [mulX_spec, mulX_exp, up_toRat, up_toRat]

/-! ## presentation -/

/-- every presented total has exactly the currency's number of decimals -/
theorem presented_precision (c : ℕ) (t : Totals) :
    let r := roundTotals exactOps c t
    r.sum.exp = c ∧ r.total.exp = c ∧ r.tax.exp = c ∧ r.totalWithTax.exp = c ∧ r.payable.exp = c ∧
    (∀ x, r.discount = some x → x.exp = c) ∧ (∀ x, r.charge = some x → x.exp = c) ∧
    (∀ x, r.taxIncluded = some x → x.exp = c) ∧ (∀ x, r.advances = some x → x.exp = c) ∧
    (∀ x, r.due = some x → x.exp = c) := by
  simp only [roundTotals, exact_rescale, rescaleX_exp, true_and]
  refine ⟨?_, ?_, ?_, ?_, ?_⟩ <;>
  · intro x hx
    simp only [Option.map_eq_some_iff] at hx
    obtain ⟨y, _, rfl⟩ := hx
    exact rescaleX_exp y c

/-- a presented total is the working-precision value rounded half away from
    zero to the currency (or that very value when it is not finer) -/
theorem presented_is_rounding (c : ℕ) (a : Amount) :
    (c < a.exp → presents c (exactOps.rescale a c) a.toRat) ∧
    (a.exp ≤ c → (exactOps.rescale a c).toRat = a.toRat) :=
  ⟨fun _ => ⟨rescaleX_exp a c, rescaleX_value a c⟩, fun h => rescaleX_up_toRat a c h⟩

/-! ## error bounds under `precise` -/

/-- one rounding step is off by at most half a unit of its precision -/
theorem rounding_step_error (a b : Amount) (e : ℕ) :
    |(a.mulX b).toRat - a.toRat * b.toRat| ≤ halfUlp a.exp ∧ |(a.rescaleX e).toRat - a.toRat| ≤ halfUlp e :=
  ⟨mulX_err a b, rescaleX_rnd a e ▸ rnd_err _ _⟩

/-- a simple line (priced in the document currency, no breakdown, discounts or charges): its total
is within half a unit of the working precision (currency + 2 decimals) of price × quantity -/
theorem simple_line_error (cur : String) (c : ℕ) (rates : List XRate) (l l' : Line) (hs : SimpleLine l)
    (h : calcLine exactOps cur c rates .precise l = .ok l') :
    ∃ t, l'.total = some t ∧ |t.toRat - lineExact l| ≤ halfUlp (c + 2) := by
  obtain ⟨t, q, H⟩ := adjLine_total cur c rates l l' (simple_adj c hs) h
  obtain rfl := Option.some.inj ((simple_lineTotalQ cur rates hs).symm.trans H.exact)
  exact ⟨t, H.total, by simpa [simple_lineW hs] using H.err⟩

/-! ## error bounds against `Spec.C01.exactQ` for lines with discounts and charges

`exactQ d` is the rational pipeline with no rounding anywhere (Spec/C01.lean).  Weights count the
rounding points in half-units of the working precision (currency + 2 decimals):
`lineW l = 1 + 2·(#discounts + #charges)`, `sumW = Σ lineW`,
`totalW d = sumW·(1 + kd + kc) + kd + kc` (kd, kc document discounts / charges). -/

/-- a line of the class `AdjLine` (priced in the document currency, no breakdown; each
line discount / charge is a non-zero percentage of at most 100 % of the line sum or of an explicit
base with at most currency + 2 decimals, or a fixed amount with at most currency + 2 decimals; no
rate × quantity charges): the line total is within
`lineW l` half-units of the working precision of the exact rational line total -/
theorem adj_line_error (cur : String) (c : ℕ) (rates : List XRate) (l l' : Line) (hs : AdjLine c l)
    (h : calcLine exactOps cur c rates .precise l = .ok l') :
    ∃ t q, l'.total = some t ∧ c + 2 ≤ t.exp ∧ lineTotalQ cur rates l = some q ∧
      |t.toRat - q| ≤ (lineW l : ℚ) * halfUlp (c + 2) := by
  obtain ⟨t, q, H⟩ := adjLine_total cur c rates l l' hs h
  exact ⟨t, q, H.total, H.fine, H.exact, H.err⟩

/-- `adj_line_error` lifted to the document sum: under the precise rule, with every line of the class `AdjLine`
and `sumW d.lines < 100`, the presented sum is less than one minor unit from the exact sum -/
theorem presented_sum_adj_within_one_unit (d : Doc) (out : Out) (t : Totals) (hrule : d.rule = .precise)
    (hs : ∀ l ∈ d.lines, AdjLine d.c l) (hn : sumW d.lines < 100)
    (hcalc : calculate exactOps d = .ok out) (ht : out.totals = some t) :
    |t.sum.toRat - (exactQ d).sum| < 1 / ((pow10 d.c : ℤ) : ℚ) := by
  obtain ⟨p, tx, K⟩ := calculated hcalc ht
  rw [K.totals]
  exact Within.lt_unit (presented_le d.c p.sum _ _ (pre_sum_spec d p hrule hs K.pre_ok).2) le_rfl
    (by exact_mod_cast hn)

/-- `adj_line_error` lifted to the presented total: class `DocA` (precise rule, at least one line, lines of the
class `AdjLine`, document discounts and charges of the class `DocAdjOk`: percentages of at most
100 % of the sum or of an explicit base, or fixed amounts, bases and fixed amounts with at most
currency + 2 decimals), no included tax, `totalW d < 100`: the presented total is less than one minor unit from the exact
total -/
theorem presented_total_adj_within_one_unit (d : Doc) (out : Out) (t : Totals) (hd : DocA d)
    (hinc : d.includes = none) (hn : totalW d < 100)
    (hcalc : calculate exactOps d = .ok out) (ht : out.totals = some t) :
    |t.total.toRat - (exactQ d).total| < 1 / ((pow10 d.c : ℤ) : ℚ) := by
  obtain ⟨p, tx, K⟩ := calculated hcalc ht
  have hts : t.total = p.total2.rescaleX d.c := by
    rw [K.totals]; simp [roundTotals, rawTotals, taxIncluded, hinc]
  rw [hts, exactQ_total, exactQ_inc_none d hinc, sub_zero]
  exact Within.lt_unit (presented_le d.c p.total2 _ _ (pre_approx d p hd K.pre_ok).total2.err)
    (total2WQ_le d hd) (by exact_mod_cast hn)

/-- one line 3 × 10.005 with a 12.5 % discount and a charge of 5 % of an explicit base of 20.00,
one line 1.2 × 2.222 with a fixed charge of 1.25 (10.5 % VAT and a retained tax of 15 %); a fixed document discount of 0.50 (carrying 21 %
VAT) and a 2 % document charge -/
def adjDoc : Doc :=
  { cur := "EUR", c := 2, rule := .precise, includes := none,
    lines := [{ qty := ⟨3, 0⟩, item := some { price := some ⟨10005, 3⟩, cur := "", sub := 2, alts := [] },
                discounts := [{ percent := some ⟨⟨125, 3⟩⟩, base := none, amount := ⟨0, 0⟩, rate := none, quantity := none }],
                charges := [{ percent := some ⟨⟨5, 2⟩⟩, base := some ⟨2000, 2⟩, amount := ⟨0, 0⟩, rate := none, quantity := none }],
                breakdown := [],
                taxes := [{ cat := "VAT", country := "", key := "standard", percent := some ⟨⟨21, 2⟩⟩,
                            surcharge := none, ext := "", retained := false }] },
              { qty := ⟨12, 1⟩, item := some { price := some ⟨2222, 3⟩, cur := "", sub := 2, alts := [] },
                discounts := [],
                charges := [{ percent := none, base := none, amount := ⟨125, 2⟩, rate := none, quantity := none }],
                breakdown := [],
                taxes := [{ cat := "VAT", country := "", key := "reduced", percent := some ⟨⟨105, 3⟩⟩,
                            surcharge := none, ext := "", retained := false },
                          { cat := "IRPF", country := "", key := "pro", percent := some ⟨⟨15, 2⟩⟩,
                            surcharge := none, ext := "", retained := true }] }],
    discounts := [{ percent := none, base := none, amount := ⟨50, 2⟩,
                    taxes := [{ cat := "VAT", country := "", key := "standard", percent := some ⟨⟨21, 2⟩⟩,
                                surcharge := none, ext := "", retained := false }] }],
    charges := [{ percent := some ⟨⟨2, 2⟩⟩, base := none, amount := ⟨0, 0⟩, taxes := [] }],
    rates := [], rounding := none, hasPayment := false, advances := [], dues := [] }

/-- non-vacuity: the class holds, weights 5 + 3 = 8 and 8·3 + 2 = 26; exact line totals
27.263125 and 3.9164, exact sum 31.179525 (presented 31.18), exact total 31.179525 − 0.50 + 0.6235905 =
31.3031155 (presented 31.30) -/
example : DocA adjDoc ∧ adjDoc.includes = none ∧ sumW adjDoc.lines = 8 ∧ totalW adjDoc = 26 ∧
    ((calculate exactOps adjDoc).toOption.bind (·.totals)).map (fun t => (t.sum, t.total)) =
      some (⟨3118, 2⟩, ⟨3130, 2⟩) :=
  ⟨(inDocC_sound adjDoc (by decide)).tax.base, rfl, by decide, by decide, by decide⟩

/-! ## plain lines, percentages of the sum: the exact values in closed form -/

/-- **no presented sum is a full minor unit off** (precise rule, any number n < 100 of simple lines
of any quantities and prices): the presented document sum differs from the exact Σ price × quantity
by at most ½·10⁻ᶜ + n·½·10⁻⁽ᶜ⁺²⁾, which is less than one minor currency unit. -/
theorem presented_sum_within_one_unit (d : Doc) (out : Out) (t : Totals) (hrule : d.rule = .precise)
    (hs : ∀ l ∈ d.lines, SimpleLine l) (hn : d.lines.length < 100)
    (hcalc : calculate exactOps d = .ok out) (ht : out.totals = some t) :
    |t.sum.toRat - (d.lines.map lineExact).sum| < 1 / ((pow10 d.c : ℤ) : ℚ) := by
  rw [← simple_exact_sum d hs]
  exact presented_sum_adj_within_one_unit d out t hrule (fun l hl => simple_adj d.c (hs l hl))
    (by rw [simple_sumW _ hs]; exact hn) hcalc ht

/-- **no presented total is a full minor unit off** (precise rule; n simple lines; k document discounts
and charges given as percentages of the sum, each at most 100 %; no included tax; n·(1+k)+k < 100):
the presented `total` differs from the exact value S·(1 − Σ discount % + Σ charge %), S = Σ price ×
quantity, by less than one minor currency unit. -/
theorem presented_total_within_one_unit (d : Doc) (out : Out) (t : Totals) (hrule : d.rule = .precise)
    (hinc : d.includes = none) (hne : d.lines ≠ [])
    (hs : ∀ l ∈ d.lines, SimpleLine l) (hd : ∀ x ∈ d.discounts, PctOnly x) (hc : ∀ x ∈ d.charges, PctOnly x)
    (hn : d.lines.length * (1 + d.discounts.length + d.charges.length) + d.discounts.length + d.charges.length < 100)
    (hcalc : calculate exactOps d = .ok out) (ht : out.totals = some t) :
    |t.total.toRat - (d.lines.map lineExact).sum * (1 - (d.discounts.map pctQ).sum + (d.charges.map pctQ).sum)|
      < 1 / ((pow10 d.c : ℤ) : ℚ) := by
  have hA : DocA d := ⟨hrule, hne, fun l hl => simple_adj d.c (hs l hl), fun x hx => PctOnly.ok d.c (hd x hx),
    fun x hx => PctOnly.ok d.c (hc x hx)⟩
  have e : (exactQ d).total =
      (d.lines.map lineExact).sum * (1 - (d.discounts.map pctQ).sum + (d.charges.map pctQ).sum) := by
    rw [exactQ_total, exactQ_inc_none d hinc, exactQ_discount, exactQ_charge, docAdjQ_sum_pct _ _ hd,
      docAdjQ_sum_pct _ _ hc, simple_exact_sum d hs]
    ring
  rw [← e]
  exact presented_total_adj_within_one_unit d out t hA hinc
    (by unfold totalW; rw [simple_sumW _ hs]; exact hn) hcalc ht

/-- a two-line document meeting every hypothesis of `presented_sum_within_one_unit`; exact sum
30.015 + 2.6664 = 32.6814, presented 32.68 -/
def twoLines : Doc :=
  { cur := "EUR", c := 2, rule := .precise, includes := none,
    lines := [{ qty := ⟨3, 0⟩, item := some { price := some ⟨10005, 3⟩, cur := "", sub := 2, alts := [] },
                discounts := [], charges := [], breakdown := [],
                taxes := [{ cat := "VAT", country := "", key := "standard", percent := some ⟨⟨21, 2⟩⟩,
                            surcharge := none, ext := "", retained := false }] },
              { qty := ⟨12, 1⟩, item := some { price := some ⟨2222, 3⟩, cur := "", sub := 2, alts := [] },
                discounts := [], charges := [], breakdown := [], taxes := [] }],
    discounts := [], charges := [], rates := [], rounding := none, hasPayment := false, advances := [], dues := [] }

/-- the same two lines with a 10 % document discount and a 2 % charge: meets every hypothesis of
`presented_total_within_one_unit` (n = 2, k = 2: 2·3+2 = 8 < 100); exact total 32.6814 × 0.92 =
30.066888, presented 30.07 -/
def twoLinesAdj : Doc :=
  { twoLines with
    discounts := [{ percent := some ⟨⟨10, 2⟩⟩, base := none, amount := ⟨0, 0⟩, taxes := [] }],
    charges := [{ percent := some ⟨⟨2, 2⟩⟩, base := none, amount := ⟨0, 0⟩, taxes := [] }] }

example : (∀ x ∈ twoLinesAdj.discounts, PctOnly x) ∧ (∀ x ∈ twoLinesAdj.charges, PctOnly x) ∧
    twoLinesAdj.includes = none ∧ twoLinesAdj.lines ≠ [] ∧
    ((calculate exactOps twoLinesAdj).toOption.bind (·.totals)).map (·.total) = some ⟨3007, 2⟩ := by
  refine ⟨?_, ?_, rfl, by decide, by decide⟩
  · intro x hx
    simp only [twoLinesAdj, List.mem_singleton] at hx
    subst hx
    refine ⟨⟨⟨10, 2⟩⟩, rfl, rfl, rfl, ?_⟩
    norm_num [Amount.toRat, pow10]
  · intro x hx
    simp only [twoLinesAdj, List.mem_singleton] at hx
    subst hx
    refine ⟨⟨⟨2, 2⟩⟩, rfl, rfl, rfl, ?_⟩
    norm_num [Amount.toRat, pow10]

example : twoLines.rule = .precise ∧ (∀ l ∈ twoLines.lines, SimpleLine l) ∧ twoLines.lines.length < 100 ∧
    ((calculate exactOps twoLines).toOption.bind (·.totals)).map (·.sum) = some ⟨3268, 2⟩ := by
  refine ⟨rfl, ?_, by decide, by decide⟩
  intro l hl
  simp only [twoLines, List.mem_cons, List.mem_nil_iff, or_false] at hl
  rcases hl with rfl | rfl <;> exact ⟨_, _, rfl, rfl, rfl, rfl, rfl, rfl⟩

example : (calcLine exactOps "EUR" 2 [] .precise
    { qty := ⟨3, 0⟩, item := some { price := some ⟨10005, 3⟩, cur := "", sub := 2, alts := [] },
      discounts := [], charges := [], breakdown := [], taxes := [] }).toOption.map (·.sum) = some (some ⟨300150, 4⟩) := by
  decide

/-! ## the tax clause (precise rule, prices not including tax)

`taxW d G = G + Σ_lines lineW l·comboW l + Σ_{document discounts, charges} (1 + sumW)·comboW`:
one rounding per rate group and one more per group surcharge (`G = groupsT t`, counted on the
presented tax summary; without surcharges the number of rate groups) plus the error the row totals
carry into the tax (`comboW` = number of combos, a combo with a surcharge counting twice; every
percentage and surcharge ≤ 100 %). -/

/-- class `DocT` (class `DocA`; no included tax; every tax combo on a line or on a document
discount / charge is exempt or a percentage of magnitude ≤ 100 %, with or without a surcharge ≤ 100 %,
and whether it is retained is a function `ret` of its category alone):
with `G` rounding points in the tax summary, if `taxW d G < 100` the presented tax, and if
`totalW d + taxW d G < 100` the presented total with tax, are less than one minor unit from the exact
rational values of `Spec.C01.exactQ` -/
theorem presented_tax_within_one_unit (ret : String → Bool) (d : Doc) (out : Out) (t : Totals) (hd : DocT ret d)
    (hcalc : calculate exactOps d = .ok out) (ht : out.totals = some t) :
    (taxW d (groupsT t) < 100 → |t.tax.toRat - (exactQ d).tax| < 1 / ((pow10 d.c : ℤ) : ℚ)) ∧
    (twtW d (groupsT t) < 100 →
      |t.totalWithTax.toRat - (exactQ d).totalWithTax| < 1 / ((pow10 d.c : ℤ) : ℚ)) := by
  obtain ⟨p, tx, K⟩ := calculated hcalc ht
  have w5 := (doc_tax d p tx hd.toTI K.pre_ok K.tax_ok).1
  have w6 := (working_tax d p tx hd.toTI K.pre_ok K.tax_ok).2
  have e := weightsI_none d hd.inc (groupsOf tx.cats)
  have m1 := (taxWQ_le d hd.toTI (groupsOf tx.cats)).trans_eq (congrArg Weights.tax e)
  have m2 := (twtWQ_le d hd.toTI (groupsOf tx.cats) 0).trans_eq (congrArg Weights.totalWithTax e)
  simp only [hd.inc, incGroupsOf] at w6
  rw [K.groups.1, K.totals]
  exact ⟨fun hn => Within.lt_unit (m := taxW d _) (presented_le d.c _ _ _ w5.err) m1 (by exact_mod_cast hn),
    fun hn => Within.lt_unit (m := twtW d _) (presented_le d.c _ _ _ w6.err) m2 (by exact_mod_cast hn)⟩

/-- which categories are retained in the examples -/
def retEx : String → Bool := fun k => k == "IRPF"

/-- non-vacuity: three rate groups (VAT 21 % and 10.5 %, retained 15 %),
`taxW = 3 + (5·1 + 3·2) + (1 + 8)·1 = 23`, `twtW = 26 + 23 = 49`; exact tax
(27.263125 − 0.50) × 0.21 + 3.9164 × (0.105 − 0.15) = 5.44401825 (presented 5.44), exact total with tax
31.3031155 + 5.44401825 = 36.74713375 (presented 36.75) -/
example : DocT retEx adjDoc ∧
    ((calculate exactOps adjDoc).toOption.bind (·.totals)).map
      (fun t => (groupsT t, taxW adjDoc (groupsT t), twtW adjDoc (groupsT t), t.tax, t.totalWithTax)) =
      some (3, 23, 49, ⟨544, 2⟩, ⟨3675, 2⟩) :=
  ⟨((inDocC_sound adjDoc (by decide)).of_ret (by decide)).tax, by decide⟩

/-- one line 7 × 3.333 carrying 21 % VAT with an equivalence surcharge of 5.2 % -/
def surDoc : Doc :=
  { cur := "EUR", c := 2, rule := .precise, includes := none,
    lines := [{ qty := ⟨7, 0⟩, item := some { price := some ⟨3333, 3⟩, cur := "", sub := 2, alts := [] },
                discounts := [], charges := [], breakdown := [],
                taxes := [{ cat := "VAT", country := "", key := "standard", percent := some ⟨⟨21, 2⟩⟩,
                            surcharge := some ⟨⟨52, 3⟩⟩, ext := "", retained := false }] }],
    discounts := [], charges := [], rates := [], rounding := none, hasPayment := false, advances := [], dues := [] }

/-- non-vacuity with a surcharge: one rate group with a surcharge (two rounding points),
`taxW = 2 + 1·2 = 4`; exact tax 23.331 × (0.21 + 0.052) = 6.112722 (presented 6.11), exact total with
tax 29.443722 (presented 29.44) -/
example : DocT retEx surDoc ∧
    ((calculate exactOps surDoc).toOption.bind (·.totals)).map
      (fun t => (groupsT t, taxW surDoc (groupsT t), twtW surDoc (groupsT t), t.tax, t.totalWithTax)) =
      some (2, 4, 5, ⟨611, 2⟩, ⟨2944, 2⟩) := by
  exact ⟨((inDocC_sound surDoc (by decide)).of_ret (by decide)).tax, by decide⟩

/-! ## payable, advances, due

`twtW d G = totalW d + taxW d G` (total with tax, payable), `advW d G = #advances·(1 + twtW d G)`,
`dueW d G = twtW d G + advW d G`. -/

/-- class `DocC` (class `DocT`; an externally supplied `totals.rounding` with at most
currency + 2 decimals; every advance a percentage ≤ 100 % of the total with tax or a fixed amount with
at most currency + 2 decimals): the presented payable, advances total and amount due are less than
one minor unit from the exact rational values whenever their weight is below 100 -/
theorem presented_payment_within_one_unit (ret : String → Bool) (d : Doc) (out : Out) (t : Totals) (hd : DocC ret d)
    (hcalc : calculate exactOps d = .ok out) (ht : out.totals = some t) :
    (twtW d (groupsT t) < 100 → |t.payable.toRat - (exactQ d).payable| < 1 / ((pow10 d.c : ℤ) : ℚ)) ∧
    (advW d (groupsT t) < 100 → ∀ x, t.advances = some x →
      |x.toRat - (exactQ d).advances| < 1 / ((pow10 d.c : ℤ) : ℚ)) ∧
    (dueW d (groupsT t) < 100 → ∀ x, t.due = some x →
      |x.toRat - (exactQ d).due| < 1 / ((pow10 d.c : ℤ) : ℚ)) := by
  have H := presented_each ret d out t hd.toCI hcalc ht
  have m := weightsQ_le_N d hd t
  exact ⟨fun hn => H.payable.lt_unit (m := twtW d _) m.payable (by exact_mod_cast hn),
    fun hn x hx => (H.advances x hx).lt_unit (m := advW d _) m.advances (by exact_mod_cast hn),
    fun hn x hx => (H.due x hx).lt_unit (m := dueW d _) m.due (by exact_mod_cast hn)⟩

/-- `adjDoc` with a payment section: an advance of 30 % and an externally supplied rounding of −0.02 -/
def payDoc : Doc :=
  { adjDoc with hasPayment := true, rounding := some ⟨-2, 2⟩,
                advances := [{ percent := some ⟨⟨30, 2⟩⟩, amount := ⟨0, 0⟩ }] }

theorem payDoc_class : DocC retEx payDoc :=
  (inDocC_sound payDoc (by decide)).of_ret (by decide)

/-- non-vacuity: weights 49, 50 and 99; exact payable 36.74713375 − 0.02 = 36.72713375
(presented 36.73), exact advance 30 % × 36.74713375 = 11.024140125 (presented 11.02), exact due
25.702993625 (presented 25.70) -/
example : DocC retEx payDoc ∧
    ((calculate exactOps payDoc).toOption.bind (·.totals)).map
      (fun t => (twtW payDoc (groupsT t), advW payDoc (groupsT t), dueW payDoc (groupsT t))) = some (49, 50, 99) ∧
    ((calculate exactOps payDoc).toOption.bind (·.totals)).map (fun t => (t.payable, t.advances, t.due)) =
      some (⟨3673, 2⟩, some ⟨1102, 2⟩, some ⟨2570, 2⟩) :=
  ⟨payDoc_class, by decide, by decide⟩

/-! ## all totals of a document whose prices do not include tax -/

/-- **calc_eq_spec** — for every document of the class `DocC` (precise rule; prices not including
tax; at least one line; lines priced in the document currency without breakdown whose discounts and
charges are percentages ≤ 100 % of the line sum or of an explicit base, or fixed amounts (bases and
fixed amounts with ≤ currency + 2 decimals);
document discounts and charges percentages ≤ 100 % of the sum or of an explicit base, or fixed
amounts (bases and fixed amounts with ≤ currency + 2 decimals); ordinary tax combos; `totals.rounding`
and fixed advances with ≤ currency + 2 decimals, percentage advances ≤ 100 %):

every presented figure of `Calc.calculate exactOps d` is the half-away rounding at the currency's
precision of a working value (the fields of `w`; `w` itself is never rounded again: `t = roundTotals w`),
and the working value differs from `Spec.C01.exactQ d` by at most the number of contributing rounding
points, each worth half a unit of the working precision (currency + 2 decimals).  The rounding points
are named by the weights: price × quantity of each line and each percentage line discount / charge
(`lineW`, `sumW`), each document discount / charge (`adjW`, `totalW`), each rate group of the tax
summary (`G = groupsT t`, `taxW`), each percentage advance (`advW`); sums, differences, the precise
rule's `RescaleUp`, fixed amounts and the externally supplied rounding contribute nothing. -/
theorem calc_eq_spec (ret : String → Bool) (d : Doc) (out : Out) (t : Totals) (hd : DocC ret d)
    (hcalc : calculate exactOps d = .ok out) (ht : out.totals = some t) :
    ∃ w : Totals, t = roundTotals exactOps d.c w ∧
      -- presentation: one rounding, half away from zero, at the currency's precision
      (presents d.c t.sum w.sum.toRat ∧ presents d.c t.total w.total.toRat ∧
       presents d.c t.tax w.tax.toRat ∧ presents d.c t.totalWithTax w.totalWithTax.toRat ∧
       presents d.c t.payable w.payable.toRat ∧ t.taxIncluded = none ∧
       (∀ x, t.discount = some x → ∃ y, w.discount = some y ∧ presents d.c x y.toRat) ∧
       (∀ x, t.charge = some x → ∃ y, w.charge = some y ∧ presents d.c x y.toRat) ∧
       (∀ x, t.advances = some x → ∃ y, w.advances = some y ∧ presents d.c x y.toRat) ∧
       (∀ x, t.due = some x → ∃ y, w.due = some y ∧ presents d.c x y.toRat)) ∧
      -- distance of the working values from the exact rational pipeline
      (|w.sum.toRat - (exactQ d).sum| ≤ (sumW d.lines : ℚ) * halfUlp (d.c + 2) ∧
       |optQ w.discount - (exactQ d).discount| ≤ (adjW (sumW d.lines) d.discounts.length : ℚ) * halfUlp (d.c + 2) ∧
       |optQ w.charge - (exactQ d).charge| ≤ (adjW (sumW d.lines) d.charges.length : ℚ) * halfUlp (d.c + 2) ∧
       |w.total.toRat - (exactQ d).total| ≤ (totalW d : ℚ) * halfUlp (d.c + 2) ∧
       |w.tax.toRat - (exactQ d).tax| ≤ (taxW d (groupsT t) : ℚ) * halfUlp (d.c + 2) ∧
       |w.totalWithTax.toRat - (exactQ d).totalWithTax| ≤ (twtW d (groupsT t) : ℚ) * halfUlp (d.c + 2) ∧
       |w.payable.toRat - (exactQ d).payable| ≤ (twtW d (groupsT t) : ℚ) * halfUlp (d.c + 2) ∧
       |optQ w.advances - (exactQ d).advances| ≤ (advW d (groupsT t) : ℚ) * halfUlp (d.c + 2) ∧
       (∀ y, w.due = some y → |y.toRat - (exactQ d).due| ≤ (dueW d (groupsT t) : ℚ) * halfUlp (d.c + 2))) := by
  obtain ⟨p, tx, K⟩ := calculated hcalc ht
  have w := (K.working hd.toCI).mono (weightsQ_le_N d hd t)
  have hti : (rawTotals exactOps d p tx).taxIncluded = none := by simp [rawTotals, taxIncluded, hd.tax.inc]
  obtain ⟨p1, p2, p3, p4, p5, _, p7, p8, p9, p10⟩ := presents_roundTotals d.c (rawTotals exactOps d p tx)
  refine ⟨rawTotals exactOps d p tx, K.totals, ?_, w.sum, w.discount, w.charge, w.total, w.tax, w.totalWithTax,
    w.payable, w.advances, w.due⟩
  rw [K.totals]
  exact ⟨p1, p2, p3, p4, p5, by simp [roundTotals, hti], p7, p8, p9, p10⟩

/-- **precise_error_lt_unit** — for a document of the class `DocC` whose largest weight
`dueW d G` (G rate groups) is below 100, every presented total is less than one minor currency unit
from the exact rational value -/
theorem precise_error_lt_unit (ret : String → Bool) (d : Doc) (out : Out) (t : Totals) (hd : DocC ret d)
    (hn : dueW d (groupsT t) < 100)
    (hcalc : calculate exactOps d = .ok out) (ht : out.totals = some t) :
    |t.sum.toRat - (exactQ d).sum| < 1 / ((pow10 d.c : ℤ) : ℚ) ∧
    |t.total.toRat - (exactQ d).total| < 1 / ((pow10 d.c : ℤ) : ℚ) ∧
    |t.tax.toRat - (exactQ d).tax| < 1 / ((pow10 d.c : ℤ) : ℚ) ∧
    |t.totalWithTax.toRat - (exactQ d).totalWithTax| < 1 / ((pow10 d.c : ℤ) : ℚ) ∧
    |t.payable.toRat - (exactQ d).payable| < 1 / ((pow10 d.c : ℤ) : ℚ) ∧
    (∀ x, t.discount = some x → |x.toRat - (exactQ d).discount| < 1 / ((pow10 d.c : ℤ) : ℚ)) ∧
    (∀ x, t.charge = some x → |x.toRat - (exactQ d).charge| < 1 / ((pow10 d.c : ℤ) : ℚ)) ∧
    (∀ x, t.advances = some x → |x.toRat - (exactQ d).advances| < 1 / ((pow10 d.c : ℤ) : ℚ)) ∧
    (∀ x, t.due = some x → |x.toRat - (exactQ d).due| < 1 / ((pow10 d.c : ℤ) : ℚ)) :=
  (presented_lt_unit ret d out t hd.toCI hcalc ht (dueW d _) (weightsQ_le_N d hd t).due
    (by exact_mod_cast hn)).andWithoutTaxIncluded

/-- non-vacuity of `calc_eq_spec` / `precise_error_lt_unit`: `payDoc` is of the class and its largest
weight is 99 < 100; the presented figures against the exact values 31.179525, 0.50, 0.6235905,
31.3031155, 5.44401825, 36.74713375, 36.72713375, 11.024140125, 25.702993625 -/
example : DocC retEx payDoc ∧
    ((calculate exactOps payDoc).toOption.bind (·.totals)).map (fun t => dueW payDoc (groupsT t)) = some 99 ∧
    ((calculate exactOps payDoc).toOption.bind (·.totals)).map (fun t => (t.sum, t.discount, t.charge, t.total)) =
      some (⟨3118, 2⟩, some ⟨50, 2⟩, some ⟨62, 2⟩, ⟨3130, 2⟩) ∧
    ((calculate exactOps payDoc).toOption.bind (·.totals)).map (fun t => (t.tax, t.totalWithTax, t.payable)) =
      some (⟨544, 2⟩, ⟨3675, 2⟩, ⟨3673, 2⟩) ∧
    ((calculate exactOps payDoc).toOption.bind (·.totals)).map (fun t => (t.advances, t.due)) =
      some (some ⟨1102, 2⟩, some ⟨2570, 2⟩) :=
  ⟨payDoc_class, by decide, by decide, by decide, by decide⟩

/-- the same with hypotheses the model driver evaluates (Spec/C01.lean: `inDocC`, `docWeight`): this is
the statement the check also tests on the real library's output for every generated document that
falls in the class (`harness/props/c01`, counters `error-bound:in-proved-class…`) -/
theorem decided_class_bound (d : Doc) (out : Out) (t : Totals) (hcls : inDocC d = true)
    (hcalc : calculate exactOps d = .ok out) (ht : out.totals = some t) :
    |t.sum.toRat - (exactQ d).sum| ≤ halfUlp d.c + (docWeight d : ℚ) * halfUlp (d.c + 2) ∧
    |t.total.toRat - (exactQ d).total| ≤ halfUlp d.c + (docWeight d : ℚ) * halfUlp (d.c + 2) ∧
    |t.tax.toRat - (exactQ d).tax| ≤ halfUlp d.c + (docWeight d : ℚ) * halfUlp (d.c + 2) ∧
    |t.totalWithTax.toRat - (exactQ d).totalWithTax| ≤ halfUlp d.c + (docWeight d : ℚ) * halfUlp (d.c + 2) ∧
    |t.payable.toRat - (exactQ d).payable| ≤ halfUlp d.c + (docWeight d : ℚ) * halfUlp (d.c + 2) ∧
    (∀ x, t.discount = some x →
      |x.toRat - (exactQ d).discount| ≤ halfUlp d.c + (docWeight d : ℚ) * halfUlp (d.c + 2)) ∧
    (∀ x, t.charge = some x →
      |x.toRat - (exactQ d).charge| ≤ halfUlp d.c + (docWeight d : ℚ) * halfUlp (d.c + 2)) ∧
    (∀ x, t.advances = some x →
      |x.toRat - (exactQ d).advances| ≤ halfUlp d.c + (docWeight d : ℚ) * halfUlp (d.c + 2)) ∧
    (∀ x, t.due = some x →
      |x.toRat - (exactQ d).due| ≤ halfUlp d.c + (docWeight d : ℚ) * halfUlp (d.c + 2)) := by
  rw [show docWeight d = dueW d (groupsT t) by unfold docWeight; rw [hcalc]; simp only [ht]]
  have hd := inDocC_sound d hcls
  exact (presented_within (retOf d) d out t hd.toCI hcalc ht _ (weightsQ_le_N d hd t).due).andWithoutTaxIncluded

/-- non-vacuity: the examples are in the decided class, with the weights computed above -/
example : inDocC adjDoc = true ∧ inDocC payDoc = true ∧ inDocC surDoc = true ∧
    docWeight adjDoc = 49 ∧ docWeight payDoc = 99 ∧ docWeight surDoc = 5 := by decide

/-! ## all totals of a document whose prices may include a tax category, with the actual percentages

The class `DocCI`: the class `DocC` of `calc_eq_spec` above, except that `d.includes` may name a tax
category, which must not be retained (the calculation fails otherwise: `CalcErr.retainedIncluded`, no
`out`) and whose percentages must not be negative.  `removeIncludedTaxes` divides the prepared total
(currency + 2 decimals at least) of every row that carries a combo of the included category with a
percentage by 1 + that percentage: one more rounding point for that row (`incB`), and a contraction of
the error it already carried (percentage ≥ 0).  `tax_included` is the unrounded amount of the included
category: its rounding points are the rate groups of that category (`Gk = incGroupsT d.includes t`) and
it carries the rows' errors once per combo of the category on the row; it is subtracted from `total`.

Weights (`Spec/C01.lean`, rational, in half-units of the working precision): a line weighs `lineW`; a
document discount / charge that is `p` % of the sum `1 + |p|·sumW`, one that is a percentage of an
explicit base 1, a fixed amount 0 (`adjRowWQ`); a tax combo carries `|percentage| + |surcharge
percentage|` of its row's error (`comboWQ`), the included category `Σ |percentage|` (`kNQ`); the tax
summary adds one rounding point per rate group and per group surcharge (`G = groupsT t`); an advance of
`p` % weighs `1 + |p|·twtWQ`, a fixed advance 0 (`advRowWQ`). -/

/-- prices including VAT: 3 × 12.10 gross at 21 % with a 12.5 % line discount, 1.2 × 2.222 gross at
10.5 % (and a retained 15 %), an exempt line 2 × 0.335, a fixed document discount of 0.50 gross at
21 %; an advance of 30 % -/
def incDoc : Doc :=
  { cur := "EUR", c := 2, rule := .precise, includes := some "VAT",
    lines := [{ qty := ⟨3, 0⟩, item := some { price := some ⟨1210, 2⟩, cur := "", sub := 2, alts := [] },
                discounts := [{ percent := some ⟨⟨125, 3⟩⟩, base := none, amount := ⟨0, 0⟩, rate := none, quantity := none }],
                charges := [], breakdown := [],
                taxes := [{ cat := "VAT", country := "", key := "standard", percent := some ⟨⟨21, 2⟩⟩,
                            surcharge := none, ext := "", retained := false }] },
              { qty := ⟨12, 1⟩, item := some { price := some ⟨2222, 3⟩, cur := "", sub := 2, alts := [] },
                discounts := [], charges := [], breakdown := [],
                taxes := [{ cat := "VAT", country := "", key := "reduced", percent := some ⟨⟨105, 3⟩⟩,
                            surcharge := none, ext := "", retained := false },
                          { cat := "IRPF", country := "", key := "pro", percent := some ⟨⟨15, 2⟩⟩,
                            surcharge := none, ext := "", retained := true }] },
              { qty := ⟨2, 0⟩, item := some { price := some ⟨335, 3⟩, cur := "", sub := 2, alts := [] },
                discounts := [], charges := [], breakdown := [],
                taxes := [{ cat := "VAT", country := "", key := "exempt", percent := none,
                            surcharge := none, ext := "", retained := false }] }],
    discounts := [{ percent := none, base := none, amount := ⟨50, 2⟩,
                    taxes := [{ cat := "VAT", country := "", key := "standard", percent := some ⟨⟨21, 2⟩⟩,
                                surcharge := none, ext := "", retained := false }] }],
    charges := [], rates := [], rounding := none, hasPayment := true,
    advances := [{ percent := some ⟨⟨30, 2⟩⟩, amount := ⟨0, 0⟩ }], dues := [] }

/-- **calc_eq_spec_tight** — class `DocCI`: the presented totals are the roundings (`t = roundTotals w`)
of working totals `w`, each within its weight × half a unit of the working precision (currency + 2
decimals) of `Spec.C01.exactQ d` (whose row totals have the included tax taken out by an exact
division) -/
theorem calc_eq_spec_tight (ret : String → Bool) (d : Doc) (out : Out) (t : Totals) (hd : DocCI ret d)
    (hcalc : calculate exactOps d = .ok out) (ht : out.totals = some t) :
    ∃ w : Totals, t = roundTotals exactOps d.c w ∧
      (|w.sum.toRat - (exactQ d).sum| ≤ (sumW d.lines : ℚ) * halfUlp (d.c + 2) ∧
       |optQ w.discount - (exactQ d).discount| ≤ adjWQ (sumW d.lines) d.discounts * halfUlp (d.c + 2) ∧
       |optQ w.charge - (exactQ d).charge| ≤ adjWQ (sumW d.lines) d.charges * halfUlp (d.c + 2) ∧
       |optQ w.taxIncluded - (exactQ d).taxIncluded| ≤ incWQ d (incGroupsT d.includes t) * halfUlp (d.c + 2) ∧
       |w.total.toRat - (exactQ d).total| ≤ totalWQ d (incGroupsT d.includes t) * halfUlp (d.c + 2) ∧
       |w.tax.toRat - (exactQ d).tax| ≤ taxWQ d (groupsT t) * halfUlp (d.c + 2) ∧
       |w.totalWithTax.toRat - (exactQ d).totalWithTax| ≤
         twtWQ d (groupsT t) (incGroupsT d.includes t) * halfUlp (d.c + 2) ∧
       |w.payable.toRat - (exactQ d).payable| ≤
         twtWQ d (groupsT t) (incGroupsT d.includes t) * halfUlp (d.c + 2) ∧
       |optQ w.advances - (exactQ d).advances| ≤
         advWQ d (groupsT t) (incGroupsT d.includes t) * halfUlp (d.c + 2) ∧
       (∀ y, w.due = some y → |y.toRat - (exactQ d).due| ≤
         dueWQ d (groupsT t) (incGroupsT d.includes t) * halfUlp (d.c + 2))) := by
  obtain ⟨w, e, h⟩ := calc_working ret d out t hd hcalc ht
  exact ⟨w, e, h.sum, h.discount, h.charge, h.taxIncluded, h.total, h.tax, h.totalWithTax, h.payable, h.advances, h.due⟩

/-- the same with the hypotheses the model driver evaluates (`inDocI`, `docWeightQ`): the bound the
check holds the real library's output to, for every generated document of the class -/
theorem decided_class_bound_tight (d : Doc) (out : Out) (t : Totals) (hcls : inDocI d = true)
    (hcalc : calculate exactOps d = .ok out) (ht : out.totals = some t) :
    let B := halfUlp d.c + docWeightQ d * halfUlp (d.c + 2)
    |t.sum.toRat - (exactQ d).sum| ≤ B ∧ |t.total.toRat - (exactQ d).total| ≤ B ∧
    |t.tax.toRat - (exactQ d).tax| ≤ B ∧ |t.totalWithTax.toRat - (exactQ d).totalWithTax| ≤ B ∧
    |t.payable.toRat - (exactQ d).payable| ≤ B ∧
    (∀ x, t.taxIncluded = some x → |x.toRat - (exactQ d).taxIncluded| ≤ B) ∧
    (∀ x, t.discount = some x → |x.toRat - (exactQ d).discount| ≤ B) ∧
    (∀ x, t.charge = some x → |x.toRat - (exactQ d).charge| ≤ B) ∧
    (∀ x, t.advances = some x → |x.toRat - (exactQ d).advances| ≤ B) ∧
    (∀ x, t.due = some x → |x.toRat - (exactQ d).due| ≤ B) := by
  rw [show docWeightQ d = dueWQ d (groupsT t) (incGroupsT d.includes t) by unfold docWeightQ; rw [hcalc]; simp only [ht]]
  exact (presented_within (retOf d) d out t (inDocI_sound d hcls) hcalc ht _ le_rfl).and

/-- **precise_error_lt_unit_tight** — class `DocCI`, tight weight of the amount due below 100:
every presented total is less than one minor currency unit from the exact rational value -/
theorem precise_error_lt_unit_tight (ret : String → Bool) (d : Doc) (out : Out) (t : Totals) (hd : DocCI ret d)
    (hn : dueWQ d (groupsT t) (incGroupsT d.includes t) < 100)
    (hcalc : calculate exactOps d = .ok out) (ht : out.totals = some t) :
    let U := 1 / ((pow10 d.c : ℤ) : ℚ)
    |t.sum.toRat - (exactQ d).sum| < U ∧ |t.total.toRat - (exactQ d).total| < U ∧
    |t.tax.toRat - (exactQ d).tax| < U ∧ |t.totalWithTax.toRat - (exactQ d).totalWithTax| < U ∧
    |t.payable.toRat - (exactQ d).payable| < U ∧
    (∀ x, t.taxIncluded = some x → |x.toRat - (exactQ d).taxIncluded| < U) ∧
    (∀ x, t.discount = some x → |x.toRat - (exactQ d).discount| < U) ∧
    (∀ x, t.charge = some x → |x.toRat - (exactQ d).charge| < U) ∧
    (∀ x, t.advances = some x → |x.toRat - (exactQ d).advances| < U) ∧
    (∀ x, t.due = some x → |x.toRat - (exactQ d).due| < U) :=
  (presented_lt_unit ret d out t hd hcalc ht _ le_rfl hn).and

/-- non-vacuity, and what the actual percentages gain over their bound of 100 % (the integer weights
of the next section): `incDoc` 20.266 instead of 97 (tax 5.56 instead of 20, included tax 4.26 instead
of 17), `payDoc` 19.1675 instead of 99, `adjDoc` 13.975 instead of 49, `surDoc` 3.262 instead of 5 -/
example : inDocI incDoc = true ∧ inDocI payDoc = true ∧ inDocI adjDoc = true ∧ inDocI surDoc = true ∧
    docWeightQ incDoc = 10133 / 500 ∧ docWeightI incDoc = 97 ∧ docWeightQ payDoc = 7667 / 400 ∧
    docWeight payDoc = 99 ∧ docWeightQ adjDoc = 559 / 40 ∧ docWeightQ surDoc = 1631 / 500 ∧
    ((calculate exactOps incDoc).toOption.bind (·.totals)).map
      (fun t => (taxWQ incDoc (groupsT t), incWQ incDoc (incGroupsT incDoc.includes t))) =
      some (139 / 25, 213 / 50) := by
  refine ⟨by decide, by decide, by decide, by decide, by decide +kernel, by decide, by decide +kernel, by decide,
    by decide +kernel, by decide +kernel, by decide +kernel⟩

/-! ## every percentage bounded by 100 %: the weights as numbers of rounding points

Weights (`Spec/C01.lean`): `rowsWL L inc d = Σ_lines (lineW l + incB)·L l.taxes + Σ_{document
discounts, charges} (1 + sumW + incB)·L x.taxes`; `taxWI d G = G + rowsWL comboW` (`comboW`: the
number of combos, a combo with a surcharge counting twice), `incWI d Gk = Gk + rowsWL kN` (`kN`: the
number of combos of the included category), `totalWI = totalW + incWI`, `twtWI = totalWI + taxWI`,
`advWI = #advances·(1 + twtWI)`, `dueWI = twtWI + advWI`.  Without an included category `incB = kN = 0`
and these are the weights of `calc_eq_spec`. -/

/-- **calc_eq_spec_included** — class `DocCI`: every presented total, `tax_included` among them, is
the half-away rounding at currency precision of a working value within (number of contributing
rounding points) × half a unit of the working precision of `Spec.C01.exactQ d` -/
theorem calc_eq_spec_included (ret : String → Bool) (d : Doc) (out : Out) (t : Totals) (hd : DocCI ret d)
    (hcalc : calculate exactOps d = .ok out) (ht : out.totals = some t) :
    ∃ w : Totals, t = roundTotals exactOps d.c w ∧
      (presents d.c t.sum w.sum.toRat ∧ presents d.c t.total w.total.toRat ∧
       presents d.c t.tax w.tax.toRat ∧ presents d.c t.totalWithTax w.totalWithTax.toRat ∧
       presents d.c t.payable w.payable.toRat ∧
       (∀ x, t.taxIncluded = some x → ∃ y, w.taxIncluded = some y ∧ presents d.c x y.toRat) ∧
       (∀ x, t.discount = some x → ∃ y, w.discount = some y ∧ presents d.c x y.toRat) ∧
       (∀ x, t.charge = some x → ∃ y, w.charge = some y ∧ presents d.c x y.toRat) ∧
       (∀ x, t.advances = some x → ∃ y, w.advances = some y ∧ presents d.c x y.toRat) ∧
       (∀ x, t.due = some x → ∃ y, w.due = some y ∧ presents d.c x y.toRat)) ∧
      (|w.sum.toRat - (exactQ d).sum| ≤ (sumW d.lines : ℚ) * halfUlp (d.c + 2) ∧
       |optQ w.discount - (exactQ d).discount| ≤ (adjW (sumW d.lines) d.discounts.length : ℚ) * halfUlp (d.c + 2) ∧
       |optQ w.charge - (exactQ d).charge| ≤ (adjW (sumW d.lines) d.charges.length : ℚ) * halfUlp (d.c + 2) ∧
       |optQ w.taxIncluded - (exactQ d).taxIncluded| ≤
         (incWI d (incGroupsT d.includes t) : ℚ) * halfUlp (d.c + 2) ∧
       |w.total.toRat - (exactQ d).total| ≤ (totalWI d (incGroupsT d.includes t) : ℚ) * halfUlp (d.c + 2) ∧
       |w.tax.toRat - (exactQ d).tax| ≤ (taxWI d (groupsT t) : ℚ) * halfUlp (d.c + 2) ∧
       |w.totalWithTax.toRat - (exactQ d).totalWithTax| ≤
         (twtWI d (groupsT t) (incGroupsT d.includes t) : ℚ) * halfUlp (d.c + 2) ∧
       |w.payable.toRat - (exactQ d).payable| ≤
         (twtWI d (groupsT t) (incGroupsT d.includes t) : ℚ) * halfUlp (d.c + 2) ∧
       |optQ w.advances - (exactQ d).advances| ≤
         (advWI d (groupsT t) (incGroupsT d.includes t) : ℚ) * halfUlp (d.c + 2) ∧
       (∀ y, w.due = some y → |y.toRat - (exactQ d).due| ≤
         (dueWI d (groupsT t) (incGroupsT d.includes t) : ℚ) * halfUlp (d.c + 2))) := by
  obtain ⟨w, e, h⟩ := calc_working ret d out t hd hcalc ht
  have h := h.mono (weightsQ_le_I d hd _ _)
  exact ⟨w, e, e ▸ presents_roundTotals d.c w, h.sum, h.discount, h.charge, h.taxIncluded, h.total, h.tax,
    h.totalWithTax, h.payable, h.advances, h.due⟩

/-- the same with the hypotheses the model driver evaluates (Spec/C01.lean: `inDocI`, `docWeightI`);
the check holds the real library's output of every generated document of this class to it (counter
`error-bound:in-proved-class-included`) -/
theorem decided_class_bound_included (d : Doc) (out : Out) (t : Totals) (hcls : inDocI d = true)
    (hcalc : calculate exactOps d = .ok out) (ht : out.totals = some t) :
    let B := halfUlp d.c + (docWeightI d : ℚ) * halfUlp (d.c + 2)
    |t.sum.toRat - (exactQ d).sum| ≤ B ∧ |t.total.toRat - (exactQ d).total| ≤ B ∧
    |t.tax.toRat - (exactQ d).tax| ≤ B ∧ |t.totalWithTax.toRat - (exactQ d).totalWithTax| ≤ B ∧
    |t.payable.toRat - (exactQ d).payable| ≤ B ∧
    (∀ x, t.taxIncluded = some x → |x.toRat - (exactQ d).taxIncluded| ≤ B) ∧
    (∀ x, t.discount = some x → |x.toRat - (exactQ d).discount| ≤ B) ∧
    (∀ x, t.charge = some x → |x.toRat - (exactQ d).charge| ≤ B) ∧
    (∀ x, t.advances = some x → |x.toRat - (exactQ d).advances| ≤ B) ∧
    (∀ x, t.due = some x → |x.toRat - (exactQ d).due| ≤ B) := by
  rw [show docWeightI d = dueWI d (groupsT t) (incGroupsT d.includes t) by unfold docWeightI; rw [hcalc]; simp only [ht]]
  have hd := inDocI_sound d hcls
  exact (presented_within (retOf d) d out t hd hcalc ht _ (weightsQ_le_I d hd _ _).due).and

/-- **precise_error_lt_unit_included** — class `DocCI`, largest weight below 100: every presented
total, `tax_included` too, is less than one minor currency unit from the exact rational value -/
theorem precise_error_lt_unit_included (ret : String → Bool) (d : Doc) (out : Out) (t : Totals) (hd : DocCI ret d)
    (hn : dueWI d (groupsT t) (incGroupsT d.includes t) < 100)
    (hcalc : calculate exactOps d = .ok out) (ht : out.totals = some t) :
    let U := 1 / ((pow10 d.c : ℤ) : ℚ)
    |t.sum.toRat - (exactQ d).sum| < U ∧ |t.total.toRat - (exactQ d).total| < U ∧
    |t.tax.toRat - (exactQ d).tax| < U ∧ |t.totalWithTax.toRat - (exactQ d).totalWithTax| < U ∧
    |t.payable.toRat - (exactQ d).payable| < U ∧
    (∀ x, t.taxIncluded = some x → |x.toRat - (exactQ d).taxIncluded| < U) ∧
    (∀ x, t.discount = some x → |x.toRat - (exactQ d).discount| < U) ∧
    (∀ x, t.charge = some x → |x.toRat - (exactQ d).charge| < U) ∧
    (∀ x, t.advances = some x → |x.toRat - (exactQ d).advances| < U) ∧
    (∀ x, t.due = some x → |x.toRat - (exactQ d).due| < U) :=
  (presented_lt_unit ret d out t hd hcalc ht (dueWI d _ _) (weightsQ_le_I d hd _ _).due (by exact_mod_cast hn)).and

/-- non-vacuity of the included-tax theorems: `incDoc` is in the decided class (so `DocCI (retOf incDoc)
incDoc` holds by `inDocI_sound`), two VAT groups with a percentage and one exempt (`G = 4` with the
retained group, `Gk = 3`), largest weight 97 < 100 (`taxWI` = 4 + 16 = 20, `incWI` = 3 + 14 = 17,
`totalW` = 11).  Exact values: sum 31.7625 + 2.6664 + 0.67 =
35.0989 (presented 35.10), discount 0.50, included VAT (31.7625 − 0.50)·0.21/1.21 + 2.6664·0.105/1.105 =
5.67912… (presented 5.68), total 28.91978… (28.92), tax 5.67912… − 2.6664/1.105·0.15 = 5.31717… (5.32),
total with tax 34.23695… (34.24), advance 10.27108… (10.27), due 23.96586… (23.97) -/
example : inDocI incDoc = true ∧ inDocC incDoc = false ∧
    ((calculate exactOps incDoc).toOption.bind (·.totals)).map
      (fun t => (groupsT t, incGroupsT incDoc.includes t, dueWI incDoc (groupsT t) (incGroupsT incDoc.includes t))) =
      some (4, 3, 97) ∧
    ((calculate exactOps incDoc).toOption.bind (·.totals)).map (fun t => (t.sum, t.discount, t.taxIncluded, t.total)) =
      some (⟨3510, 2⟩, some ⟨50, 2⟩, some ⟨568, 2⟩, ⟨2892, 2⟩) ∧
    ((calculate exactOps incDoc).toOption.bind (·.totals)).map (fun t => (t.tax, t.totalWithTax, t.advances, t.due)) =
      some (⟨532, 2⟩, ⟨3424, 2⟩, some ⟨1027, 2⟩, some ⟨2397, 2⟩) := by
  refine ⟨by decide, by decide, by decide, by decide, by decide⟩

/-! ## the presented rows -/

/-- every line of a document of the class `DocA` is shown (`Shows`: unchanged, or rounded half away
from zero once, to the decimals of the item price) from a working line total that carries at least
currency + 2 decimals and is within `lineW l` half-units of the working precision of the exact
rational line total -/
theorem calc_lines_spec (d : Doc) (out : Out) (hd : DocA d) (hcalc : calculate exactOps d = .ok out) :
    List.Forall₂ (fun l lo => ∃ w q a, lo.total = some a ∧ Shows a w ∧ d.c + 2 ≤ w.exp ∧
        lineTotalQ d.cur d.rates l = some q ∧ |w.toRat - q| ≤ (lineW l : ℚ) * halfUlp (d.c + 2))
      d.lines out.lines := by
  obtain ⟨p, hpre, ⟨_, rfl⟩ | ⟨_, tx, _, rfl⟩⟩ := calculate_ok hcalc
  · refine (pre_approx d p hd hpre).rel.imp ?_
    intro l l' ⟨t, q, H⟩
    exact ⟨t, q, t, H.total, Or.inl rfl, H.fine, H.exact, H.err⟩
  · simp only [finish]
    rw [List.forall₂_map_right_iff]
    refine (pre_approx d p hd hpre).rel.imp ?_
    intro l l' ⟨t, q, H⟩
    obtain ⟨a, ha, hs⟩ := roundLine_total l' t H.total
    exact ⟨t, q, a, ha, hs, H.fine, H.exact, H.err⟩

/-- the advance rows and the due-date rows (`DueOk`: a non-zero percentage ≤ 100 % of the payable
amount, or a fixed amount) of a document of the class `DocC` with a payment section: each amount is
the half-away rounding at currency precision of a working value (for a percentage: the product at the
working precision, the second rounding point of that row) within `1 + twtW` half-units of the exact
percentage of the exact total with tax / payable amount -/
theorem calc_payment_rows_spec (ret : String → Bool) (d : Doc) (out : Out) (t : Totals) (hd : DocC ret d)
    (hp : d.hasPayment = true) (hdues : ∀ x ∈ d.dues, DueOk x)
    (hcalc : calculate exactOps d = .ok out) (ht : out.totals = some t) :
    List.Forall₂ (fun a ao => ∃ w : Amount, presents d.c ao.amount w.toRat ∧
        |w.toRat - advQ (exactQ d).totalWithTax a| ≤ (1 + (twtW d (groupsT t) : ℚ)) * halfUlp (d.c + 2))
      d.advances out.advances ∧
    List.Forall₂ (fun x xo => ∃ w : Amount, presents d.c xo.amount w.toRat ∧
        |w.toRat - dueQ (exactQ d).payable x| ≤ (1 + (twtW d (groupsT t) : ℚ)) * halfUlp (d.c + 2))
      d.dues out.dues := by
  obtain ⟨h1, h2⟩ := payment_rows_shown d out t hd.toCI hp hdues hcalc ht
  have m : 1 + twtWQ d (groupsT t) (incGroupsT d.includes t) ≤ 1 + (twtW d (groupsT t) : ℚ) :=
    add_le_add le_rfl (weightsQ_le_N d hd t).totalWithTax
  have h0 := halfUlp_nonneg (d.c + 2)
  exact ⟨h1.imp (fun _ _ ⟨w, hw, he⟩ => ⟨w, hw, le_weight he m h0⟩),
    h2.imp (fun _ _ ⟨w, hw, he⟩ => ⟨w, hw, le_weight he m h0⟩)⟩

/-- the document discount and charge rows of a document of the class `DocA`: each shown amount
`Shows` (unchanged or rounded once, `Discount.round` / `Charge.round`) a working amount within
`1 + sumW` half-units of the working precision of its exact value on the exact sum -/
theorem calc_adj_rows_spec (d : Doc) (out : Out) (t : Totals) (hd : DocA d)
    (hcalc : calculate exactOps d = .ok out) (ht : out.totals = some t) :
    List.Forall₂ (fun x xo => ∃ w : Amount, Shows xo.amount w ∧
        |w.toRat - docAdjQ (exactQ d).sum x| ≤ (1 + (sumW d.lines : ℚ)) * halfUlp (d.c + 2))
      d.discounts out.discounts ∧
    List.Forall₂ (fun x xo => ∃ w : Amount, Shows xo.amount w ∧
        |w.toRat - docAdjQ (exactQ d).sum x| ≤ (1 + (sumW d.lines : ℚ)) * halfUlp (d.c + 2))
      d.charges out.charges := by
  obtain ⟨p, tx, K⟩ := calculated hcalc ht
  have hp := pre_approx d p hd K.pre_ok
  have hrow : ∀ xs : List DocAdj, (∀ x ∈ xs, DocAdjOk d.c x) →
      List.Forall₂ (fun x xo => ∃ w : Amount, Shows xo.amount w ∧
          |w.toRat - docAdjQ (exactQ d).sum x| ≤ (1 + (sumW d.lines : ℚ)) * halfUlp (d.c + 2))
        xs ((xs.map (docAdj exactOps .precise d.c p.sum)).map (roundDocAdj exactOps d.c)) := fun xs hxs => by
    rw [List.forall₂_map_right_iff, List.forall₂_map_right_iff]
    exact List.forall₂_same.mpr fun x hx => ⟨_, roundDocAdj_shows d.c _,
      ((docAdj_approx x (hxs x hx) hp.sum.approx hp.sum_exp).mono (adjRowWQ_le (hxs x hx) _)).err⟩
  rw [K.out]
  simp only [finish, hp.discounts_eq, hp.charges_eq]
  exact ⟨hrow _ hd.discounts, hrow _ hd.charges⟩

/-- `payDoc` with two due dates: 40 % of the payable amount and a fixed 10.00 -/
def dueDoc : Doc :=
  { payDoc with dues := [{ percent := some ⟨⟨40, 2⟩⟩, amount := ⟨0, 0⟩ }, { percent := none, amount := ⟨1000, 2⟩ }] }

/-- non-vacuity: the classes hold; line totals 27.263125 and 3.9164 shown with the three decimals
of the prices, the advance 11.024140125 as 11.02, the due dates 40 % × 36.72713375 = 14.6908535 as
14.69 and 10.00 -/
example : DocC retEx dueDoc ∧ dueDoc.hasPayment = true ∧ (∀ x ∈ dueDoc.dues, DueOk x) ∧
    (calculate exactOps dueDoc).toOption.map (fun o => o.lines.map (·.total)) =
      some [some ⟨27263, 3⟩, some ⟨3916, 3⟩] ∧
    (calculate exactOps dueDoc).toOption.map (fun o => (o.advances.map (·.amount), o.dues.map (·.amount))) =
      some ([⟨1102, 2⟩], [⟨1469, 2⟩, ⟨1000, 2⟩]) := by
  refine ⟨(inDocC_sound dueDoc (by decide)).of_ret (by decide), rfl, ?_, by decide, by decide⟩
  intro x hx
  simp only [dueDoc, List.mem_cons, List.mem_nil_iff, or_false] at hx
  rcases hx with rfl | rfl
  · exact Or.inl ⟨_, rfl, rfl, by norm_num [Amount.toRat, pow10]⟩
  · exact Or.inr (Or.inl rfl)

/-! ## the rows of the tax summary as presented figures

For a document of the class `DocTI` (`DocCI` without the conditions on rounding and advances; with or
without an included category).  The exact quantities are built from the exact rows of
`Spec.C01.exactQ` (`exactRowsW`: exact line totals, exact document discounts negated, exact document
charges, each with its combos; the included tax taken out by an exact division, `remQ`):
`catExactQ selP d k` = Σ rows Σ combos of category `k`, row × percentage (for the included category
this is `(exactQ d).taxIncluded`: `catExactQ_included`), `catExactQ selS d k` the same with the
surcharge percentages, `grpExactQ d k key` = Σ rows, once per combo of category `k` and group key
`key` (extensions, country, percentage, surcharge percentage: `Spec.C02.keyOfRate`). -/

/-- every category row: `amount` is the half-away rounding at currency precision of the working
amount (kept as `precise`), which is within (number of rate groups of the category + the rows'
carried weight `rowsWL kN`) half-units of the working precision of the exact category amount; the
category surcharge likewise against the exact surcharge -/
theorem calc_tax_category_rows_spec (ret : String → Bool) (d : Doc) (out : Out) (t : Totals) (hd : DocTI ret d)
    (hcalc : calculate exactOps d = .ok out) (ht : out.totals = some t)
    (tx : TaxTotal) (htx : t.taxes = some tx) (k : String) (ct : CatTotal)
    (hf : tx.cats.find? (fun ct => ct.code == k) = some ct) :
    presents d.c ct.amount ct.precise.toRat ∧
    |ct.precise.toRat - catExactQ selP d k| ≤
      ((ct.rates.length + rowsWL (kN (some k)) d.includes d : ℕ) : ℚ) * halfUlp (d.c + 2) ∧
    ∃ ws : Option Amount, ct.surcharge = ws.map (·.rescaleX d.c) ∧
      |optQ ws - catExactQ selS d k| ≤
        ((ct.rates.length + rowsWL (kN (some k)) d.includes d : ℕ) : ℚ) * halfUlp (d.c + 2) := by
  obtain ⟨h1, h2, ws, h3, h4⟩ := cat_rows_shown d out t hd hcalc ht tx htx k ct hf
  have m := rowsWLQ_le (fun taxes => (kN (some k) taxes : ℚ)) (kN (some k)) d.includes d hd
    (fun _ _ => ⟨Nat.cast_nonneg _, le_rfl⟩)
  have h0 := halfUlp_nonneg (d.c + 2)
  exact ⟨h1, le_weight h2 (by push_cast; linarith) h0, ws, h3, le_weight h4 (by push_cast; linarith) h0⟩

/-- every rate-group row: the base is the rounding of a working base within `Wb = rowsWL gN`
half-units of the exact base of the group (sums add no rounding point); the amount is the rounding
of a working amount within `1 + |percentage|·Wb` half-units of exact base × percentage; the
surcharge within `1 + |surcharge percentage|·Wb` of exact base × surcharge percentage — with the
actual percentages, not their bound of 100 % -/
theorem calc_tax_group_rows_spec (ret : String → Bool) (d : Doc) (out : Out) (t : Totals) (hd : DocTI ret d)
    (hcalc : calculate exactOps d = .ok out) (ht : out.totals = some t)
    (tx : TaxTotal) (htx : t.taxes = some tx) (ct : CatTotal) (hct : ct ∈ tx.cats)
    (rt : RateTotal) (hrt : rt ∈ ct.rates) :
    ∃ bw : Amount, presents d.c rt.base bw.toRat ∧
      |bw.toRat - grpExactQ d ct.code (Spec.C02.keyOfRate rt)| ≤
        (rowsWL (gN ct.code (Spec.C02.keyOfRate rt)) d.includes d : ℚ) * halfUlp (d.c + 2) ∧
      (∀ p, rt.percent = some p → ∃ aw : Amount, presents d.c rt.amount aw.toRat ∧
        |aw.toRat - grpExactQ d ct.code (Spec.C02.keyOfRate rt) * p.amount.toRat| ≤
          (1 + |p.amount.toRat| * (rowsWL (gN ct.code (Spec.C02.keyOfRate rt)) d.includes d : ℚ)) * halfUlp (d.c + 2)) ∧
      (∀ p sp sa, rt.percent = some p → rt.surcharge = some (sp, sa) →
        ∃ sw : Amount, presents d.c sa sw.toRat ∧
        |sw.toRat - grpExactQ d ct.code (Spec.C02.keyOfRate rt) * sp.amount.toRat| ≤
          (1 + |sp.amount.toRat| * (rowsWL (gN ct.code (Spec.C02.keyOfRate rt)) d.includes d : ℚ)) * halfUlp (d.c + 2)) := by
  obtain ⟨bw, g1, g2, g3, g4⟩ := group_rows_shown d out t hd hcalc ht tx htx ct hct rt hrt
  have m := rowsWLQ_le (fun taxes => (gN ct.code (Spec.C02.keyOfRate rt) taxes : ℚ)) (gN ct.code (Spec.C02.keyOfRate rt))
    d.includes d hd (fun _ _ => ⟨Nat.cast_nonneg _, le_rfl⟩)
  have h0 := halfUlp_nonneg (d.c + 2)
  have mp : ∀ q : ℚ, 1 + |q| * rowsWLQ (fun taxes => (gN ct.code (Spec.C02.keyOfRate rt) taxes : ℚ)) d.includes d ≤
      1 + |q| * (rowsWL (gN ct.code (Spec.C02.keyOfRate rt)) d.includes d : ℚ) :=
    fun q => by have := mul_le_mul_of_nonneg_left m (abs_nonneg q); linarith
  refine ⟨bw, g1, le_weight g2 m h0, fun p hp => ?_, fun p sp sa hp hs => ?_⟩
  · obtain ⟨aw, a1, a2⟩ := g3 p hp
    exact ⟨aw, a1, le_weight a2 (mp _) h0⟩
  · obtain ⟨sw, a1, a2⟩ := g4 p sp sa hp hs
    exact ⟨sw, a1, le_weight a2 (mp _) h0⟩

/-- non-vacuity of the two row theorems: `incDoc` (prices including VAT) and `surDoc` (a surcharge)
are of the class.  `incDoc`: VAT shows 5.68 from the working amount 5.6791 (exact 5.67909147…, weight
3 groups + 14 carried); its groups: standard base 25.84 (exact (31.7625 − 0.50)/1.21 = 25.83677…),
amount 5.43 (exact 5.42572…); reduced base 2.41 (exact 2.6664/1.105 = 2.41303…), amount 0.25 (exact
0.25336…); exempt base 0.67; retained IRPF base 2.41, amount 0.36 (exact 0.36195…).  `surDoc`: base
23.33 (exact 23.331), amount 4.90 (exact 4.89951), surcharge 1.21 (exact 1.213212) -/
example : DocTI (retOf incDoc) incDoc ∧ DocTI (retOf surDoc) surDoc ∧
    rowsWL (kN (some "VAT")) incDoc.includes incDoc = 14 ∧
    (((calculate exactOps incDoc).toOption.bind (·.totals)).bind (·.taxes)).map
      (fun tx => tx.cats.map (fun ct => (ct.code, ct.amount, ct.precise))) =
      some [("VAT", ⟨568, 2⟩, ⟨56791, 4⟩), ("IRPF", ⟨36, 2⟩, ⟨3620, 4⟩)] ∧
    (((calculate exactOps incDoc).toOption.bind (·.totals)).bind (·.taxes)).map
      (fun tx => tx.cats.map (fun ct => ct.rates.map (·.base))) =
      some [[⟨2584, 2⟩, ⟨241, 2⟩, ⟨67, 2⟩], [⟨241, 2⟩]] ∧
    (((calculate exactOps incDoc).toOption.bind (·.totals)).bind (·.taxes)).map
      (fun tx => tx.cats.map (fun ct => ct.rates.map (·.amount))) =
      some [[⟨543, 2⟩, ⟨25, 2⟩, ⟨0, 2⟩], [⟨36, 2⟩]] ∧
    (((calculate exactOps surDoc).toOption.bind (·.totals)).bind (·.taxes)).map
      (fun tx => tx.cats.map (fun ct => (ct.amount, ct.surcharge, ct.rates.map (·.base)))) =
      some [(⟨490, 2⟩, some ⟨121, 2⟩, [⟨2333, 2⟩])] ∧
    (((calculate exactOps surDoc).toOption.bind (·.totals)).bind (·.taxes)).map
      (fun tx => tx.cats.map (fun ct => (ct.rates.map (·.amount), ct.rates.map (fun rt => rt.surcharge.map (·.2))))) =
      some [([⟨490, 2⟩], [some ⟨121, 2⟩])] :=
  ⟨(inDocI_sound incDoc (by decide)).tax, (inDocI_sound surDoc (by decide)).tax, by decide, by decide, by decide,
    by decide, by decide, by decide⟩

/-- the two row theorems with the hypothesis and the exact quantities the model driver evaluates
(`Spec/C01.lean`: `inDocI`; `catAmountQ`, `catSurchargeQ`, `groupBaseQ` over `exactTaxRows`, written
there without reference to the proof files): every category amount / surcharge and every group base /
amount / surcharge of the presented summary is within half a minor unit plus its weight × half a unit
of the working precision of the exact value.  The check holds the real library's tax summary of every
generated document of the class to these bounds (driver request `taxrows`, counters
`tax-rows:…`). -/
theorem tax_rows_decided (d : Doc) (out : Out) (t : Totals) (hcls : inDocI d = true)
    (hcalc : calculate exactOps d = .ok out) (ht : out.totals = some t)
    (tx : TaxTotal) (htx : t.taxes = some tx) :
    (∀ k ct, tx.cats.find? (fun ct => ct.code == k) = some ct →
      |ct.amount.toRat - catAmountQ d k| ≤
        halfUlp d.c + ((ct.rates.length + rowsWL (kN (some k)) d.includes d : ℕ) : ℚ) * halfUlp (d.c + 2) ∧
      ∀ s, ct.surcharge = some s → |s.toRat - catSurchargeQ d k| ≤
        halfUlp d.c + ((ct.rates.length + rowsWL (kN (some k)) d.includes d : ℕ) : ℚ) * halfUlp (d.c + 2)) ∧
    (∀ ct ∈ tx.cats, ∀ rt ∈ ct.rates,
      |rt.base.toRat - groupBaseQ d ct.code (Spec.C02.keyOfRate rt)| ≤
        halfUlp d.c + (rowsWL (gN ct.code (Spec.C02.keyOfRate rt)) d.includes d : ℚ) * halfUlp (d.c + 2) ∧
      (∀ p, rt.percent = some p →
        |rt.amount.toRat - groupBaseQ d ct.code (Spec.C02.keyOfRate rt) * p.amount.toRat| ≤
          halfUlp d.c + (1 + |p.amount.toRat| * (rowsWL (gN ct.code (Spec.C02.keyOfRate rt)) d.includes d : ℚ)) * halfUlp (d.c + 2)) ∧
      (∀ p sp sa, rt.percent = some p → rt.surcharge = some (sp, sa) →
        |sa.toRat - groupBaseQ d ct.code (Spec.C02.keyOfRate rt) * sp.amount.toRat| ≤
          halfUlp d.c + (1 + |sp.amount.toRat| * (rowsWL (gN ct.code (Spec.C02.keyOfRate rt)) d.includes d : ℚ)) * halfUlp (d.c + 2))) := by
  have hd := (inDocI_sound d hcls).tax
  refine ⟨?_, ?_⟩
  · intro k ct hf
    obtain ⟨h1, h2, ws, h3, h4⟩ := calc_tax_category_rows_spec (retOf d) d out t hd hcalc ht tx htx k ct hf
    rw [catExactQ_selP] at h2
    rw [catExactQ_selS] at h4
    refine ⟨presents_near h1 h2, ?_⟩
    intro s hs
    rw [h3] at hs
    simp only [Option.map_eq_some_iff] at hs
    obtain ⟨y, hy, rfl⟩ := hs
    rw [hy] at h4
    exact presents_near (presents_rescale d.c y) h4
  · intro ct hct rt hrt
    obtain ⟨bw, g1, g2, g3, g4⟩ := calc_tax_group_rows_spec (retOf d) d out t hd hcalc ht tx htx ct hct rt hrt
    rw [grpExactQ_eq] at g2 g3 g4
    refine ⟨presents_near g1 g2, ?_, ?_⟩
    · intro p hp
      obtain ⟨aw, a1, a2⟩ := g3 p hp
      exact presents_near a1 a2
    · intro p sp sa hp hs
      obtain ⟨sw, a1, a2⟩ := g4 p sp sa hp hs
      exact presents_near a1 a2

/-! ## pinned source shapes (regenerated facts; tools/pin_calc_expect.py) -/

namespace ExpectCalc
open GoblVerif.Generated.Calc

theorem calls_calculateLines_as_modelled : calls_calculateLines =
    ["calculateLine", "Itoa"] := rfl
theorem conds_calculateLines_as_modelled : conds_calculateLines =
    ["err := calculateLine(l, cur, rates, rr); err != nil"] := rfl
theorem stmts_calculateLines_as_modelled : stmts_calculateLines =
    ["l.Index = i + 1", "err := calculateLine(l, cur, rates, rr)", "return validation.Errors{strconv.Itoa(i): err}", "return nil"] := rfl
theorem calls_calculateLine_as_modelled : calls_calculateLine =
    ["Zero", "Def", "len", "calculateSubLine", "Itoa", "len", "calculateSubLine", "Itoa", "Add", "MatchPrecision", "Rescale", "determineSubLinePrecision", "calculateLineItemPrice", "Exp", "RescaleUp", "Multiply", "ApplyRoundingRule", "calculateLineDiscounts", "calculateLineCharges"] := rfl
theorem conds_calculateLine_as_modelled : conds_calculateLine =
    ["l.Item == nil", "len(l.Substituted) > 0", "err := calculateSubLine(sl, cur, rates, rr); err != nil", "len(l.Breakdown) > 0", "err := calculateSubLine(sl, cur, rates, rr); err != nil", "sl.Total != nil", "hasPrice", "l.Item.Price == nil", "err := calculateLineItemPrice(l.Item, cur, rates); err != nil", "rr == tax.RoundingRulePrecise"] := rfl
theorem stmts_calculateLine_as_modelled : stmts_calculateLine =
    ["return nil", "zero := cur.Def().Zero()", "sl.Index = i + 1", "err := calculateSubLine(sl, cur, rates, rr)", "return validation.Errors{ \"substituted\": validation.Errors{strconv.Itoa(i): err}, }", "np := zero", "hasPrice := false", "sl.Index = i + 1", "err := calculateSubLine(sl, cur, rates, rr)", "return validation.Errors{ \"breakdown\": validation.Errors{strconv.Itoa(i): err}, }", "hasPrice = true", "np = np.MatchPrecision(*sl.Total).Add(*sl.Total)", "np = np.Rescale(determineSubLinePrecision(l.Breakdown))", "l.Item.Currency = cur", "l.Item.Price = &np", "l.Item.AltPrices = nil", "l.Item.AltPrices = nil", "l.Sum = nil", "l.Total = nil", "return nil", "err := calculateLineItemPrice(l.Item, cur, rates)", "return validation.Errors{ \"item\": err, }", "exp := zero.Exp()", "exp += linePrecisionExtra", "price := l.Item.Price.RescaleUp(exp)", "sum := price.Multiply(l.Quantity)", "sum = tax.ApplyRoundingRule(rr, cur, sum)", "total := sum", "total = calculateLineDiscounts(l.Discounts, sum, total, cur, rr)", "total = calculateLineCharges(l.Charges, l.Quantity, sum, total, cur, rr)", "l.Sum = &sum", "l.Total = &total", "return nil"] := rfl
theorem calls_calculateSubLine_as_modelled : calls_calculateSubLine =
    ["calculateLineItemPrice", "Zero", "Def", "RescaleUp", "Exp", "Multiply", "ApplyRoundingRule", "calculateLineDiscounts", "calculateLineCharges"] := rfl
theorem conds_calculateSubLine_as_modelled : conds_calculateSubLine =
    ["sl.Item == nil", "sl.Item.Price == nil", "err := calculateLineItemPrice(sl.Item, cur, rates); err != nil", "rr == tax.RoundingRulePrecise"] := rfl
theorem stmts_calculateSubLine_as_modelled : stmts_calculateSubLine =
    ["return nil", "sl.Sum = nil", "sl.Total = nil", "return nil", "err := calculateLineItemPrice(sl.Item, cur, rates)", "return err", "zero := cur.Def().Zero()", "price := *sl.Item.Price", "price = price.RescaleUp(zero.Exp() + linePrecisionExtra)", "sum := price.Multiply(sl.Quantity)", "sum = tax.ApplyRoundingRule(rr, cur, sum)", "total := sum", "total = calculateLineDiscounts(sl.Discounts, sum, total, cur, rr)", "total = calculateLineCharges(sl.Charges, sl.Quantity, sum, total, cur, rr)", "sl.Sum = &sum", "sl.Total = &total", "return nil"] := rfl
theorem calls_calculateLineItemPrice_as_modelled : calls_calculateLineItemPrice =
    ["Def", "Errorf", "MatchPrecision", "Zero", "Def", "MatchPrecision", "Zero", "Def", "Convert", "Errorf"] := rfl
theorem conds_calculateLineItemPrice_as_modelled : conds_calculateLineItemPrice =
    ["icur == currency.CodeEmpty", "icur.Def() == nil", "item.Currency == currency.CodeEmpty || item.Currency == cur", "ap.Currency == cur", "np == nil"] := rfl
theorem stmts_calculateLineItemPrice_as_modelled : stmts_calculateLineItemPrice =
    ["icur := item.Currency", "icur = cur", "return fmt.Errorf(\"invalid currency '%v'\", icur)", "price := item.Price.MatchPrecision(icur.Def().Zero())", "item.Price = &price", "return nil", "nap := &currency.Amount{ Currency: item.Currency, Value: price, }", "item.Currency = ap.Currency", "price = ap.Value.MatchPrecision(ap.Currency.Def().Zero())", "item.Price = &price", "item.AltPrices = []*currency.Amount{nap}", "return nil", "np := currency.Convert(rates, item.Currency, cur, price)", "return fmt.Errorf(\"no exchange rate found from '%v' to '%v'\", item.Currency, cur)", "item.Price = np", "item.Currency = cur", "item.AltPrices = []*currency.Amount{nap}", "return nil"] := rfl
theorem calls_calculateLineDiscounts_as_modelled : calls_calculateLineDiscounts =
    ["Def", "IsZero", "RescaleUp", "RescaleUp", "ApplyRoundingRule", "Of", "RescaleUp", "Subtract"] := rfl
theorem conds_calculateLineDiscounts_as_modelled : conds_calculateLineDiscounts =
    ["d.Percent != nil && !d.Percent.IsZero()", "d.Base != nil"] := rfl
theorem stmts_calculateLineDiscounts_as_modelled : stmts_calculateLineDiscounts =
    ["cd := cur.Def()", "base := sum", "b := d.Base.RescaleUp(cd.Subunits)", "d.Base = &b", "base = d.Base.RescaleUp(cd.Subunits + linePrecisionExtra)", "base = tax.ApplyRoundingRule(rr, cur, base)", "d.Amount = d.Percent.Of(base)", "d.Amount = cd.RescaleUp(d.Amount)", "total = total.Subtract(d.Amount)", "return total"] := rfl
theorem calls_calculateLineCharges_as_modelled : calls_calculateLineCharges =
    ["Def", "IsZero", "RescaleUp", "RescaleUp", "ApplyRoundingRule", "Of", "Multiply", "RescaleUp", "Add"] := rfl
theorem conds_calculateLineCharges_as_modelled : conds_calculateLineCharges =
    ["c.Percent != nil && !c.Percent.IsZero()", "c.Base != nil", "c.Rate != nil", "c.Quantity != nil"] := rfl
theorem stmts_calculateLineCharges_as_modelled : stmts_calculateLineCharges =
    ["cd := cur.Def()", "base := sum", "b := c.Base.RescaleUp(cd.Subunits)", "c.Base = &b", "base = c.Base.RescaleUp(cd.Subunits + linePrecisionExtra)", "base = tax.ApplyRoundingRule(rr, cur, base)", "c.Amount = c.Percent.Of(base)", "q := quantity", "q = *c.Quantity", "c.Amount = c.Rate.Multiply(q)", "c.Amount = cd.RescaleUp(c.Amount)", "total = total.Add(c.Amount)", "return total"] := rfl
theorem calls_calculateLineSum_as_modelled : calls_calculateLineSum =
    ["Zero", "Def", "MatchPrecision", "Add"] := rfl
theorem conds_calculateLineSum_as_modelled : conds_calculateLineSum =
    ["l.Total != nil"] := rfl
theorem stmts_calculateLineSum_as_modelled : stmts_calculateLineSum =
    ["sum := cur.Def().Zero()", "sum = sum.MatchPrecision(*l.Total)", "sum = sum.Add(*l.Total)", "return sum"] := rfl
theorem calls_determineSubLinePrecision_as_modelled : calls_determineSubLinePrecision =
    ["uint32", "Exp"] := rfl
theorem conds_determineSubLinePrecision_as_modelled : conds_determineSubLinePrecision =
    ["sl.Item == nil || sl.Item.Price == nil", "x > e"] := rfl
theorem stmts_determineSubLinePrecision_as_modelled : stmts_determineSubLinePrecision =
    ["e := uint32(0)", "x := sl.Item.Price.Exp()", "e = x", "return e"] := rfl
theorem calls_ApplyRoundingRule_as_modelled : calls_ApplyRoundingRule =
    ["Def", "Rescale", "RescaleUp"] := rfl
theorem conds_ApplyRoundingRule_as_modelled : conds_ApplyRoundingRule =
    [] := rfl
theorem stmts_ApplyRoundingRule_as_modelled : stmts_ApplyRoundingRule =
    ["exp := cur.Def().Subunits", "return amount.Rescale(exp)", "return amount.RescaleUp(exp)"] := rfl
theorem calls_Amount_RescaleUp_as_modelled : calls_Amount_RescaleUp =
    ["Rescale"] := rfl
theorem conds_Amount_RescaleUp_as_modelled : conds_Amount_RescaleUp =
    ["exp > a.exp"] := rfl
theorem stmts_Amount_RescaleUp_as_modelled : stmts_Amount_RescaleUp =
    ["return a.Rescale(exp)", "return a"] := rfl
theorem calls_Amount_RescaleDown_as_modelled : calls_Amount_RescaleDown =
    ["Rescale"] := rfl
theorem conds_Amount_RescaleDown_as_modelled : conds_Amount_RescaleDown =
    ["exp < a.exp"] := rfl
theorem stmts_Amount_RescaleDown_as_modelled : stmts_Amount_RescaleDown =
    ["return a.Rescale(exp)", "return a"] := rfl
theorem calls_Amount_MatchPrecision_as_modelled : calls_Amount_MatchPrecision =
    ["RescaleUp"] := rfl
theorem conds_Amount_MatchPrecision_as_modelled : conds_Amount_MatchPrecision =
    [] := rfl
theorem stmts_Amount_MatchPrecision_as_modelled : stmts_Amount_MatchPrecision =
    ["return a.RescaleUp(a2.exp)"] := rfl
theorem calls_Amount_Upscale_as_modelled : calls_Amount_Upscale =
    ["Rescale", "Exp"] := rfl
theorem conds_Amount_Upscale_as_modelled : conds_Amount_Upscale =
    [] := rfl
theorem stmts_Amount_Upscale_as_modelled : stmts_Amount_Upscale =
    ["return a.Rescale(a.Exp() + increase)"] := rfl
theorem calls_Percentage_Of_as_modelled : calls_Percentage_Of =
    ["Multiply"] := rfl
theorem conds_Percentage_Of_as_modelled : conds_Percentage_Of =
    [] := rfl
theorem stmts_Percentage_Of_as_modelled : stmts_Percentage_Of =
    ["return a.Multiply(p.amount)"] := rfl
theorem calls_Percentage_From_as_modelled : calls_Percentage_From =
    ["Divide", "Factor", "Subtract"] := rfl
theorem conds_Percentage_From_as_modelled : conds_Percentage_From =
    [] := rfl
theorem stmts_Percentage_From_as_modelled : stmts_Percentage_From =
    ["x := a.Divide(p.Factor())", "return a.Subtract(x)"] := rfl
theorem calls_Percentage_Factor_as_modelled : calls_Percentage_Factor =
    ["Add"] := rfl
theorem conds_Percentage_Factor_as_modelled : conds_Percentage_Factor =
    [] := rfl
theorem stmts_Percentage_Factor_as_modelled : stmts_Percentage_Factor =
    ["return p.amount.Add(factor1)"] := rfl

end ExpectCalc

/-! ## the tie to the source: regenerated definitions of /repo/bill and /repo/pay

  `Generated/BillCalcSrc.lean` and `Generated/PayCalcSrc.lean` are the go2lean
  translations (harness/cmd/extract/billcalcsrc.go, go2lean_effects.go) of the
  calculation functions of bill/line_calculate.go, discounts.go, charges.go,
  totals.go, payment_details.go, pay/advance.go and pay/terms.go AS THEY STAND
  NOW.  Every definition is proved equal to the function of Model/Calc.lean it
  corresponds to, for all arguments and for every `Ops` (so for `exactOps`, which
  the theorems are about, and for `floatOps`, which the differential run uses);
  `sub` is the currency table (`currency.Code.Def().Subunits`).  The four
  error-returning functions (calculateLineItemPrice, calculateSubLine,
  calculateLine, calculateLines) are Except-valued and proved equal to the
  model too (the two line functions for lines without substituted
  sub-lines, which the model does not have).  Not translated (it stays on the
  shape pins of `ExpectCalc` and the differential run): bill.calculate itself. -/
namespace Src
open GoblVerif.Generated GoblVerif.CalcSrc GoblVerif.Proofs.BillCalcSrc GoblVerif.GoSem

/-! ### the translation is complete; struct declarations, assumptions and primitives as reviewed -/

theorem all_translated : BillCalcSrc.untranslated = [] ∧ PayCalcSrc.untranslated = [] := ⟨rfl, rfl⟩

theorem struct_BillCalcSrc_Charge_as_mapped :
    BillCalcSrc.struct_Charge = [("Identify", "uuid.Identify"), ("Index", "int"), ("Key", "cbc.Key"), ("Code", "cbc.Code"), ("Reason", "string"), ("Base", "*num.Amount"), ("Percent", "*num.Percentage"), ("Amount", "num.Amount"), ("Taxes", "tax.Set"), ("Ext", "tax.Extensions"), ("Meta", "cbc.Meta")] ∧
    BillCalcSrc.structLean_Charge = ("GoblVerif.Calc.DocAdj", ["base", "percent", "amount", "taxes"]) ∧
    BillCalcSrc.structOmitted_Charge = ["Identify", "Index", "Key", "Code", "Reason", "Ext", "Meta"] := ⟨rfl, rfl, rfl⟩

theorem struct_BillCalcSrc_Discount_as_mapped :
    BillCalcSrc.struct_Discount = [("Identify", "uuid.Identify"), ("Index", "int"), ("Key", "cbc.Key"), ("Code", "cbc.Code"), ("Reason", "string"), ("Base", "*num.Amount"), ("Percent", "*num.Percentage"), ("Amount", "num.Amount"), ("Taxes", "tax.Set"), ("Ext", "tax.Extensions"), ("Meta", "cbc.Meta")] ∧
    BillCalcSrc.structLean_Discount = ("GoblVerif.Calc.DocAdj", ["base", "percent", "amount", "taxes"]) ∧
    BillCalcSrc.structOmitted_Discount = ["Identify", "Index", "Key", "Code", "Reason", "Ext", "Meta"] := ⟨rfl, rfl, rfl⟩

theorem struct_BillCalcSrc_LineCharge_as_mapped :
    BillCalcSrc.struct_LineCharge = [("Key", "cbc.Key"), ("Code", "cbc.Code"), ("Reason", "string"), ("Base", "*num.Amount"), ("Percent", "*num.Percentage"), ("Quantity", "*num.Amount"), ("Unit", "org.Unit"), ("Rate", "*num.Amount"), ("Amount", "num.Amount"), ("Ext", "tax.Extensions")] ∧
    BillCalcSrc.structLean_LineCharge = ("GoblVerif.Calc.LineAdj", ["base", "percent", "quantity", "rate", "amount"]) ∧
    BillCalcSrc.structOmitted_LineCharge = ["Key", "Code", "Reason", "Unit", "Ext"] := ⟨rfl, rfl, rfl⟩

theorem struct_BillCalcSrc_LineDiscount_as_mapped :
    BillCalcSrc.struct_LineDiscount = [("Key", "cbc.Key"), ("Code", "cbc.Code"), ("Reason", "string"), ("Base", "*num.Amount"), ("Percent", "*num.Percentage"), ("Amount", "num.Amount"), ("Ext", "tax.Extensions")] ∧
    BillCalcSrc.structLean_LineDiscount = ("LineDiscount", ["Base", "Percent", "Amount"]) ∧
    BillCalcSrc.structOmitted_LineDiscount = ["Key", "Code", "Reason", "Ext"] := ⟨rfl, rfl, rfl⟩

theorem struct_BillCalcSrc_org_Item_as_mapped :
    BillCalcSrc.struct_org_Item = [("Identify", "uuid.Identify"), ("Ref", "cbc.Code"), ("Key", "cbc.Key"), ("Name", "string"), ("Identities", "[]*org.Identity"), ("Description", "string"), ("Currency", "currency.Code"), ("Price", "*num.Amount"), ("AltPrices", "[]*currency.Amount"), ("Unit", "org.Unit"), ("Origin", "l10n.ISOCountryCode"), ("Ext", "tax.Extensions"), ("Meta", "cbc.Meta")] ∧
    BillCalcSrc.structLean_org_Item = ("Item", ["Currency", "Price", "AltPrices"]) ∧
    BillCalcSrc.structOmitted_org_Item = ["Identify", "Ref", "Key", "Name", "Identities", "Description", "Unit", "Origin", "Ext", "Meta"] := ⟨rfl, rfl, rfl⟩

theorem struct_BillCalcSrc_currency_Amount_as_mapped :
    BillCalcSrc.struct_currency_Amount = [("Label", "string"), ("Currency", "currency.Code"), ("Value", "num.Amount")] ∧
    BillCalcSrc.structLean_currency_Amount = ("CurAmount", ["Currency", "Value"]) ∧
    BillCalcSrc.structOmitted_currency_Amount = ["Label"] := ⟨rfl, rfl, rfl⟩

theorem struct_BillCalcSrc_SubLine_as_mapped :
    BillCalcSrc.struct_SubLine = [("Identify", "uuid.Identify"), ("Index", "int"), ("Quantity", "num.Amount"), ("Identifier", "*org.Identity"), ("Period", "*cal.Period"), ("Order", "cbc.Code"), ("Cost", "cbc.Code"), ("Item", "*org.Item"), ("Sum", "*num.Amount"), ("Discounts", "[]*LineDiscount"), ("Charges", "[]*LineCharge"), ("Total", "*num.Amount"), ("Notes", "[]*org.Note")] ∧
    BillCalcSrc.structLean_SubLine = ("SubLine", ["Quantity", "Item", "Sum", "Discounts", "Charges", "Total"]) ∧
    BillCalcSrc.structOmitted_SubLine = ["Identify", "Index", "Identifier", "Period", "Order", "Cost", "Notes"] := ⟨rfl, rfl, rfl⟩

theorem struct_BillCalcSrc_Line_as_mapped :
    BillCalcSrc.struct_Line = [("Identify", "uuid.Identify"), ("Index", "int"), ("Quantity", "num.Amount"), ("Identifier", "*org.Identity"), ("Period", "*cal.Period"), ("Order", "cbc.Code"), ("Cost", "cbc.Code"), ("Item", "*org.Item"), ("Breakdown", "[]*SubLine"), ("Sum", "*num.Amount"), ("Discounts", "[]*LineDiscount"), ("Charges", "[]*LineCharge"), ("Taxes", "tax.Set"), ("Total", "*num.Amount"), ("Substituted", "[]*SubLine"), ("Notes", "[]*org.Note")] ∧
    BillCalcSrc.structLean_Line = ("Line", ["Quantity", "Item", "Breakdown", "Sum", "Discounts", "Charges", "Taxes", "Total", "Substituted"]) ∧
    BillCalcSrc.structOmitted_Line = ["Identify", "Index", "Identifier", "Period", "Order", "Cost", "Notes"] := ⟨rfl, rfl, rfl⟩

theorem struct_BillCalcSrc_pay_Advance_as_mapped :
    BillCalcSrc.struct_pay_Advance = [("Identify", "uuid.Identify"), ("Date", "*cal.Date"), ("Key", "cbc.Key"), ("Ref", "string"), ("Grant", "bool"), ("Description", "string"), ("Percent", "*num.Percentage"), ("Amount", "num.Amount"), ("Currency", "currency.Code"), ("Card", "*pay.Card"), ("CreditTransfer", "*pay.CreditTransfer"), ("Ext", "tax.Extensions"), ("Meta", "cbc.Meta")] ∧
    BillCalcSrc.structLean_pay_Advance = ("GoblVerif.Calc.Advance", ["percent", "amount"]) ∧
    BillCalcSrc.structOmitted_pay_Advance = ["Identify", "Date", "Key", "Ref", "Grant", "Description", "Currency", "Card", "CreditTransfer", "Ext", "Meta"] := ⟨rfl, rfl, rfl⟩

theorem struct_BillCalcSrc_PaymentDetails_as_mapped :
    BillCalcSrc.struct_PaymentDetails = [("Payee", "*org.Party"), ("Terms", "*pay.Terms"), ("Advances", "[]*pay.Advance"), ("Instructions", "*pay.Instructions")] ∧
    BillCalcSrc.structLean_PaymentDetails = ("PaymentDetails", ["Advances"]) ∧
    BillCalcSrc.structOmitted_PaymentDetails = ["Payee", "Terms", "Instructions"] := ⟨rfl, rfl, rfl⟩

theorem struct_BillCalcSrc_Totals_as_mapped :
    BillCalcSrc.struct_Totals = [("Sum", "num.Amount"), ("Discount", "*num.Amount"), ("Charge", "*num.Amount"), ("TaxIncluded", "*num.Amount"), ("Total", "num.Amount"), ("Taxes", "*tax.Total"), ("Tax", "num.Amount"), ("TotalWithTax", "num.Amount"), ("Rounding", "*num.Amount"), ("Payable", "num.Amount"), ("Advances", "*num.Amount"), ("Due", "*num.Amount")] ∧
    BillCalcSrc.structLean_Totals = ("GoblVerif.Calc.Totals", ["sum", "discount", "charge", "taxIncluded", "total", "taxes", "tax", "totalWithTax", "rounding", "payable", "advances", "due"]) ∧
    BillCalcSrc.structOmitted_Totals = [] := ⟨rfl, rfl, rfl⟩

theorem struct_PayCalcSrc_Advance_as_mapped :
    PayCalcSrc.struct_Advance = [("Identify", "uuid.Identify"), ("Date", "*cal.Date"), ("Key", "cbc.Key"), ("Ref", "string"), ("Grant", "bool"), ("Description", "string"), ("Percent", "*num.Percentage"), ("Amount", "num.Amount"), ("Currency", "currency.Code"), ("Card", "*Card"), ("CreditTransfer", "*CreditTransfer"), ("Ext", "tax.Extensions"), ("Meta", "cbc.Meta")] ∧
    PayCalcSrc.structLean_Advance = ("GoblVerif.Calc.Advance", ["percent", "amount"]) ∧
    PayCalcSrc.structOmitted_Advance = ["Identify", "Date", "Key", "Ref", "Grant", "Description", "Currency", "Card", "CreditTransfer", "Ext", "Meta"] := ⟨rfl, rfl, rfl⟩

theorem struct_PayCalcSrc_DueDate_as_mapped :
    PayCalcSrc.struct_DueDate = [("Date", "*cal.Date"), ("Notes", "string"), ("Amount", "num.Amount"), ("Percent", "*num.Percentage"), ("Currency", "currency.Code")] ∧
    PayCalcSrc.structLean_DueDate = ("GoblVerif.Calc.Due", ["amount", "percent"]) ∧
    PayCalcSrc.structOmitted_DueDate = ["Date", "Notes", "Currency"] := ⟨rfl, rfl, rfl⟩

theorem struct_PayCalcSrc_Terms_as_mapped :
    PayCalcSrc.struct_Terms = [("Key", "cbc.Key"), ("Detail", "string"), ("DueDates", "[]*DueDate"), ("Notes", "string"), ("Ext", "tax.Extensions")] ∧
    PayCalcSrc.structLean_Terms = ("Terms", ["DueDates"]) ∧
    PayCalcSrc.structOmitted_Terms = ["Key", "Detail", "Notes", "Ext"] := ⟨rfl, rfl, rfl⟩

/-- what the translation assumes beyond its general reading of Go: nil-free
    slices, which parameters are returned, the effect loops (distinct pointees that
    nobody else holds), the `*t.X = v` writes of `Totals.round`, the dropped writes
    to `Index` (not represented), the calls whose results are stored back, `&x`
    of locals assigned only before, the primitives (methods of num.Amount,
    num.Percentage, currency.Def and tax.ApplyRoundingRule as the operations of
    Model/Calc.lean); no unsigned subtraction, no condition-controlled loop, no map -/
theorem assumptions_BillCalcSrc_as_reviewed :
    BillCalcSrc.translated = ["calculateLineSum", "calculateLineDiscounts", "calculateLineCharges", "determineSubLinePrecision", "LineDiscount.round", "LineCharge.round", "SubLine.round", "Line.round", "roundLines", "calculateDiscounts", "calculateDiscountSum", "Discount.round", "roundDiscounts", "calculateCharges", "calculateChargeSum", "Charge.round", "roundCharges", "Totals.reset", "Totals.round", "PaymentDetails.calculateAdvances", "PaymentDetails.totalAdvance", "calculateLineItemPrice", "calculateSubLine", "calculateLine", "calculateLines"] ∧
    BillCalcSrc.nonNilElems = ["[]*Charge", "[]*Discount", "[]*Line", "[]*LineCharge", "[]*LineDiscount", "[]*SubLine", "[]*currency.Amount", "[]*currency.ExchangeRate", "[]*pay.Advance"] ∧
    BillCalcSrc.inOutParams = [("calculateLineDiscounts", "discounts"), ("calculateLineCharges", "charges"), ("LineDiscount.round", "d"), ("LineCharge.round", "c"), ("SubLine.round", "sl"), ("Line.round", "l"), ("roundLines", "lines"), ("calculateDiscounts", "lines"), ("Discount.round", "m"), ("roundDiscounts", "lines"), ("calculateCharges", "lines"), ("Charge.round", "m"), ("roundCharges", "lines"), ("Totals.reset", "t"), ("Totals.round", "t"), ("PaymentDetails.calculateAdvances", "p"), ("PaymentDetails.totalAdvance", "p"), ("calculateLineItemPrice", "item"), ("calculateSubLine", "sl"), ("calculateLine", "l"), ("calculateLines", "lines")] ∧
    BillCalcSrc.effectPrimitives = [("pay.Advance.CalculateFrom", "GoblVerif.Generated.PayCalcSrc.Advance_CalculateFrom o sub {0} {1}")] ∧
    BillCalcSrc.contextParams = [("o", "GoblVerif.Calc.Ops"), ("sub", "String → Nat")] ∧
    BillCalcSrc.effectLoops = [("calculateLineDiscounts", "discounts"), ("calculateLineCharges", "charges"), ("Line.round", "l.Discounts"), ("Line.round", "l.Charges"), ("Line.round", "l.Breakdown"), ("Line.round", "l.Substituted"), ("roundLines", "lines"), ("calculateDiscounts", "lines"), ("roundDiscounts", "lines"), ("calculateCharges", "lines"), ("roundCharges", "lines"), ("PaymentDetails.calculateAdvances", "p.Advances"), ("PaymentDetails.totalAdvance", "p.Advances"), ("calculateLine", "l.Substituted"), ("calculateLine", "l.Breakdown"), ("calculateLines", "lines")] ∧
    BillCalcSrc.ptrWrites = [("Totals.round", "*t.Discount"), ("Totals.round", "*t.Charge"), ("Totals.round", "*t.TaxIncluded"), ("Totals.round", "*t.Advances"), ("Totals.round", "*t.Due"), ("calculateLine", "l.Item.Currency"), ("calculateLine", "l.Item.Price"), ("calculateLine", "l.Item.AltPrices")] ∧
    BillCalcSrc.droppedWrites = [("calculateDiscounts", "l.Index"), ("calculateCharges", "l.Index"), ("calculateLine", "sl.Index"), ("calculateLines", "l.Index")] ∧
    BillCalcSrc.inOutCalls = [("Line.round", "d.round(e)"), ("Line.round", "c.round(e)"), ("Line.round", "sl.round(e)"), ("roundLines", "l.round()"), ("roundDiscounts", "l.round(cur)"), ("roundCharges", "l.round(cur)"), ("PaymentDetails.calculateAdvances", "a.CalculateFrom(totalWithTax)"), ("calculateSubLine", "calculateLineItemPrice(sl.Item, cur, rates)"), ("calculateSubLine", "calculateLineDiscounts(sl.Discounts, sum, total, cur, rr)"), ("calculateSubLine", "calculateLineCharges(sl.Charges, sl.Quantity, sum, total, cur, rr)"), ("calculateLine", "calculateSubLine(sl, cur, rates, rr)"), ("calculateLine", "calculateLineItemPrice(l.Item, cur, rates)"), ("calculateLine", "calculateLineDiscounts(l.Discounts, sum, total, cur, rr)"), ("calculateLine", "calculateLineCharges(l.Charges, l.Quantity, sum, total, cur, rr)"), ("calculateLines", "calculateLine(l, cur, rates, rr)")] ∧
    BillCalcSrc.addrOfAssigned = [("calculateDiscountSum", "&total"), ("calculateChargeSum", "&total"), ("PaymentDetails.totalAdvance", "&sum"), ("calculateLineItemPrice", "&price"), ("calculateSubLine", "&sum"), ("calculateSubLine", "&total"), ("calculateLine", "&np"), ("calculateLine", "&sum"), ("calculateLine", "&total")] ∧
    BillCalcSrc.primitives = [ ("currency.Code.Def", "(some (sub {0}) : Option Nat)"), ("currency.Convert", "GoblVerif.CalcSrc.convertRates o sub {0} {1} {2} {3}"), ("currency.Def.RescaleUp", "GoblVerif.Calc.up {1} ({0}.get!)"), ("currency.Def.Subunits", "{0}"), ("currency.Def.Zero", "(GoblVerif.Amount.mk 0 ({0}.get!))"), ("num.Amount.Add", "GoblVerif.Calc.add o {0} {1}"), ("num.Amount.Exp", "{0}.exp"), ("num.Amount.MatchPrecision", "GoblVerif.CalcSrc.matchPrecision {0} {1}"), ("num.Amount.Multiply", "o.mul {0} {1}"), ("num.Amount.Rescale", "o.rescale {0} {1}"), ("num.Amount.RescaleDown", "GoblVerif.Calc.down o {0} {1}"), ("num.Amount.RescaleUp", "GoblVerif.Calc.up {0} {1}"), ("num.Amount.Subtract", "GoblVerif.Calc.sub o {0} {1}"), ("num.Percentage.IsZero", "GoblVerif.Calc.pctIsZero {0}"), ("num.Percentage.Of", "GoblVerif.Calc.pctOf o {0} {1}"), ("strconv.Itoa", "(toString {0})"), ("tax.ApplyRoundingRule", "GoblVerif.CalcSrc.applyRoundingRule o sub {0} {1} {2}")] ∧
    BillCalcSrc.natSubs = [] ∧
    BillCalcSrc.fuelChecks = [] ∧
    BillCalcSrc.mapRanges = [] ∧
    BillCalcSrc.mapWrites = [] ∧
    BillCalcSrc.mapNilTests = [] := ⟨rfl, rfl, rfl, rfl, rfl, rfl, rfl, rfl, rfl, rfl, rfl, rfl, rfl, rfl, rfl, rfl⟩

theorem namedTypes_BillCalcSrc_as_reviewed :
    BillCalcSrc.namedTypes.map (fun t => (t.1, t.2.2)) = [("cbc.Key", "String"), ("currency.Code", "String"), ("currency.Def", "Nat"), ("currency.ExchangeRate", "GoblVerif.Calc.XRate"), ("num.Amount", "GoblVerif.Amount"), ("num.Percentage", "GoblVerif.Pct"), ("tax.Set", "List GoblVerif.Calc.Combo"), ("tax.Total", "GoblVerif.Calc.TaxTotal")] := rfl

/-- the error-returning functions (go2lean_errfn.go): which they are (Except-valued; what
    they wrote before a non-nil error return is forgotten), every error value built from a
    constant format (arguments dropped), every call of an error function with what is
    returned on error, and the Lean error type with its two constructors -/
theorem errors_BillCalcSrc_as_reviewed :
    BillCalcSrc.errorFunctions = ["calculateLineItemPrice", "calculateSubLine", "calculateLine", "calculateLines"] ∧
    BillCalcSrc.errorMessages = [("calculateLineItemPrice", "fmt.Errorf(\"invalid currency '%v'\", icur)"), ("calculateLineItemPrice", "fmt.Errorf(\"no exchange rate found from '%v' to '%v'\", item.Currency, cur)")] ∧
    BillCalcSrc.errorCalls = [("calculateSubLine", "err := calculateLineItemPrice(sl.Item, cur, rates); err != nil { return err }"), ("calculateLine", "err := calculateSubLine(sl, cur, rates, rr); err != nil { return validation.Errors{ \"substituted\": validation.Errors{strconv.Itoa(i): err}, } }"), ("calculateLine", "err := calculateSubLine(sl, cur, rates, rr); err != nil { return validation.Errors{ \"breakdown\": validation.Errors{strconv.Itoa(i): err}, } }"), ("calculateLine", "err := calculateLineItemPrice(l.Item, cur, rates); err != nil { return validation.Errors{ \"item\": err, } }"), ("calculateLines", "err := calculateLine(l, cur, rates, rr); err != nil { return validation.Errors{strconv.Itoa(i): err} }")] ∧
    BillCalcSrc.errorType = ("GoblVerif.CalcSrc.GoErr", "GoblVerif.CalcSrc.GoErr.msg {0}", "GoblVerif.CalcSrc.GoErr.at {0} {1}") := ⟨rfl, rfl, rfl, rfl⟩

theorem assumptions_PayCalcSrc_as_reviewed :
    PayCalcSrc.translated = ["Advance.CalculateFrom", "Terms.CalculateDues"] ∧
    PayCalcSrc.nonNilElems = ["[]*DueDate"] ∧
    PayCalcSrc.inOutParams = [("Advance.CalculateFrom", "a"), ("Terms.CalculateDues", "t")] ∧
    PayCalcSrc.effectPrimitives = [] ∧
    PayCalcSrc.contextParams = [("o", "GoblVerif.Calc.Ops"), ("sub", "String → Nat")] ∧
    PayCalcSrc.effectLoops = [("Terms.CalculateDues", "t.DueDates")] ∧
    PayCalcSrc.ptrWrites = [] ∧
    PayCalcSrc.droppedWrites = [] ∧
    PayCalcSrc.inOutCalls = [] ∧
    PayCalcSrc.addrOfAssigned = [] ∧
    PayCalcSrc.primitives = [ ("currency.Code.Def", "(some (sub {0}) : Option Nat)"), ("currency.Def.RescaleUp", "GoblVerif.Calc.up {1} ({0}.get!)"), ("currency.Def.Subunits", "{0}"), ("currency.Def.Zero", "(GoblVerif.Amount.mk 0 ({0}.get!))"), ("num.Amount.Add", "GoblVerif.Calc.add o {0} {1}"), ("num.Amount.Exp", "{0}.exp"), ("num.Amount.MatchPrecision", "GoblVerif.CalcSrc.matchPrecision {0} {1}"), ("num.Amount.Multiply", "o.mul {0} {1}"), ("num.Amount.Rescale", "o.rescale {0} {1}"), ("num.Amount.RescaleDown", "GoblVerif.Calc.down o {0} {1}"), ("num.Amount.RescaleUp", "GoblVerif.Calc.up {0} {1}"), ("num.Amount.Subtract", "GoblVerif.Calc.sub o {0} {1}"), ("num.Percentage.IsZero", "GoblVerif.Calc.pctIsZero {0}"), ("num.Percentage.Of", "GoblVerif.Calc.pctOf o {0} {1}"), ("tax.ApplyRoundingRule", "GoblVerif.CalcSrc.applyRoundingRule o sub {0} {1} {2}")] ∧
    PayCalcSrc.natSubs = [] ∧
    PayCalcSrc.fuelChecks = [] ∧
    PayCalcSrc.mapRanges = [] ∧
    PayCalcSrc.mapWrites = [] ∧
    PayCalcSrc.mapNilTests = [] := ⟨rfl, rfl, rfl, rfl, rfl, rfl, rfl, rfl, rfl, rfl, rfl, rfl, rfl, rfl, rfl, rfl⟩

theorem namedTypes_PayCalcSrc_as_reviewed :
    PayCalcSrc.namedTypes.map (fun t => (t.1, t.2.2)) = [("cbc.Key", "String"), ("currency.Code", "String"), ("num.Amount", "GoblVerif.Amount"), ("num.Percentage", "GoblVerif.Pct")] := rfl

/-! ### regenerated definition = model, for all arguments -/

theorem calculateLineSum_eq (o : Ops) (sub : String → Nat) (ls : List BillCalcSrc.Line) (cur : String) :
    BillCalcSrc.calculateLineSum o sub ls cur = (ls.filterMap (·.Total)).foldl (accum o) ⟨0, sub cur⟩ := by
  unfold BillCalcSrc.calculateLineSum
  simp only [forIn_list_id, pure_bind]
  rw [List.foldl_filterMap]
  exact forList_eq_foldl _ _ (fun x s => by cases h : x.Total <;> simp <;> rfl) _ _

/-- `calculateLineSum`: the lines enter only through their totals -/
theorem src_calculateLineSum (o : Ops) (sub : String → Nat) (ls : List BillCalcSrc.Line) (ms : List Line) (cur : String)
    (h : ls.map (·.Total) = ms.map (·.total)) :
    BillCalcSrc.calculateLineSum o sub ls cur = lineSum o (sub cur) ms := by
  rw [calculateLineSum_eq]
  unfold lineSum
  have : ls.filterMap (·.Total) = ms.filterMap (·.total) := by
    have h1 : ls.filterMap (·.Total) = (ls.map (·.Total)).filterMap id := by rw [List.filterMap_map]; rfl
    have h2 : ms.filterMap (·.total) = (ms.map (·.total)).filterMap id := by rw [List.filterMap_map]; rfl
    rw [h1, h2, h]
  rw [this]

/-- with the conversion `toLine` (any conversion of the item) -/
theorem src_calculateLineSum_toLine (o : Ops) (sub : String → Nat) (fI : BillCalcSrc.Item → Item) (ls : List BillCalcSrc.Line) (cur : String) :
    BillCalcSrc.calculateLineSum o sub ls cur = lineSum o (sub cur) (ls.map (toLine fI)) :=
  src_calculateLineSum o sub ls _ cur (by rw [List.map_map]; rfl)

/-- `calculateLineDiscounts`: the rows written back and the new running total -/
theorem src_calculateLineDiscounts (o : Ops) (sub : String → Nat) (ds : List BillCalcSrc.LineDiscount)
    (sum total : Amount) (cur rr : String) :
    let r := BillCalcSrc.calculateLineDiscounts o sub ds sum total cur rr
    (r.2.map toAdj, r.1) = lineDiscounts o (ruleOf rr) (sub cur) sum (ds.map toAdj) total :=
  calculateLineDiscounts_eq o sub ds sum total cur rr

/-- `calculateLineCharges` -/
theorem src_calculateLineCharges (o : Ops) (sub : String → Nat) (cs : List LineAdj) (q sum total : Amount) (cur rr : String) :
    let r := BillCalcSrc.calculateLineCharges o sub cs q sum total cur rr
    (r.2, r.1) = lineCharges o (ruleOf rr) (sub cur) q sum cs total :=
  calculateLineCharges_eq o sub cs q sum total cur rr

/-- `determineSubLinePrecision` -/
theorem src_determineSubLinePrecision (o : Ops) (sub : String → Nat) (fI : BillCalcSrc.Item → Item)
    (hfI : ∀ it, (fI it).price = it.Price) (sls : List BillCalcSrc.SubLine) :
    BillCalcSrc.determineSubLinePrecision o sub sls = subLinePrecision (sls.map (toSubLine fI)) :=
  determineSubLinePrecision_eq o sub fI hfI sls

/-- `(*LineDiscount).round`, `(*LineCharge).round`, `(*SubLine).round` -/
theorem src_adj_rounds (o : Ops) (sub : String → Nat) (fI : BillCalcSrc.Item → Item) (e : ℕ) :
    (∀ d, toAdj (BillCalcSrc.LineDiscount_round o sub d e) = roundAdj o e (toAdj d)) ∧
    (∀ c, BillCalcSrc.LineCharge_round o sub c e = roundAdj o e c) ∧
    (∀ sl, toSubLine fI (BillCalcSrc.SubLine_round o sub sl e) = roundSubLine o e (toSubLine fI sl)) :=
  ⟨fun _ => rfl, fun _ => rfl, fun ⟨q, it, sm, ds, cs, tt⟩ => by cases sm <;> cases tt <;> rfl⟩

/-- `(*Line).round` -/
theorem src_Line_round (o : Ops) (sub : String → Nat) (fI : BillCalcSrc.Item → Item)
    (hfI : ∀ it, (fI it).price = it.Price) (l : BillCalcSrc.Line) :
    toLine fI (BillCalcSrc.Line_round o sub l) = roundLine o (toLine fI l) := by
  unfold BillCalcSrc.Line_round
  simp only [forIn_list_id, pure_bind]
  simp only [Id.run, id_pure, forList_append, List.nil_append]
  obtain ⟨q, it, bd, sm, ds, cs, tx, tt, sb⟩ := l
  cases it with
  | none => rfl
  | some it =>
    have h := hfI it
    obtain ⟨cur, pr, alts⟩ := it
    cases pr with
    | none => simp [toLine, roundLine, h]
    | some p =>
      obtain ⟨hd, hc, hs⟩ := src_adj_rounds o sub fI p.exp
      cases sm <;> cases tt <;> simp [toLine, roundLine, h, hd, hc, hs]

/-- `roundLines` -/
theorem src_roundLines (o : Ops) (sub : String → Nat) (fI : BillCalcSrc.Item → Item)
    (hfI : ∀ it, (fI it).price = it.Price) (ls : List BillCalcSrc.Line) :
    (BillCalcSrc.roundLines o sub ls).map (toLine fI) = (ls.map (toLine fI)).map (roundLine o) := by
  unfold BillCalcSrc.roundLines
  simp only [forIn_list_id, pure_bind]
  simp only [Id.run, id_pure, forList_append, List.nil_append, List.map_map]
  exact List.map_congr_left fun l _ => src_Line_round o sub fI hfI l

/-- `calculateDiscounts` and `calculateCharges` -/
theorem src_calculateDiscounts_Charges (o : Ops) (sub : String → Nat) (ds : List DocAdj) (cur : String) (sum : Amount) (rr : String) :
    BillCalcSrc.calculateDiscounts o sub ds cur sum rr = ds.map (docAdj o (ruleOf rr) (sub cur) sum) ∧
    BillCalcSrc.calculateCharges o sub ds cur sum rr = ds.map (docAdj o (ruleOf rr) (sub cur) sum) := by
  -- `calculateCharges` is the same text on the same record as `calculateDiscounts`: the translations are
  -- definitionally equal (so are the other charge / discount pairs below)
  suffices h : BillCalcSrc.calculateDiscounts o sub ds cur sum rr = ds.map (docAdj o (ruleOf rr) (sub cur) sum) from ⟨h, h⟩
  unfold BillCalcSrc.calculateDiscounts
  simp only [forIn_list_id, pure_bind]
  simp only [Id.run, id_pure, len_eq_zero, ← List.isEmpty_iff]
  split
  · rename_i h; cases ds <;> simp_all
  · rw [forList_map _ (docAdj o (ruleOf rr) (sub cur) sum ∘ Prod.fst), List.nil_append,
      ← List.map_map, List.zipIdx_map_fst]
    intro ⟨⟨pc, b, am, tx⟩, i⟩ s
    cases pc with
    | none => simp [docAdj, applyRoundingRule]
    | some p =>
      dsimp +instances only [docAdj, Function.comp, some_get!]
      cases pctIsZero p <;> cases b <;> rfl

/-- `calculateDiscountSum` and `calculateChargeSum` -/
theorem src_adjustment_sums (o : Ops) (sub : String → Nat) (ds : List DocAdj) (cur : String) :
    BillCalcSrc.calculateDiscountSum o sub ds cur = adjSum o (sub cur) ds ∧
    BillCalcSrc.calculateChargeSum o sub ds cur = adjSum o (sub cur) ds := by
  suffices h : BillCalcSrc.calculateDiscountSum o sub ds cur = adjSum o (sub cur) ds from ⟨h, h⟩
  unfold BillCalcSrc.calculateDiscountSum adjSum
  simp only [forIn_list_id, bind_pure_comp]
  simp only [Id.run, id_pure, len_eq_zero, ← List.isEmpty_iff, List.foldl_map]
  rw [forList_eq_foldl _ _ (fun _ _ => rfl)]
  rfl

/-- `(*Discount).round`, `(*Charge).round`, `roundDiscounts`, `roundCharges` -/
theorem src_docAdj_rounds (o : Ops) (sub : String → Nat) (cur : String) :
    (∀ m, BillCalcSrc.Discount_round o sub m cur = roundDocAdj o (sub cur) m) ∧
    (∀ m, BillCalcSrc.Charge_round o sub m cur = roundDocAdj o (sub cur) m) ∧
    (∀ ds, BillCalcSrc.roundDiscounts o sub ds cur = ds.map (roundDocAdj o (sub cur))) ∧
    (∀ ds, BillCalcSrc.roundCharges o sub ds cur = ds.map (roundDocAdj o (sub cur))) := by
  have h1 : ∀ m, BillCalcSrc.Discount_round o sub m cur = roundDocAdj o (sub cur) m := by
    intro ⟨p, b, a, tx⟩
    cases b with
    | none => rfl
    | some b =>
      by_cases h : b.exp > sub cur <;> simp [BillCalcSrc.Discount_round, roundDocAdj, Id.run, id_pure, h]
  have h2 : ∀ ds, BillCalcSrc.roundDiscounts o sub ds cur = ds.map (roundDocAdj o (sub cur)) := by
    intro ds
    unfold BillCalcSrc.roundDiscounts
    simp only [forIn_list_id, pure_bind]
    simp only [Id.run, id_pure, h1, forList_append, List.nil_append]
  exact ⟨h1, h1, h2, h2⟩

/-- `(*Totals).round` -/
theorem src_Totals_round (o : Ops) (sub : String → Nat) (t : Totals) (zero : Amount) :
    BillCalcSrc.Totals_round o sub t zero = roundTotals o zero.exp t := by
  obtain ⟨s, d, c, ti, tot, txs, tx, twt, rd, pay, adv, due⟩ := t
  cases d <;> cases c <;> cases ti <;> cases adv <;> cases due <;> rfl

/-- `(*Totals).reset`: every figure is cleared, the externally supplied rounding stays
    (the model builds the totals from scratch in `rawTotals`, keeping `rounding`) -/
theorem src_Totals_reset (o : Ops) (sub : String → Nat) (t : Totals) (zero : Amount) :
    BillCalcSrc.Totals_reset o sub t zero =
      { sum := zero, discount := none, charge := none, taxIncluded := none, total := zero, taxes := none, tax := zero,
        totalWithTax := zero, rounding := t.rounding, payable := zero, advances := none, due := none } :=
  rfl

/-- `(*pay.Advance).CalculateFrom` and `(*PaymentDetails).calculateAdvances` -/
theorem src_calculateAdvances (o : Ops) (sub : String → Nat) (p : BillCalcSrc.PaymentDetails) (zero twt : Amount) :
    (∀ a : Advance, PayCalcSrc.Advance_CalculateFrom o sub a twt =
      (match a.percent with | some pc => { a with amount := pctOf o pc twt } | none => a)) ∧
    BillCalcSrc.PaymentDetails_calculateAdvances o sub p zero twt =
      { p with Advances := p.Advances.map (calcAdvance o zero.exp twt) } := by
  refine ⟨fun ⟨pc, am⟩ => by cases pc <;> rfl, ?_⟩
  unfold BillCalcSrc.PaymentDetails_calculateAdvances
  simp only [forIn_list_id, pure_bind]
  simp only [Id.run, id_pure]
  rw [forList_map _ (calcAdvance o zero.exp twt) (fun ⟨pc, am⟩ s => by cases pc <;> rfl)]
  rfl

/-- `(*PaymentDetails).totalAdvance` at the currency's zero: the total of the
    model, and the stored amounts rounded as in `finish`; nil gives nil -/
theorem src_totalAdvance (o : Ops) (sub : String → Nat) (p : BillCalcSrc.PaymentDetails) (c : ℕ) :
    BillCalcSrc.PaymentDetails_totalAdvance o sub (some p) ⟨0, c⟩ =
      (advanceTotal o c p.Advances,
       some { p with Advances := p.Advances.map (fun a => { a with amount := o.rescale a.amount c }) }) ∧
    BillCalcSrc.PaymentDetails_totalAdvance o sub none ⟨0, c⟩ = (none, none) := by
  refine ⟨?_, rfl⟩
  unfold BillCalcSrc.PaymentDetails_totalAdvance advanceTotal
  simp only [forIn_list_id, pure_bind]
  simp only [Id.run, id_pure, len_eq_zero, ← List.isEmpty_iff]
  rw [forList_effect _ (fun s (x : Advance) => accum o s x.amount)
      (fun (x : Advance) => ({ x with amount := o.rescale x.amount c } : Advance))]
  · obtain ⟨advs⟩ := p
    cases advs <;> simp [List.foldl_map]
  · exact fun _ _ => rfl

/-- `(*pay.Terms).CalculateDues` -/
theorem src_CalculateDues (o : Ops) (sub : String → Nat) (t : PayCalcSrc.Terms) (zero sum : Amount) :
    PayCalcSrc.Terms_CalculateDues o sub (some t) zero sum =
      some { t with DueDates := t.DueDates.map (calcDue o zero.exp sum) } ∧
    PayCalcSrc.Terms_CalculateDues o sub none zero sum = none := by
  refine ⟨?_, rfl⟩
  unfold PayCalcSrc.Terms_CalculateDues
  simp only [forIn_list_id, pure_bind]
  simp only [Id.run, id_pure]
  rw [forList_map _ (calcDue o zero.exp sum)]
  · simp
  · intro ⟨pc, am⟩ s
    cases pc with
    | none => rfl
    | some p => cases hz : pctIsZero p <;> simp [calcDue, hz]

/-! ### the error-returning functions of bill/line_calculate.go

`toModel f` reads the result of an error function as the model's: `.ok a ↦ .ok (f a)`,
`.error e ↦ .error (errOf e)` (the model's error by the innermost message).  `toItem sub cur`
adds what the model's item carries besides the Go fields: the subunits of the item's currency
(of the document's when it names none).  `hr` says that the model's exchange rates carry the
subunits of their destination currency (`XRate.toSub`, an input of the model; Go reads
`er.To.Def()`).  What the Go functions have written through `item` / `sl` before returning an
error is not part of these statements: see `errors_BillCalcSrc_as_reviewed`. -/

/-- `calculateLineItemPrice` (for an item that has a price: the only way it is called) = `Calc.itemPrice`:
    own currency, alternative price in the document's currency, exchange rate, "no exchange rate" -/
theorem src_calculateLineItemPrice (o : Ops) (sub : String → Nat) (it : BillCalcSrc.Item) (p0 : Amount)
    (hp : it.Price = some p0) (cur : String) (rates : List XRate) (hr : ∀ r ∈ rates, r.toSub = sub r.to) :
    toModel (toItem sub cur) (BillCalcSrc.calculateLineItemPrice o sub it cur rates)
      = itemPrice o cur (sub cur) rates (toItem sub cur it) p0 :=
  calculateLineItemPrice_eq o sub it p0 hp cur rates hr

example : ∃ it : BillCalcSrc.Item, ∃ p0, it.Price = some p0 ∧ it.Currency ≠ "" ∧ it.AltPrices ≠ [] :=
  ⟨⟨"USD", some ⟨100, 2⟩, [⟨"EUR", ⟨90, 2⟩⟩]⟩, _, rfl, by decide, by decide⟩

/-- `currency.Convert` as the configuration reads it = the model's rate lookup and conversion -/
theorem src_convertRates (o : Ops) (sub : String → Nat) (rates : List XRate) (hr : ∀ r ∈ rates, r.toSub = sub r.to)
    (f t : String) (h : f ≠ t) (a : Amount) :
    convertRates o sub rates f t a = (findRate rates f t).map (fun r => convert o r a) :=
  convertRates_eq o sub rates hr f t h a

example : ∃ (sub : String → Nat) (rates : List XRate), rates ≠ [] ∧ ∀ r ∈ rates, r.toSub = sub r.to :=
  ⟨fun _ => 2, [⟨"USD", "EUR", 2, ⟨9, 1⟩⟩], by decide, by simp⟩

/-- `calculateSubLine` = `Calc.calcSubLine`, for every sub-line -/
theorem src_calculateSubLine (o : Ops) (sub : String → Nat) (sl : BillCalcSrc.SubLine) (cur : String)
    (rates : List XRate) (rr : String) (hr : ∀ r ∈ rates, r.toSub = sub r.to) :
    toModel (toSubLine (toItem sub cur)) (BillCalcSrc.calculateSubLine o sub sl cur rates rr)
      = calcSubLine o cur (sub cur) rates (ruleOf rr) (toSubLine (toItem sub cur) sl) :=
  calculateSubLine_eq o sub sl cur rates rr hr

/-- `calculateLine` = `Calc.calcLine`, for every operation set, currency table, document currency,
    rates and rounding-rule key, and every line WITHOUT SUBSTITUTED SUB-LINES (`hs`): no item /
    breakdown (each sub-line through `calculateSubLine`, the first error ends everything; the item
    price replaced by the re-scaled sum of the sub-line totals when one exists) / no price / item-price
    error / price raised to the currency's decimals (+2 under `precise`), sum rounded by the rule,
    discounts, charges.  The hypothesis is needed: the model has no substituted sub-lines, and an
    exchange-rate error inside one makes Go fail (`substituted: (i: …)`) where the model goes on.
    With it the loop over `l.Substituted` does not run; what it writes otherwise (normalised
    sub-lines, not read by any total) is outside every statement here. -/
theorem src_calculateLine (o : Ops) (sub : String → Nat) (l : BillCalcSrc.Line) (cur : String)
    (rates : List XRate) (rr : String) (hr : ∀ r ∈ rates, r.toSub = sub r.to) (hs : l.Substituted = []) :
    toModel (toLine (toItem sub cur)) (BillCalcSrc.calculateLine o sub l cur rates rr)
      = calcLine o cur (sub cur) rates (ruleOf rr) (toLine (toItem sub cur) l) :=
  calculateLine_eq o sub l cur rates rr hr hs

/-- the regenerated `calculateLine` splits exactly as the proof reads it: without breakdown it is
    the finishing part, with one it is the breakdown loop followed by the finishing part on the
    line `afterBd` describes (item price replaced when a sub-line has a total) -/
theorem src_calculateLine_shape (o : Ops) (sub : String → Nat) (l : BillCalcSrc.Line) (it : BillCalcSrc.Item) (cur : String)
    (rates : List XRate) (rr : String) (hi : l.Item = some it) (hs : l.Substituted = []) :
    (l.Breakdown = [] → BillCalcSrc.calculateLine o sub l cur rates rr = lineFinish o sub l cur rates rr) ∧
    (l.Breakdown ≠ [] → BillCalcSrc.calculateLine o sub l cur rates rr = (do
      let s ← forIn l.Breakdown.zipIdx ((⟨0, sub cur⟩ : Amount), false, ([] : List BillCalcSrc.SubLine)) (bdBody o sub cur rates rr)
      lineFinish o sub (afterBd o sub cur l s) cur rates rr)) :=
  ⟨fun hb => by
      rw [calculateLine_shape o sub l it cur rates rr hi hs]
      obtain ⟨q, it', bd, sm, ds, cs, tx, tt, sb⟩ := l
      subst hb
      rfl,
    fun _ => calculateLine_shape o sub l it cur rates rr hi hs⟩

/-- `hs` and `hr` are satisfiable by a line that exercises the interesting branches: a USD item
    on a EUR document with a two-row breakdown (one row converted by a rate), a discount and a
    charge; and the regenerated definition computes on it: 2 × (1.00 EUR + 0.90 EUR) − 10 % + 0.50 -/
def srcExampleLine : BillCalcSrc.Line :=
  { Quantity := ⟨2, 0⟩, Item := some ⟨"USD", some ⟨500, 2⟩, []⟩,
    Breakdown := [⟨⟨1, 0⟩, some ⟨"", some ⟨100, 2⟩, []⟩, none, [], [], none⟩,
                  ⟨⟨1, 0⟩, some ⟨"USD", some ⟨100, 2⟩, []⟩, none, [], [], none⟩],
    Sum := none, Discounts := [⟨none, some ⟨⟨10, 2⟩⟩, ⟨0, 0⟩⟩], Charges := [⟨none, none, ⟨50, 2⟩, none, none⟩],
    Taxes := [], Total := none, Substituted := [] }

example : srcExampleLine.Substituted = [] ∧ srcExampleLine.Breakdown ≠ [] ∧
    (∀ r ∈ [(⟨"USD", "EUR", 2, ⟨9, 1⟩⟩ : XRate)], r.toSub = (fun _ => 2) r.to) ∧
    ((BillCalcSrc.calculateLine exactOps (fun _ => 2) srcExampleLine "EUR" [⟨"USD", "EUR", 2, ⟨9, 1⟩⟩] "currency").toOption.map
      (fun l => (l.Item.bind (·.Price), l.Item.map (·.Currency), l.Sum, l.Total))) =
      some (some ⟨190, 2⟩, some "EUR", some ⟨380, 2⟩, some ⟨392, 2⟩) ∧
    -- a missing rate inside the breakdown: the error, nested under its place
    BillCalcSrc.calculateLine exactOps (fun _ => 2) srcExampleLine "EUR" [] "currency" =
      .error (.at "breakdown" (.at "1" (.msg noRateFormat))) := by
  decide +kernel

/-- `calculateLines` = `Calc.calcLines` for lines without substituted sub-lines: every line through
    `calculateLine` in order, the first error ends everything.  (`l.Index = i + 1` is a dropped
    write: `Index` is not represented, see `assumptions_BillCalcSrc_as_reviewed`.) -/
theorem src_calculateLines (o : Ops) (sub : String → Nat) (ls : List BillCalcSrc.Line) (cur : String)
    (rates : List XRate) (rr : String) (hr : ∀ r ∈ rates, r.toSub = sub r.to) (hs : ∀ l ∈ ls, l.Substituted = []) :
    toModel (List.map (toLine (toItem sub cur))) (BillCalcSrc.calculateLines o sub ls cur rates rr)
      = calcLines o cur (sub cur) rates (ruleOf rr) (ls.map (toLine (toItem sub cur))) := by
  rw [calcLines_eq, ← mapE_eq_mapOk]
  rw [← mapE_model (fun l => BillCalcSrc.calculateLine o sub l cur rates rr)
      (calcLine o cur (sub cur) rates (ruleOf rr)) (toLine (toItem sub cur)) (toLine (toItem sub cur))
      (fun i err => GoErr.at (toString (i : Int)) err) (fun _ _ => rfl)
      ls (fun l hl => src_calculateLine o sub l cur rates rr hr (hs l hl)) 0]
  unfold BillCalcSrc.calculateLines
  simp only []
  rw [forIn_except_foldl (fun x : BillCalcSrc.Line × Nat => Except.mapError (fun err => GoErr.at (toString (x.2 : Int)) err)
      (BillCalcSrc.calculateLine o sub x.1 cur rates rr)) (fun s y => s ++ [y])]
  · generalize mapE _ ls.zipIdx = r
    cases r with
    | error e => rfl
    | ok ys => exact congrArg (fun z => toModel _ (.ok z)) (by simpa using foldl_snoc_map id ys [])
  · intro x s
    cases Except.mapError (fun err => GoErr.at (toString (x.2 : Int)) err) (BillCalcSrc.calculateLine o sub x.1 cur rates rr) <;> rfl

example : (∀ l ∈ [srcExampleLine, srcExampleLine], l.Substituted = []) ∧
    ((BillCalcSrc.calculateLines exactOps (fun _ => 2) [srcExampleLine, srcExampleLine] "EUR" [⟨"USD", "EUR", 2, ⟨9, 1⟩⟩] "precise").toOption.map
      (fun ls => ls.map (·.Total))) = some [some ⟨39200, 4⟩, some ⟨39200, 4⟩] ∧
    BillCalcSrc.calculateLines exactOps (fun _ => 2) [{ srcExampleLine with Breakdown := [] }, srcExampleLine] "EUR" [] "precise" =
      .error (.at "0" (.at "item" (.msg noRateFormat))) := by
  decide +kernel

/-! ### headline statements of C01 / C03 over the regenerated definitions -/

/-- C01 "sums never round", about the code: the regenerated `calculateLineSum` is
    exactly the sum of the line totals, at no less than the currency's precision -/
theorem spec_of_the_source_line_sum (sub : String → Nat) (ls : List BillCalcSrc.Line) (cur : String) :
    (BillCalcSrc.calculateLineSum exactOps sub ls cur).toRat = ((ls.filterMap (·.Total)).map Amount.toRat).sum ∧
    sub cur ≤ (BillCalcSrc.calculateLineSum exactOps sub ls cur).exp := by
  rw [calculateLineSum_eq]
  refine ⟨?_, ?_⟩
  · rw [foldl_accum_toRat]; simp [Amount.toRat]
  · exact foldl_accum_exp_ge _ ⟨0, sub cur⟩

/-- what an `.ok` result of the regenerated `calculateLine` says about the model (from `src_calculateLine`) -/
theorem src_calculateLine_ok (o : Ops) (sub : String → Nat) (l l' : BillCalcSrc.Line) (cur : String)
    (rates : List XRate) (rr : String) (hr : ∀ r ∈ rates, r.toSub = sub r.to) (hs : l.Substituted = [])
    (h : BillCalcSrc.calculateLine o sub l cur rates rr = .ok l') :
    calcLine o cur (sub cur) rates (ruleOf rr) (toLine (toItem sub cur) l) = .ok (toLine (toItem sub cur) l') := by
  rw [← src_calculateLine o sub l cur rates rr hr hs, h]; rfl

/-- C01 headline "the line sum is ONE rounding of price × quantity", about the code: for a plain
    line (item priced in the document currency, no breakdown, no substituted sub-lines) the
    regenerated `calculateLine` under `precise` leaves a sum with at least currency + 2 decimals
    whose value is the exact product price × quantity rounded half away from zero exactly once -/
theorem spec_of_the_source_line_sum_precise (sub : String → Nat) (l l' : BillCalcSrc.Line) (it : BillCalcSrc.Item)
    (p : Amount) (cur : String) (rates : List XRate) (hr : ∀ r ∈ rates, r.toSub = sub r.to)
    (hit : l.Item = some it) (hcur : it.Currency = "") (hp : it.Price = some p) (hbd : l.Breakdown = [])
    (hs : l.Substituted = []) (h : BillCalcSrc.calculateLine exactOps sub l cur rates "precise" = .ok l') :
    ∃ s, l'.Sum = some s ∧ sub cur + 2 ≤ s.exp ∧ s.value = roundTo s.exp (p.toRat * l.Quantity.toRat) := by
  have hm := src_calculateLine_ok exactOps sub l l' cur rates "precise" hr hs h
  have hrule : ruleOf "precise" = .precise := by decide
  rw [hrule] at hm
  exact line_sum_precise cur (sub cur) rates (toLine (toItem sub cur) l) (toLine (toItem sub cur) l')
    (toItem sub cur it) p (by simp [toLine, hit]) hcur hp (by simp [toLine, hbd]) hm

/-- the hypotheses are satisfiable and the code computes: 3 × 33.335 EUR under `precise` is 100.0050
    (four decimals, no rounding yet), under `currency` 100.01 (rounded once, half away from zero) -/
def srcPlainLine : BillCalcSrc.Line :=
  { Quantity := ⟨3, 0⟩, Item := some ⟨"", some ⟨33335, 3⟩, []⟩, Breakdown := [], Sum := none,
    Discounts := [], Charges := [], Taxes := [], Total := none, Substituted := [] }

example :
    ((BillCalcSrc.calculateLine exactOps (fun _ => 2) srcPlainLine "EUR" [] "precise").toOption.map (·.Sum)) = some (some ⟨1000050, 4⟩) ∧
    ((BillCalcSrc.calculateLine exactOps (fun _ => 2) srcPlainLine "EUR" [] "currency").toOption.map (·.Sum)) = some (some ⟨10001, 2⟩) := by
  decide +kernel

/-- C01 "presentation", about the code: after the regenerated `(*Totals).round`
    every presented total has exactly the currency's number of decimals -/
theorem spec_of_the_source_presented_precision (sub : String → Nat) (t : Totals) (zero : Amount) :
    let r := BillCalcSrc.Totals_round exactOps sub t zero
    r.sum.exp = zero.exp ∧ r.total.exp = zero.exp ∧ r.tax.exp = zero.exp ∧ r.totalWithTax.exp = zero.exp ∧
    r.payable.exp = zero.exp ∧
    (∀ x, r.discount = some x → x.exp = zero.exp) ∧ (∀ x, r.charge = some x → x.exp = zero.exp) ∧
    (∀ x, r.taxIncluded = some x → x.exp = zero.exp) ∧ (∀ x, r.advances = some x → x.exp = zero.exp) ∧
    (∀ x, r.due = some x → x.exp = zero.exp) := by
  rw [src_Totals_round]
  exact presented_precision zero.exp t

/-- C03 "document rows re-add", about the code: under the currency rule every
    amount the regenerated `calculateDiscounts` / `calculateCharges` leaves has
    exactly the currency's decimals, and the regenerated discount / charge sum is
    exactly the sum of its rows -/
theorem spec_of_the_source_document_rows (sub : String → Nat) (ds : List DocAdj) (cur : String) (sum : Amount) :
    (∀ d ∈ BillCalcSrc.calculateDiscounts exactOps sub ds cur sum "currency", d.amount.exp = sub cur) ∧
    (∀ d ∈ BillCalcSrc.calculateCharges exactOps sub ds cur sum "currency", d.amount.exp = sub cur) ∧
    (∀ s, BillCalcSrc.calculateDiscountSum exactOps sub ds cur = some s → s.toRat = (ds.map (·.amount.toRat)).sum) ∧
    (∀ s, BillCalcSrc.calculateChargeSum exactOps sub ds cur = some s → s.toRat = (ds.map (·.amount.toRat)).sum) := by
  rw [(src_calculateDiscounts_Charges exactOps sub ds cur sum "currency").1, (src_calculateDiscounts_Charges exactOps sub ds cur sum "currency").2,
    (src_adjustment_sums exactOps sub ds cur).1, (src_adjustment_sums exactOps sub ds cur).2]
  have hr : ruleOf "currency" = .currency := by decide
  rw [hr]
  refine ⟨?_, ?_, ?_, ?_⟩
  · intro d hd
    obtain ⟨x, _, rfl⟩ := List.mem_map.mp hd
    exact GoblVerif.Calc.docAdj_currency_exp (sub cur) sum x
  · intro d hd
    obtain ⟨x, _, rfl⟩ := List.mem_map.mp hd
    exact GoblVerif.Calc.docAdj_currency_exp (sub cur) sum x
  · intro s h; exact sums_exact_adjustments (sub cur) ds s h
  · intro s h; exact sums_exact_adjustments (sub cur) ds s h

/-- the hypotheses above are satisfiable and the definitions compute: a 10 %
    discount on 100.00 EUR under the currency rule, through the regenerated code -/
example :
    BillCalcSrc.calculateDiscounts exactOps (fun _ => 2) [⟨some ⟨⟨10, 2⟩⟩, none, ⟨0, 0⟩, []⟩] "EUR" ⟨10000, 2⟩ "currency" =
      [⟨some ⟨⟨10, 2⟩⟩, none, ⟨1000, 2⟩, []⟩] ∧
    BillCalcSrc.calculateDiscountSum exactOps (fun _ => 2) [⟨some ⟨⟨10, 2⟩⟩, none, ⟨1000, 2⟩, []⟩] "EUR" = some ⟨1000, 2⟩ ∧
    (BillCalcSrc.Totals_round exactOps (fun _ => 2)
      { sum := ⟨100005, 3⟩, discount := none, charge := none, taxIncluded := none, total := ⟨100005, 3⟩, taxes := none,
        tax := ⟨0, 2⟩, totalWithTax := ⟨100005, 3⟩, rounding := none, payable := ⟨100005, 3⟩, advances := none,
        due := none } ⟨0, 2⟩).sum = ⟨10001, 2⟩ := by
  decide +kernel

end Src

end GoblVerif.Props.C01
