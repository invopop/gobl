/-
  C10 — Envelope life-cycle outcomes follow its abstract state over any history.

  Only property theorems live here (helper lemmas: Proofs/C10.lean,
  Proofs/Envelope.lean, Proofs/Header.lean, Proofs/EnvelopeSrc.lean).  The concrete state machine is
  `Env.step` (Model/Envelope.lean, mirroring /repo/envelope.go);
  the abstract state `Abs`, the outcome table `specOutcome` and the abstract
  successor `specStep` are in Spec/C10.lean.
-/
import GoblVerif.Spec.C10
import GoblVerif.Proofs.C10
import GoblVerif.Generated.HeaderFacts
import GoblVerif.Generated.EnvelopeFacts
import GoblVerif.Generated.EnvelopeSrc
import GoblVerif.Proofs.EnvelopeSrc

namespace GoblVerif.Props.C10
open GoblVerif GoblVerif.Spec.C10

variable (H : Nat → String)

/-! ## refinement -/

/-- the outcome class of every concrete step is the one the table gives for
    the abstract state — for *every* envelope state, reachable or not -/
theorem refines_outcome (e : Env) (op : Op) :
    (Env.step H e op).2 = specOutcome (abs H e) op := by
  cases op with
  | insert d => cases hd : d.calcOk <;> simp [Env.step, Env.insert, Env.calculate, specOutcome, hd]
  | calculate =>
    cases hdoc : e.doc with
    | none => simp [Env.step, Env.calculate, specOutcome, abs, hdoc]
    | some d => cases hd : d.calcOk <;> simp [Env.step, Env.calculate, specOutcome, abs, docFact, hdoc, hd]
  | editDoc c | toggleCode c => cases hdoc : e.doc <;> simp [Env.step, specOutcome, abs, hdoc]
  | sign k => rw [Env.step, sign_eq]; split <;> simp_all [specOutcome]
  | alterStamp v => cases hs : e.head.stamps <;> simp [Env.step, specOutcome, abs, hs]
  | validate => exact validate_eq_abs H e
  | verify ks => exact verify_eq_abs H e ks
  | roundtrip inj =>
    cases hdoc : e.doc with
    | none => simp [Env.step, specOutcome, abs, hdoc]
    | some d => cases inj <;> simp [Env.step, specOutcome, abs, hdoc]
  | signBadKey | unsign | addStamp p v | addLink k u | addTag t | setMeta k v | setNotes s => rfl

/-- the abstraction commutes with every step: the abstract successor is
    `specStep`, whose two free facts (is the new digest the document's /
    does the header still contain what was signed) are read off the concrete
    successor only where the table leaves them open -/
theorem refines_state (e : Env) (hwf : e.head.WF) (op : Op) :
    abs H (Env.step H e op).1 = specStep (abs H e) op (freeOf H (Env.step H e op).1) := by
  cases op with
  | insert d =>
    cases hd : d.calcOk <;> cases hs : e.sigs <;>
      simp [Env.step, Env.insert, Env.calculate, hd, specStep, abs, docFact, freeOf, Abs.freeContains, hs]
  | calculate =>
    cases hdoc : e.doc with
    | none => simp [Env.step, Env.calculate, specStep, abs, hdoc]
    | some d =>
      cases hd : d.calcOk
      · simp [Env.step, Env.calculate, specStep, abs, docFact, hdoc, hd]
      · cases hs : e.sigs <;>
          simp [Env.step, Env.calculate, hd, specStep, abs, docFact, hdoc, freeOf, Abs.freeContains, hs]
        -- the digest was the document's already: the header does not change
        intro h
        rw [← h]
  | editDoc c | toggleCode c =>
    cases hdoc : e.doc <;> simp [Env.step, specStep, abs, docFact, freeOf, hdoc]
  | sign k =>
    simp only [Env.step, specStep, sign_eq]
    split
    · simp [abs, sigContained, Header.contains_refl e.head hwf]
    · simp [abs, Abs.unsigned]
  | addStamp p v =>
    rw [abs_of_head H e (Env.step H e (.addStamp p v)).1 rfl rfl rfl (dupKeys_addStampL ..) rfl]
    simp [specStep, Env.step, Env.setHead, Header.addStamp, addStampL_ne_nil]
  | alterStamp v =>
    cases hs : e.head.stamps with
    | nil => simp [Env.step, specStep, abs, hs]
    | cons s rest =>
      have : (Env.step H e (.alterStamp v)).1 = e.setHead (e.head.addStamp ⟨s.prv, v⟩) := by simp [Env.step, hs]
      rw [this, abs_of_head H e (e.setHead (e.head.addStamp ⟨s.prv, v⟩)) rfl rfl rfl (dupKeys_addStampL ..) rfl]
      simp [specStep, Env.setHead, Header.addStamp, addStampL_ne_nil, abs, hs]
  | addLink k u => exact abs_of_head H e _ rfl rfl rfl rfl (dupKeys_addLinkL ..)
  | addTag t | setMeta k v | setNotes s => exact abs_of_head H e _ rfl rfl rfl rfl rfl
  | roundtrip inj =>
    cases hdoc : e.doc with
    | none => simp [Env.step, specStep, abs, hdoc]
    | some d => cases inj <;> simp [Env.step, specStep, abs, sigContained, hdoc]
  | signBadKey | unsign | validate | verify ks => rfl

/-- **refinement**: each concrete step's outcome class is the table's entry
    for the abstract state, the abstraction commutes with the step, and the
    invariant (meta is a map) is kept -/
theorem refines (e : Env) (hwf : e.head.WF) (op : Op) :
    (Env.step H e op).2 = specOutcome (abs H e) op ∧
    abs H (Env.step H e op).1 = specStep (abs H e) op (freeOf H (Env.step H e op).1) ∧
    (Env.step H e op).1.head.WF :=
  ⟨refines_outcome H e op, refines_state H e hwf op, step_wf H e op hwf⟩

theorem after_wf (e : Env) (ops : List Op) (hwf : e.head.WF) : (Env.after H e ops).head.WF := by
  induction ops generalizing e with
  | nil => exact hwf
  | cons op ops ih => exact ih _ (step_wf H e op hwf)

/-- over any history the outcomes are the ones the table predicts from the
    abstract states along it -/
theorem refines_history (e : Env) (ops : List Op) : (Env.run H e ops).2 = specTrace H e ops := by
  induction ops generalizing e with
  | nil => rfl
  | cons op ops ih =>
    simp only [Env.run, specTrace]
    rw [← ih, refines_outcome]

/-! ## corollaries, for every state (hence every reachable one) -/

/-- only valid envelopes with a matching digest can be signed: a successful
    `Sign` had a document that validates in the signed context (an invoice
    with its code), a header without duplicate keys, only real entries, and
    the header digest was the digest of the document -/
theorem sign_only_valid_matching (e : Env) (k : Key) (h : (Env.step H e (.sign k)).2 = .ok) :
    (abs H e).validSigned = true ∧ (abs H e).allReal = true ∧ (abs H e).digestOk = true ∧
    ∃ d, e.doc = some d ∧ d.valid = true ∧ (d.needsCode = true → d.hasCode = true) ∧
      e.head.dig = some (digestOf H d) := by
  obtain ⟨h1, h2, h3⟩ := (Abs.signOutcome_ok_iff _).mp ((sign_ok_iff H e k).mp h)
  obtain ⟨d, hd, hv, hc⟩ := abs_validSigned H e h1
  obtain ⟨d', hd', hdig⟩ := (abs_digestOk H e).mp h3
  cases hd.symm.trans hd'
  exact ⟨h1, h2, h3, d, hd, hv, hc, hdig⟩

/-- … and the signed result validates -/
theorem signed_result_validates (e : Env) (k : Key) (h : (Env.step H e (.sign k)).2 = .ok) :
    Env.validate H (Env.step H e (.sign k)).1 = .ok := by
  have h' := (sign_ok_iff H e k).mp h
  rw [Env.step, sign_eq, if_pos h', validate_append, h']

/-- a failed signing leaves the envelope unsigned (all signatures are dropped) -/
theorem failed_sign_leaves_unsigned (e : Env) (k : Key) (h : (Env.step H e (.sign k)).2 ≠ .ok) :
    (Env.step H e (.sign k)).1.sigs = [] ∧ (Env.step H e (.sign k)).1.signed = false := by
  rw [Env.step, sign_eq, if_neg (mt (sign_ok_iff H e k).mpr h)]
  exact ⟨rfl, rfl⟩

/-- stamps are accepted only on signed envelopes: an envelope that validates
    and carries a stamp is signed -/
theorem stamps_only_when_signed (e : Env) (hv : Env.validate H e = .ok) (hs : e.head.stamps ≠ []) :
    e.sigs ≠ [] := by
  intro h0
  have hso := (abs_structOk H e).mp ((validate_ok_iff H e).mp hv).1
  rw [if_pos h0] at hso
  exact hs hso.2

/-- … so a stamp added to an unsigned envelope makes it invalid -/
theorem stamp_on_unsigned_rejected (e : Env) (p v : String) (h0 : e.sigs = []) :
    Env.validate H (Env.step H e (.addStamp p v)).1 ≠ .ok :=
  fun hv => stamps_only_when_signed H _ hv (addStampL_ne_nil e.head.stamps ⟨p, v⟩) h0

/-- an invoice needs its code when signed: a signed envelope that validates
    around a code-requiring document has the code -/
theorem code_required_when_signed (e : Env) (d : Doc) (hv : Env.validate H e = .ok) (hs : e.sigs ≠ [])
    (hd : e.doc = some d) (hn : d.needsCode = true) : d.hasCode = true := by
  have hso := (abs_structOk H e).mp ((validate_ok_iff H e).mp hv).1
  rw [if_neg hs] at hso
  obtain ⟨d', hd', -, hc⟩ := abs_validSigned H e hso.1
  cases hd.symm.trans hd'
  exact hc hn

/-- … and such a document without code cannot be signed -/
theorem sign_without_code_fails (e : Env) (d : Doc) (k : Key) (hd : e.doc = some d)
    (hn : d.needsCode = true) (hc : d.hasCode = false) : (Env.step H e (.sign k)).2 = .validation := by
  have hvs : (abs H e).validSigned = false := Bool.eq_false_iff.mpr fun h => by
    obtain ⟨d', hd', -, hc'⟩ := abs_validSigned H e h
    cases hd.symm.trans hd'
    rw [hc' hn] at hc
    cases hc
  rw [refines_outcome]
  simp [specOutcome, Abs.signOutcome, hvs]

/-- after any history every entry of the signature list was there at the start, is a `null` entry
    (one can enter through a JSON round trip), or is a signature produced by a `sign` step of that
    history over the header of that moment -/
theorem every_sig_is_real_or_null (e : Env) (ops : List Op) (x : Option Sig)
    (hx : x ∈ (Env.after H e ops).sigs) :
    x ∈ e.sigs ∨ x = none ∨ ∃ sg ∈ signLog H e ops, x = some sg := by
  induction ops generalizing e with
  | nil => exact Or.inl hx
  | cons op ops ih =>
    rcases ih _ hx with h | h | ⟨sg, hsg, hxe⟩
    · rcases step_sigs H e op x h with h | ⟨h, _⟩ | ⟨k, rfl, hk⟩
      · exact Or.inl h
      · exact Or.inr (Or.inl h)
      · exact Or.inr (Or.inr ⟨⟨k, e.head⟩, List.mem_cons_self, hk⟩)
    · exact Or.inr (Or.inl h)
    · exact Or.inr (Or.inr ⟨sg, List.mem_append_right _ hsg, hxe⟩)

/-- a `null` entry is never accepted: it fails `Validate` and every `Verify` -/
theorem null_entry_rejected (e : Env) (h : none ∈ e.sigs) :
    Env.validate H e ≠ .ok ∧ ∀ ks, e.verify ks ≠ .ok := by
  refine ⟨fun hv => ?_, fun ks hv => ?_⟩
  · have hso := (abs_structOk H e).mp ((validate_ok_iff H e).mp hv).1
    rw [if_neg (List.ne_nil_of_mem h)] at hso
    exact hso.2 h
  · obtain ⟨sg, hsg, -⟩ := ((Env.verify_ok_iff e ks).mp hv).2 none h
    cases hsg

/-- **every entry is a real signature**: an envelope that validates has no `null` entry, so every
    entry of the list of a valid envelope reached from an unsigned one was produced by a `sign` step
    of the history, over the header of that moment -/
theorem every_sig_is_real (e : Env) (ops : List Op) (h0 : e.sigs = [])
    (hv : Env.validate H (Env.after H e ops) = .ok) :
    ∀ x ∈ (Env.after H e ops).sigs, ∃ sg ∈ signLog H e ops, x = some sg := by
  intro x hx
  rcases every_sig_is_real_or_null H e ops x hx with h | rfl | h
  · rw [h0] at h; cases h
  · exact absurd hv (null_entry_rejected H _ hx).1
  · exact h

/-- an edit of the document breaks a matching digest (digest-injectivity is
    the hypothesis): the table's free fact `digestOk` after `editDoc` is
    `false` whenever the new content differs -/
theorem edit_breaks_digest (hH : Function.Injective H) (e : Env) (d : Doc) (c : Nat) (hd : e.doc = some d)
    (hok : (abs H e).digestOk = true) (hc : c ≠ d.content) :
    (abs H (Env.step H e (.editDoc c)).1).digestOk = false ∧
    Env.validate H (Env.step H e (.editDoc c)).1 ≠ .ok := by
  obtain ⟨d', hd', hdig⟩ := (abs_digestOk H e).mp hok
  cases hd.symm.trans hd'
  have h1 : (abs H (Env.step H e (.editDoc c)).1).digestOk = false := by
    simpa [Env.step, hd, abs, docFact, hdig, digestOf] using fun he => hc (hH he).symm
  refine ⟨h1, fun hv => ?_⟩
  rw [validate_ok_iff, h1] at hv
  cases hv.2

/-! ## non-vacuity: a history through the interesting branches -/

example :
    (Env.run exH (emptyEnv exUuid)
      [.sign 1, .insert exInvoice, .addStamp "p" "v", .validate, .sign 1, .validate, .verify [1],
       .editDoc 7, .validate, .sign 2, .verify [1], .calculate, .sign 2, .verify [1], .verify [2],
       .roundtrip .null, .validate, .verify [], .unsign, .validate]).2
    = [.validation, .ok, .ok, .validation, .ok, .ok, .ok,
       .ok, .digest, .digest, .unsigned, .ok, .ok, .verifyFailed, .ok,
       .ok, .validation, .verifyFailed, .ok, .validation] := by decide +kernel

example : (Env.run exH (emptyEnv exUuid) [.insert exInvoiceNoCode, .validate, .sign 1, .toggleCode 9, .calculate, .sign 1]).2
    = [.ok, .ok, .validation, .ok, .ok, .ok] := by decide +kernel

example : (emptyEnv exUuid).head.WF := by decide

/-! ## the tie to the source: /repo/envelope.go translated by go2lean

`Generated/EnvelopeSrc.lean` is the Go text of `Signed`, `Validate`,
`ValidateWithContext`, `verifyDigest`, `Sign`, `Unsign`, `calculate`, `Calculate`,
`Insert`, `verifySignature` and `Verify` translated on every run; the calls that
leave envelope.go (signing, digest, struct validation, document calculation,
uuid, error wrapping) are the declared primitives of Model/EnvelopeSrcPrims.lean.
Each regenerated definition is proved equal, for all arguments, to the model
transition it was written for, so `refines` is a statement about what the code
says now.  `EnvSrc.ofEnv H sch e` is the Go envelope that stands for the model's
`e` (`$schema` = sch, the header pointer non-nil, the document's digest =
`digestOf H`); `EnvSrc.goErr o` is the `*gobl.Error` with the key of the class
`o` (nil for ok). -/
namespace Src
open GoblVerif.Generated GoblVerif.EnvSrc

theorem all_translated : EnvelopeSrc.untranslated = [] := rfl

theorem translated_as_listed : EnvelopeSrc.translated =
    ["Envelope.Signed", "var ErrDigest", "Envelope.verifyDigest", "Envelope.ValidateWithContext", "Envelope.Validate",
     "Envelope.Unsign", "var ErrValidation", "var ErrSignature", "Envelope.Sign", "var EnvelopeSchema",
     "var ErrCalculation", "Envelope.calculate", "var ErrNoDocument", "Envelope.Calculate", "var ErrInternal",
     "Envelope.Insert", "Envelope.verifySignature", "Envelope.Verify"] := rfl

theorem struct_Envelope_as_mapped :
    EnvelopeSrc.struct_Envelope = [("Schema", "schema.ID"), ("Head", "*head.Header"), ("Document", "*schema.Object"),
      ("Signatures", "[]*dsig.Signature")] ∧
    EnvelopeSrc.structLean_Envelope = ("GoblVerif.EnvSrc.Envelope", ["Schema", "Head", "Document", "Signatures"]) ∧
    EnvelopeSrc.structOmitted_Envelope = [] := ⟨rfl, rfl, rfl⟩

theorem struct_Header_as_mapped :
    EnvelopeSrc.struct_head_Header = [("UUID", "uuid.UUID"), ("Digest", "*dsig.Digest"), ("Stamps", "[]*head.Stamp"),
      ("Links", "[]*head.Link"), ("Tags", "[]string"), ("Meta", "cbc.Meta"), ("Notes", "string")] ∧
    EnvelopeSrc.structLean_head_Header = ("GoblVerif.Header", ["uuid", "dig", "stamps", "links", "tags", "metas", "notes"]) ∧
    EnvelopeSrc.structOmitted_head_Header = [] ∧
    EnvelopeSrc.struct_dsig_Digest = [("Algorithm", "dsig.DigestAlgorithm"), ("Value", "string")] ∧
    EnvelopeSrc.structOmitted_dsig_Digest = [] := ⟨rfl, rfl, rfl, rfl, rfl⟩

/-- what the translation assumes beyond its general reading of Go: the
    primitives (Model/EnvelopeSrcPrims.lean says what each means), the
    functions that write their receiver, the writes through the header pointer,
    the calls among them, the primitives that fill an out-parameter -/
theorem assumptions_as_reviewed :
    EnvelopeSrc.nonNilElems = ["[]*head.Link", "[]*head.Stamp"] ∧
    EnvelopeSrc.mapRanges = [] ∧ EnvelopeSrc.mapNilTests = [] ∧
    EnvelopeSrc.mapWrites = [("Envelope.Verify", "ve[strconv.Itoa(i)]")] ∧
    EnvelopeSrc.inOutParams = [("Envelope.Unsign", "e"), ("Envelope.Sign", "e"), ("Envelope.calculate", "e"),
      ("Envelope.Calculate", "e"), ("Envelope.Insert", "e")] ∧
    EnvelopeSrc.ptrWrites = [("Envelope.calculate", "e.Head.UUID"), ("Envelope.calculate", "e.Head.Digest")] ∧
    EnvelopeSrc.inOutCalls = [("Envelope.Calculate", "e.calculate()"), ("Envelope.Insert", "e.calculate()")] ∧
    EnvelopeSrc.outPrimCalls = [("Envelope.verifySignature", "sig.UnsafePayload(h)"),
      ("Envelope.verifySignature", "sig.VerifyPayload(k, h)")] ∧
    EnvelopeSrc.natSubs = [] ∧ EnvelopeSrc.fuelChecks = [] := ⟨rfl, rfl, rfl, rfl, rfl, rfl, rfl, rfl, rfl, rfl⟩

theorem named_types_as_reviewed :
    EnvelopeSrc.namedTypes.map (fun x => (x.1, x.2.2)) =
      [("context.Context", "Bool"), ("dsig.PrivateKey", "GoblVerif.Key"), ("dsig.PublicKey", "GoblVerif.Key"),
       ("dsig.Signature", "GoblVerif.Sig"), ("error", "Option GoblVerif.EnvSrc.Err"), ("schema.ID", "String"),
       ("schema.Object", "GoblVerif.EnvSrc.Obj"), ("uuid.UUID", "String")] := rfl

theorem primitives_as_reviewed : EnvelopeSrc.primitives = [
    ("Envelope.Digest", "GoblVerif.EnvSrc.digestPrim {0}"),
    ("Error.WithCause", "GoblVerif.EnvSrc.withCause {0} {1}"),
    ("Error.WithReason", "{0}"),
    ("NewError", "(some (GoblVerif.EnvSrc.Err.gobl {0:lit}))"),
    ("context.Background", "false"),
    ("dsig.Digest.Equals", "GoblVerif.EnvSrc.digestEquals {0} {1}"),
    ("dsig.PrivateKey.Sign", "GoblVerif.EnvSrc.keySign {0} {1}"),
    ("dsig.Signature.UnsafePayload", "GoblVerif.EnvSrc.sigPayload {0}"),
    ("dsig.Signature.VerifyPayload", "GoblVerif.EnvSrc.sigVerifyPayload {0} {1}"),
    ("errors.New", "GoblVerif.EnvSrc.errNew {0:lit}"),
    ("head.Header.Contains", "GoblVerif.Header.contains ({0}.get!) ({1}.get!)"),
    ("head.NewHeader", "GoblVerif.EnvSrc.newHeader"),
    ("internal.SignedContext", "true"),
    ("schema.CheckNullElements", "GoblVerif.EnvSrc.checkNull {0}"),
    ("schema.ID.Add", "GoblVerif.EnvSrc.envelopeSchemaId"),
    ("schema.NewObject", "GoblVerif.EnvSrc.newObject {0}"),
    ("schema.Object.Calculate", "GoblVerif.EnvSrc.objCalculate {0}"),
    ("schema.Object.IsEmpty", "GoblVerif.EnvSrc.objIsEmpty {0}"),
    ("strconv.Itoa", "(toString {0})"),
    ("uuid.UUID.IsZero", "GoblVerif.EnvSrc.uuidIsZero {0}"),
    ("uuid.V7", "GoblVerif.EnvSrc.freshUUID"),
    ("validation.ValidateStructWithContext", "GoblVerif.EnvSrc.validateStruct {0} {1}"),
    ("wrapError", "GoblVerif.EnvSrc.wrapError {0}")] := rfl

/-- **`(*Envelope).Signed`, regenerated, is `Env.signed`** -/
theorem src_Signed (sch : String) (e : Env) : EnvelopeSrc.Envelope_Signed (ofEnv H sch e) = e.signed :=
  EnvSrc.src_Signed H sch e

/-- **`(*Envelope).Unsign`, regenerated, is `Env.unsign`** (only the signatures
    go: header and stamps stay, C10-4) -/
theorem src_Unsign (sch : String) (e : Env) :
    EnvelopeSrc.Envelope_Unsign (ofEnv H sch e) = ofEnv H sch e.unsign :=
  EnvSrc.src_Unsign H sch e

/-- **`(*Envelope).Validate` (through `ValidateWithContext` and `verifyDigest`),
    regenerated, is `Env.validate`**: the signed context exactly when there are
    signatures, struct validation first, then the digest comparison — for every
    envelope with a `$schema` -/
theorem src_Validate (sch : String) (hs : sch ≠ "") (e : Env) :
    EnvelopeSrc.Envelope_Validate (ofEnv H sch e) = goErr (Env.validate H e) :=
  EnvSrc.src_Validate H sch hs e

/-- **`(*Envelope).Sign`, regenerated, is `Env.sign`**: same error class and
    same envelope afterwards (the new signature appended, or — on a failed
    validation — ALL signatures dropped), for every envelope and key -/
theorem src_Sign (sch : String) (hs : sch ≠ "") (e : Env) (k : Key) :
    EnvelopeSrc.Envelope_Sign (ofEnv H sch e) (some k)
      = (goErr (Env.step H e (.sign k)).2, ofEnv H sch (Env.step H e (.sign k)).1) :=
  EnvSrc.src_Sign H sch hs e k

/-- … with a key without material: `signature`, envelope unchanged (`Op.signBadKey`) -/
theorem src_Sign_badKey (sch : String) (e : Env) :
    EnvelopeSrc.Envelope_Sign (ofEnv H sch e) none
      = (goErr (Env.step H e .signBadKey).2, ofEnv H sch (Env.step H e .signBadKey).1) :=
  EnvSrc.src_Sign_badKey H sch e

/-- … and the branch the model cannot be in (no header): refused, nothing changes -/
theorem src_Sign_noHead (E : EnvSrc.Envelope) (key : Option Key) (h : E.Head = none) :
    EnvelopeSrc.Envelope_Sign E key = (goErr .validation, E) :=
  EnvSrc.src_Sign_noHead E key h

/-- **`(*Envelope).Calculate`, regenerated, is `Env.calculate`** on an envelope
    with a document whose header has an identifier (the model does not follow
    the assignment of a fresh uuid): `$schema` reset, document calculated, the
    header digest refreshed.  Signatures do NOT stop it (there is no refusal
    when signed in the code) -/
theorem src_Calculate (sch : String) (e : Env) (d : Doc) (hdoc : e.doc = some d)
    (hz : uuidIsZero (some e.head.uuid) = false) :
    EnvelopeSrc.Envelope_Calculate (ofEnv H sch e)
      = (goErr (Env.step H e .calculate).2, ofEnv H EnvelopeSrc.EnvelopeSchema (Env.step H e .calculate).1) :=
  EnvSrc.src_Calculate H sch e d hdoc hz

example : ∃ (e : Env) (d : Doc), e.doc = some d ∧ uuidIsZero (some e.head.uuid) = false :=
  ⟨{ emptyEnv exUuid with doc := some exInvoice }, exInvoice, rfl, by decide⟩

/-- … without a document (nil, or `NewEnvelope`'s empty object): `no-document`, nothing changes -/
theorem src_Calculate_noDoc (sch : String) (e : Env) (hdoc : e.doc = none) :
    EnvelopeSrc.Envelope_Calculate (ofEnv H sch e)
      = (goErr (Env.step H e .calculate).2, ofEnv H sch (Env.step H e .calculate).1) :=
  EnvSrc.src_Calculate_noDoc H sch e hdoc

theorem src_Calculate_emptyObj (E : EnvSrc.Envelope) (o : Obj) (h : E.Document = some o) (he : o.empty = true) :
    EnvelopeSrc.Envelope_Calculate E = (goErr .noDocument, E) :=
  EnvSrc.src_Calculate_emptyObj E o h he

/-- **`(*Envelope).Insert`, regenerated, is `Env.insert`**, whether the argument
    is a `*schema.Object` or a payload that `schema.NewObject` accepts: the
    document is replaced FIRST, then calculated -/
theorem src_Insert (sch : String) (e : Env) (d : Doc) (hz : uuidIsZero (some e.head.uuid) = false) :
    EnvelopeSrc.Envelope_Insert (ofEnv H sch e) (.obj (some (ofDoc H d)))
      = (goErr (Env.step H e (.insert d)).2, ofEnv H EnvelopeSrc.EnvelopeSchema (Env.step H e (.insert d)).1) ∧
    EnvelopeSrc.Envelope_Insert (ofEnv H sch e) (.other (some (ofDoc H d)) none)
      = (goErr (Env.step H e (.insert d)).2, ofEnv H EnvelopeSrc.EnvelopeSchema (Env.step H e (.insert d)).1) :=
  ⟨EnvSrc.src_Insert_obj H sch e d hz, EnvSrc.src_Insert_other H sch e d hz⟩

/-- … a nil document is refused and nothing changes -/
theorem src_Insert_nil (sch : String) (e : Env) :
    EnvelopeSrc.Envelope_Insert (ofEnv H sch e) .nil = (goErr .noDocument, ofEnv H sch e) :=
  EnvSrc.src_Insert_nil H sch e

/-- **`(*Envelope).verifySignature`, regenerated, is `verifySignature`**: same
    verdict (as the `errors.New` text) for every header, signature entry (nil
    too) and key list -/
theorem src_verifySignature (sch : String) (e : Env) (sg : Option Sig) (ks : List Key) :
    EnvelopeSrc.Envelope_verifySignature (ofEnv H sch e) sg (ks.map some)
      = verdictErr (verifySignature e.head sg ks) :=
  EnvSrc.src_verifySignature H sch e sg ks

/-- **`(*Envelope).Verify`, regenerated, is `Env.verify`**: `signature` when
    there is nothing to verify, nil exactly when EVERY entry verifies, otherwise
    `validation` -/
theorem src_Verify (sch : String) (e : Env) (ks : List Key) :
    EnvelopeSrc.Envelope_Verify (ofEnv H sch e) (ks.map some) = verifyErr (e.verify ks) :=
  EnvSrc.src_Verify H sch e ks

/-- the refinement theorem read off the regenerated code: the error class that
    the translated `Sign` / `Validate` / `Verify` return is the entry of the
    16-row table for the abstract state -/
theorem src_refines_outcome (sch : String) (hs : sch ≠ "") (e : Env) :
    (∀ k, (EnvelopeSrc.Envelope_Sign (ofEnv H sch e) (some k)).1 = goErr (specOutcome (abs H e) (.sign k))) ∧
    EnvelopeSrc.Envelope_Validate (ofEnv H sch e) = goErr (specOutcome (abs H e) .validate) ∧
    (∀ ks, outcomeOf (EnvelopeSrc.Envelope_Verify (ofEnv H sch e) (ks.map some)) ≠ .ok ↔
      specOutcome (abs H e) (.verify ks) ≠ .ok) := by
  refine ⟨fun k => ?_, ?_, fun ks => ?_⟩
  · rw [src_Sign H sch hs e k, refines_outcome]
  · rw [src_Validate H sch hs e, ← refines_outcome]; rfl
  · rw [src_Verify H sch e ks, ← refines_outcome]
    simp only [Env.step]
    cases e.verify ks <;> simp [verifyErr, outcomeOf, VerifyOut.outcome]

example : ∃ sch : String, sch ≠ "" := ⟨EnvelopeSrc.EnvelopeSchema, by decide⟩

/-- a failed second `Sign` of the regenerated code leaves NO signature (C10-1) -/
theorem src_failed_sign_leaves_unsigned (sch : String) (hs : sch ≠ "") (e : Env) (k : Key)
    (h : (EnvelopeSrc.Envelope_Sign (ofEnv H sch e) (some k)).1 ≠ none) :
    (EnvelopeSrc.Envelope_Sign (ofEnv H sch e) (some k)).2.Signatures = [] := by
  rw [src_Sign H sch hs e k] at h ⊢
  have hne : (Env.step H e (.sign k)).2 ≠ .ok := by
    intro hc; apply h; simp [hc, goErr]
  simp [ofEnv, (failed_sign_leaves_unsigned H e k hne).1]

example : (EnvelopeSrc.Envelope_Sign (ofEnv exH EnvelopeSrc.EnvelopeSchema
      (Env.after exH (emptyEnv exUuid) [.insert exInvoice, .sign 1, .editDoc 7])) (some 2)).1 ≠ none := by decide +kernel

end Src

/-! ## expectations over facts regenerated from /repo on every run

The life-cycle model was written against these shapes: `Sign` appends, then
`Validate`s, and on failure sets `Signatures = nil`; `ValidateWithContext`
switches to the signed context when there are signatures and requires every
entry; stamps must be empty unless signed and duplicates are rejected; the
invoice code is required in the signed context; an empty signature string is
a parse error; `AddStamp` / `AppendLink` replace in place or append. -/
namespace Expect
open GoblVerif.Generated

theorem sign_calls : Envelope.calls_Envelope_Sign = WrittenAgainst.signCalls := rfl
theorem sign_appends_validates_rolls_back : Envelope.assigns_Envelope_Sign = WrittenAgainst.signAssigns := rfl
theorem sign_returns : Envelope.returns_Envelope_Sign = WrittenAgainst.signReturns := rfl
theorem unsign_clears : Envelope.assigns_Envelope_Unsign = WrittenAgainst.unsignAssigns := rfl
theorem signed_is_nonempty : Envelope.returns_Envelope_Signed = WrittenAgainst.signedReturns := rfl
theorem validate_signed_context : Envelope.conds_Envelope_ValidateWithContext = WrittenAgainst.validateConds := rfl
theorem validate_then_digest : Envelope.returns_Envelope_ValidateWithContext = WrittenAgainst.validateReturns := rfl
theorem validate_fields : Envelope.envelopeValidatedFields = WrittenAgainst.validatedFields := rfl
theorem every_signature_entry_required : Envelope.rules_Signatures = WrittenAgainst.rulesSignatures := rfl
theorem digest_error_class : Envelope.returns_Envelope_verifyDigest = WrittenAgainst.verifyDigestReturns := rfl
theorem digest_equals : Envelope.conds_dig_Digest_Equals = WrittenAgainst.digestEqualsConds := rfl
theorem insert_calls : Envelope.calls_Envelope_Insert = WrittenAgainst.insertCalls := rfl
theorem insert_returns : Envelope.returns_Envelope_Insert = WrittenAgainst.insertReturns := rfl
theorem calculate_needs_document : Envelope.conds_Envelope_Calculate = WrittenAgainst.calculateConds ∧
    Envelope.returns_Envelope_Calculate = WrittenAgainst.calculateReturns := ⟨rfl, rfl⟩
theorem calculate_sets_digest : Envelope.assigns_Envelope_calculate = WrittenAgainst.calcAssigns ∧
    Envelope.returns_Envelope_calculate = WrittenAgainst.calcReturns := ⟨rfl, rfl⟩
theorem empty_signature_is_parse_error :
    Envelope.conds_sig_Signature_UnmarshalJSON = WrittenAgainst.sigUnmarshalConds ∧
    Envelope.returns_sig_Signature_UnmarshalJSON = WrittenAgainst.sigUnmarshalReturns := ⟨rfl, rfl⟩
theorem nil_signature_tolerated : Envelope.conds_sig_Signature_Verify = WrittenAgainst.sigVerifyConds ∧
    Envelope.conds_sig_Signature_Unsafe = WrittenAgainst.sigUnsafeConds := ⟨rfl, rfl⟩
theorem invoice_code_required_when_signed : Envelope.invoice_rules_Code = WrittenAgainst.invoiceCodeRule := rfl
theorem signed_context : Envelope.returns_internal_IsSigned = WrittenAgainst.isSignedReturns ∧
    Envelope.returns_internal_SignedContext = WrittenAgainst.signedContextReturns := ⟨rfl, rfl⟩

theorem header_validated_fields : Head.validatedFields = WrittenAgainst.headerValidated := rfl
theorem stamps_only_when_signed_rule : Head.rules_Stamps = WrittenAgainst.rulesStamps := rfl
theorem links_rule : Head.rules_Links = WrittenAgainst.rulesLinks := rfl
theorem digest_required : Head.rules_Digest = WrittenAgainst.rulesDigest := rfl
theorem duplicate_detection : Head.stampInConds = WrittenAgainst.stampInConds ∧
    Head.dupStampConds = WrittenAgainst.dupStampConds ∧ Head.dupLinkConds = WrittenAgainst.dupLinkConds := ⟨rfl, rfl, rfl⟩
theorem addStamp_replaces_or_appends : Head.addStampConds = WrittenAgainst.addStampConds ∧
    Head.addStampReturns = WrittenAgainst.addStampReturns ∧ Head.addStampAssigns = WrittenAgainst.copyInPlaceStamp := ⟨rfl, rfl, rfl⟩
theorem appendLink_replaces_or_appends : Head.appendLinkConds = WrittenAgainst.appendLinkConds ∧
    Head.appendLinkReturns = WrittenAgainst.appendLinkReturns ∧ Head.appendLinkAssigns = WrittenAgainst.copyInPlaceLink := ⟨rfl, rfl, rfl⟩

end Expect

end GoblVerif.Props.C10
