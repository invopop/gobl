/-
  C09 — Signature verification accepts exactly what was signed, on every path.

  Only property theorems live here (helper lemmas: Proofs/Header.lean, Proofs/Envelope.lean,
  Proofs/C09.lean; the loop principles behind `Src.src_Contains`: Proofs/GoSemList.lean).  They are about the model of head.Header.Contains,
  Envelope.Verify / verifySignature / Sign and internal/cli.Verify
  (Model/Header.lean, Model/Envelope.lean), with ideal signatures
  (`jwsValid k s ↔ s.signer = k`) and the digest an explicit function `H` of
  the document's canonical content, injective where stated.

  `namespace Src` (at the end) ties the containment model to the source:
  `Header.contains` is proved equal, for all headers, to the definition that the
  go2lean translator regenerates from /repo/head/header.go on every run
  (Generated/HeaderSrc.lean).
-/
import GoblVerif.Spec.C09
import GoblVerif.Proofs.Envelope
import GoblVerif.Proofs.C09
import GoblVerif.Generated.HeaderFacts
import GoblVerif.Generated.EnvelopeFacts
import GoblVerif.Generated.HeaderSrc
import GoblVerif.Proofs.GoSemList

namespace GoblVerif.Props.C09
open GoblVerif GoblVerif.Spec.C09

/-! ## the containment relation -/

/-- exact characterisation of `Header.Contains`: identifier equal; the digest
    equal (as `alg;val` text) when the signed header carried one; every signed
    stamp present with the same provider *and* value, every signed link with
    the same key *and* URL, every signed tag, every signed meta pair; the
    notes equal when the signed ones were not empty -/
theorem contains_iff (h p : Header) : h.contains p = true ↔
    h.uuid = p.uuid ∧
    (∀ d2, p.dig = some d2 → ∃ d, h.dig = some d ∧ d.str = d2.str) ∧
    (∀ s2 ∈ p.stamps, ∃ s ∈ h.stamps, s.prv = s2.prv ∧ s.val = s2.val) ∧
    (∀ l2 ∈ p.links, ∃ l ∈ h.links, l.key = l2.key ∧ l.url = l2.url) ∧
    (∀ t ∈ p.tags, t ∈ h.tags) ∧
    (∀ kv ∈ p.metas, h.metas.lookup kv.1 = some kv.2) ∧
    (p.notes = "" ∨ p.notes = h.notes) :=
  Header.contains_iff h p

/-- a header (with a Go map for meta: distinct keys) contains itself -/
theorem contains_refl (h : Header) (hwf : h.WF) : h.contains h = true :=
  Header.contains_refl h hwf

/-- containment only looks at `p` through what it *covers*, so it is monotone
    in what the envelope header presents -/
theorem contains_mono_addStamp (h p : Header) (s : Stamp) (hfresh : ∀ x ∈ h.stamps, x.prv ≠ s.prv)
    (hc : h.contains p = true) : (h.addStamp s).contains p = true :=
  Header.contains_mono h _ p rfl rfl
    (fun x hx => (addStampL_fresh _ _ hfresh ▸ List.mem_append_left _ hx : x ∈ addStampL h.stamps s))
    (fun _ hx => hx) (fun _ hx => hx) (fun _ _ hx => hx) rfl hc

theorem contains_mono_addLink (h p : Header) (l : Link) (hfresh : ∀ x ∈ h.links, x.key ≠ l.key)
    (hc : h.contains p = true) : (h.addLink l).contains p = true :=
  Header.contains_mono h _ p rfl rfl (fun _ hx => hx)
    (fun x hx => (addLinkL_fresh _ _ hfresh ▸ List.mem_append_left _ hx : x ∈ addLinkL h.links l))
    (fun _ hx => hx) (fun _ _ hx => hx) rfl hc

theorem contains_mono_addTag (h p : Header) (t : String)
    (hc : h.contains p = true) : (h.addTag t).contains p = true :=
  Header.contains_mono h _ p rfl rfl (fun _ hx => hx) (fun _ hx => hx)
    (fun _ hx => List.mem_append_left _ hx) (fun _ _ hx => hx) rfl hc

theorem contains_mono_setMeta (h p : Header) (k v : String) (hfresh : h.metas.lookup k = none)
    (hc : h.contains p = true) : (h.setMeta k v).contains p = true := by
  refine Header.contains_mono h _ p rfl rfl (fun _ hx => hx) (fun _ hx => hx) (fun _ hx => hx) ?_ rfl hc
  intro k2 v2 hk
  show (metaSet h.metas k v).lookup k2 = some v2
  rw [lookup_metaSet, if_neg fun e => by rw [e, hfresh] at hk; cases hk]
  exact hk

/-- the adding operations keep the meta map a map -/
theorem wf_setMeta (h : Header) (k v : String) (hwf : h.WF) : (h.setMeta k v).WF :=
  nodup_metaSet h.metas k v hwf

/-! ### every covered component is looked at -/

theorem detects_uuid (h p : Header) (hne : h.uuid ≠ p.uuid) : h.contains p = false :=
  Bool.eq_false_iff.mpr fun hc => hne ((contains_iff h p).mp hc).1

theorem detects_digest (h p : Header) (d d2 : Digest) (hd : h.dig = some d) (hp : p.dig = some d2)
    (hne : d.str ≠ d2.str) : h.contains p = false :=
  Bool.eq_false_iff.mpr fun hc => by
    obtain ⟨x, hx, hxe⟩ := ((contains_iff h p).mp hc).2.1 d2 hp
    rw [hd] at hx; cases hx; exact hne hxe

/-- with the same algorithm, a different digest value is a different digest text -/
theorem digest_str_ne (d d2 : Digest) (ha : d.alg = d2.alg) (hv : d.val ≠ d2.val) : d.str ≠ d2.str :=
  fun h => hv (Digest.str_val_inj d d2 ha h)

theorem detects_stamp (h p : Header) (s2 : Stamp) (hs : s2 ∈ p.stamps)
    (hne : ∀ s ∈ h.stamps, s.prv = s2.prv → s.val ≠ s2.val) : h.contains p = false :=
  Bool.eq_false_iff.mpr fun hc => by
    obtain ⟨x, hx, hp, hv⟩ := ((contains_iff h p).mp hc).2.2.1 s2 hs
    exact hne x hx hp hv

theorem detects_link (h p : Header) (l2 : Link) (hl : l2 ∈ p.links)
    (hne : ∀ l ∈ h.links, l.key = l2.key → l.url ≠ l2.url) : h.contains p = false :=
  Bool.eq_false_iff.mpr fun hc => by
    obtain ⟨x, hx, hk, hu⟩ := ((contains_iff h p).mp hc).2.2.2.1 l2 hl
    exact hne x hx hk hu

theorem detects_tag (h p : Header) (t : String) (ht : t ∈ p.tags) (hne : t ∉ h.tags) :
    h.contains p = false :=
  Bool.eq_false_iff.mpr fun hc => hne (((contains_iff h p).mp hc).2.2.2.2.1 t ht)

theorem detects_meta (h p : Header) (k v : String) (hm : (k, v) ∈ p.metas)
    (hne : h.metas.lookup k ≠ some v) : h.contains p = false :=
  Bool.eq_false_iff.mpr fun hc => hne (((contains_iff h p).mp hc).2.2.2.2.2.1 (k, v) hm)

theorem detects_notes (h p : Header) (hn : p.notes ≠ "") (hne : p.notes ≠ h.notes) :
    h.contains p = false :=
  Bool.eq_false_iff.mpr fun hc => (((contains_iff h p).mp hc).2.2.2.2.2.2).elim hn hne

/-! ## `Envelope.Verify` and `cli.Verify` -/

section
variable (H : Nat → String)

/-- **the paths agree**: the verdict function behind `gobl verify`, the bulk
    `verify` action and `POST /verify` accepts exactly when the library accepts
    (`Validate` then `Verify` with that single key), for every envelope state -/
theorem paths_agree (e : Env) (k : Key) :
    Env.cliVerify H e (some k) = .ok ↔ (Env.validate H e = .ok ∧ e.verify [k] = .ok) := by
  simp [Env.cliVerify_ok_iff]

/-- without a key no CLI / bulk / HTTP verification succeeds -/
theorem cli_needs_key (e : Env) : Env.cliVerify H e none ≠ .ok := by
  simp [Env.cliVerify_ok_iff]

/-- signing an unsigned envelope, when it succeeds, yields an envelope that
    verifies with the signer's key on the library and on the CLI path, and with
    no keys (content only) -/
theorem sign_then_verify (e e' : Env) (k : Key) (hwf : e.head.WF) (h0 : e.sigs = [])
    (hs : Env.sign H e k = (e', .ok)) :
    e'.verify [k] = .ok ∧ e'.verify [] = .ok ∧ Env.cliVerify H e' (some k) = .ok := by
  obtain ⟨rfl, hval⟩ := Env.sign_ok H e e' k hs
  have hv (ks : List Key) (hks : ks = [] ∨ k ∈ ks) :
      ({ e with sigs := e.sigs ++ [some ⟨k, e.head⟩] } : Env).verify ks = .ok := by
    rw [Env.verify_ok_iff, h0]
    exact ⟨by simp, fun s hs => ⟨⟨k, e.head⟩, List.mem_singleton.mp hs, hks, contains_refl e.head hwf⟩⟩
  exact ⟨hv [k] (Or.inr (by simp)), hv [] (Or.inl rfl), (paths_agree H _ k).mpr ⟨hval, hv [k] (Or.inr (by simp))⟩⟩

/-- verification keeps succeeding under any change of the header that keeps
    every signed header contained (in particular the four `contains_mono_*`) -/
theorem verify_mono (e : Env) (h' : Header) (ks : List Key)
    (hm : ∀ p, e.head.contains p = true → h'.contains p = true)
    (hv : e.verify ks = .ok) : (e.setHead h').verify ks = .ok := by
  rw [Env.verify_ok_iff] at hv ⊢
  refine ⟨hv.1, fun s hs => ?_⟩
  obtain ⟨sg, h1, h2, h3⟩ := hv.2 s hs
  exact ⟨sg, h1, h2, hm _ h3⟩

/-- a signature made by a key that is not among the (non-empty) trusted keys
    makes verification fail -/
theorem verify_wrong_key_fails (e : Env) (sg : Sig) (ks : List Key) (hs : some sg ∈ e.sigs)
    (hne : ks ≠ []) (hk : sg.signer ∉ ks) : e.verify ks ≠ .ok := by
  intro hv
  rw [Env.verify_ok_iff] at hv
  obtain ⟨sg', h1, h2, _⟩ := hv.2 _ hs
  cases h1
  rcases h2 with h2 | h2
  · exact hne h2
  · exact hk h2

theorem cli_wrong_key_fails (e : Env) (sg : Sig) (k : Key) (hs : some sg ∈ e.sigs)
    (hk : sg.signer ≠ k) : Env.cliVerify H e (some k) ≠ .ok := by
  intro hc
  rw [paths_agree] at hc
  exact verify_wrong_key_fails e sg [k] hs (by simp) (by simpa using hk) hc.2

/-- **detection**: if any signature on the envelope is over a header that the
    current header no longer contains — by `detects_*`: another identifier,
    another digest, a signed stamp value, link URL, tag, meta value or
    (non-empty) notes changed or removed — verification fails with every key
    set, on the library path and on the CLI path -/
theorem verify_detects (e : Env) (sg : Sig) (hs : some sg ∈ e.sigs)
    (hc : e.head.contains sg.payload = false) :
    (∀ ks, e.verify ks ≠ .ok) ∧ (∀ k, Env.cliVerify H e k ≠ .ok) := by
  have h1 : ∀ ks, e.verify ks ≠ .ok := by
    intro ks hv
    rw [Env.verify_ok_iff] at hv
    obtain ⟨sg', h1, _, h3⟩ := hv.2 _ hs
    cases h1
    rw [hc] at h3; cases h3
  refine ⟨h1, fun k => ?_⟩
  cases k with
  | none => exact cli_needs_key H e
  | some k => intro hcl; rw [paths_agree] at hcl; exact h1 [k] hcl.2

/-- the seven ways a signed header can stop being contained, in one statement:
    another identifier; another digest; a signed stamp whose value is no longer
    there under its provider; a signed link whose URL is no longer there under
    its key; a signed tag, or a signed meta value, missing or changed; the
    signed (non-empty) notes changed — each makes every verification fail, on
    the library path and on the CLI path -/
theorem verify_detects_components (e : Env) (sg : Sig) (hs : some sg ∈ e.sigs)
    (h : e.head.uuid ≠ sg.payload.uuid ∨
      (∃ d d2, e.head.dig = some d ∧ sg.payload.dig = some d2 ∧ d.str ≠ d2.str) ∨
      (∃ s2 ∈ sg.payload.stamps, ∀ s ∈ e.head.stamps, s.prv = s2.prv → s.val ≠ s2.val) ∨
      (∃ l2 ∈ sg.payload.links, ∀ l ∈ e.head.links, l.key = l2.key → l.url ≠ l2.url) ∨
      (∃ t ∈ sg.payload.tags, t ∉ e.head.tags) ∨
      (∃ kv ∈ sg.payload.metas, e.head.metas.lookup kv.1 ≠ some kv.2) ∨
      (sg.payload.notes ≠ "" ∧ sg.payload.notes ≠ e.head.notes)) :
    (∀ ks, e.verify ks ≠ .ok) ∧ (∀ k, Env.cliVerify H e k ≠ .ok) := by
  apply verify_detects H e sg hs
  rcases h with h | ⟨d, d2, h1, h2, h3⟩ | ⟨s2, h1, h2⟩ | ⟨l2, h1, h2⟩ | ⟨t, h1, h2⟩ | ⟨kv, h1, h2⟩ | ⟨h1, h2⟩
  · exact detects_uuid _ _ h
  · exact detects_digest _ _ d d2 h1 h2 h3
  · exact detects_stamp _ _ s2 h1 h2
  · exact detects_link _ _ l2 h1 h2
  · exact detects_tag _ _ t h1 h2
  · exact detects_meta _ _ kv.1 kv.2 h1 h2
  · exact detects_notes _ _ h1 h2

/-- **modify + recalculate**: a signature over the digest of document `d`
    does not survive a recalculation of the envelope around a document with a
    different canonical content (digest-injectivity is the hypothesis `hH`) -/
theorem tamper_recalc_fails_verify (hH : Function.Injective H) (e : Env) (sg : Sig) (d d' : Doc)
    (hs : some sg ∈ e.sigs) (hp : sg.payload.dig = some (digestOf H d))
    (hd : e.doc = some d') (hcalc : d'.calcOk = true) (hne : d'.content ≠ d.content) :
    (Env.calculate H e).2 = .ok ∧
    (∀ ks, (Env.calculate H e).1.verify ks ≠ .ok) ∧
    (∀ k, Env.cliVerify H (Env.calculate H e).1 k ≠ .ok) := by
  have hcalcE : Env.calculate H e =
      ({ e with head := { e.head with dig := some (digestOf H d') } }, .ok) := by
    simp [Env.calculate, hd, hcalc]
  rw [hcalcE]
  refine ⟨rfl, ?_⟩
  apply verify_detects H { e with head := { e.head with dig := some (digestOf H d') } } sg hs
  apply detects_digest _ _ (digestOf H d') (digestOf H d) rfl hp
  intro he
  exact hne (hH (Digest.str_val_inj (digestOf H d') (digestOf H d) rfl he))

end

/-! ## model = specification -/

/-- the model of `Header.Contains` accepts exactly when every item the
    signature covers is still presented unchanged (Spec/C09.lean), for headers
    whose meta is a map and whose digest algorithm names contain no `;` -/
theorem contains_eq_spec (h p : Header) (hwf : h.WF) (hd : digNice h.dig) (hp : digNice p.dig) :
    h.contains p = accepts h p := by
  rw [Bool.eq_iff_iff, contains_iff]
  simp only [accepts, List.all_eq_true, List.contains_iff_mem, forall_covered, mem_present]
  -- component by component; stamps, links and tags read the same on both sides
  refine and_congr eq_comm (and_congr ?_ (and_congr .rfl (and_congr .rfl (and_congr .rfl (and_congr ?_ ?_)))))
  · refine forall_congr' fun d2 => imp_congr_right fun h2 => exists_congr fun d => and_congr_right fun h1 => ?_
    rw [digest_str_eq_iff d d2 (by simpa [digNice, h1] using hd) (by simpa [digNice, h2] using hp)]
    exact and_congr eq_comm eq_comm
  · exact forall_congr' fun kv => imp_congr_right fun _ => lookup_eq_some_iff hwf
  · exact Decidable.or_iff_not_imp_left

/-- for envelopes whose entries are all real signatures the model of
    `Envelope.Verify` gives exactly the verdict the property asks for -/
theorem verify_eq_expected (e : Env) (sigs : List Sig) (ks : List Key) (hs : e.sigs = sigs.map some)
    (hwf : e.head.WF) (hd : digNice e.head.dig) (hp : ∀ s ∈ sigs, digNice s.payload.dig) :
    e.verify ks = .ok ↔ expected e.head sigs ks = true := by
  rw [Env.verify_ok_iff, hs]
  simp only [expected, Bool.and_eq_true, Bool.not_eq_true', List.all_eq_true, Bool.or_eq_true,
    List.isEmpty_iff, List.contains_iff_mem, ne_eq, List.map_eq_nil_iff, List.mem_map]
  constructor
  · rintro ⟨h0, h⟩
    refine ⟨by cases sigs <;> simp_all, fun s hsin => ?_⟩
    obtain ⟨sg, h1, h2, h3⟩ := h (some s) ⟨s, hsin, rfl⟩
    cases h1
    exact ⟨h2, by rw [← contains_eq_spec _ _ hwf hd (hp s hsin)]; exact h3⟩
  · rintro ⟨h0, h⟩
    refine ⟨by cases sigs <;> simp_all, ?_⟩
    rintro _ ⟨s, hsin, rfl⟩
    obtain ⟨h2, h3⟩ := h s hsin
    exact ⟨s, rfl, h2, by rw [contains_eq_spec _ _ hwf hd (hp s hsin)]; exact h3⟩

/-! ## non-vacuity: the hypotheses above are satisfiable by non-trivial values -/

section Examples

-- signing succeeds, and the result verifies with the signer's key only
example : (Env.sign exH exEnv 1).2 = .ok := by decide
example : (Env.sign exH exEnv 1).1.verify [1] = .ok ∧ (Env.sign exH exEnv 1).1.verify [2] ≠ .ok ∧
    Env.cliVerify exH (Env.sign exH exEnv 1).1 (some 1) = .ok ∧
    Env.cliVerify exH (Env.sign exH exEnv 1).1 (some 2) = .keyMismatch := by decide +kernel
-- adding a fresh stamp keeps it verifying; altering the signed stamp does not
example : ((Env.sign exH exEnv 1).1.setHead (exHead.addStamp ⟨"prv-b", "v2"⟩)).verify [1] = .ok := by decide +kernel
example : ((Env.sign exH exEnv 1).1.setHead (exHead.addStamp ⟨"prv-a", "v2"⟩)).verify [1] ≠ .ok := by decide +kernel
-- modify + recalculate with the old signature: rejected on both paths
example : (Env.calculate exH { (Env.sign exH exEnv 1).1 with doc := some ⟨4, true, true, true, true⟩ }).1.verify [1]
    = .failed [.mismatch] := by decide +kernel
example : Env.cliVerify exH (Env.calculate exH { (Env.sign exH exEnv 1).1 with doc := some ⟨4, true, true, true, true⟩ }).1 (some 1)
    = .headerMismatch := by decide +kernel
-- the header of the example is a map and has a nice digest
example : exHead.WF ∧ digNice exHead.dig := by decide

end Examples

/-! ## expectations over facts regenerated from /repo on every run

The model of `Header.Contains`, `Envelope.Verify`, `verifySignature` and
`cli.Verify` was written against these fields, conditions and loops.  If a
field is no longer compared (or a new header field is not), a loop no longer
ranges over every signature, or `cli.Verify` stops calling `Contains` /
`Validate`, one of these obligations breaks. -/
namespace Expect
open GoblVerif.Generated

theorem contains_compares_these_fields : Head.containsFields = GoblVerif.containsFields := rfl
theorem contains_reads_them_from_the_signed_header : Head.containsParamFields = GoblVerif.containsFields := rfl
theorem every_header_field_is_compared : Head.headerFields = GoblVerif.containsFields := rfl
theorem stamp_components : Head.stampCompared = GoblVerif.stampCompared ∧ Head.stampFields = GoblVerif.stampCompared := ⟨rfl, rfl⟩
theorem link_components : Head.linkCompared = GoblVerif.linkCompared := rfl
theorem contains_conditions : Head.containsConds = WrittenAgainst.containsConds := rfl
theorem contains_loops : Head.containsRanges = WrittenAgainst.containsRanges := rfl
theorem contains_returns : Head.containsReturns = WrittenAgainst.containsReturns := rfl
theorem digest_string : Envelope.returns_dig_Digest_String = WrittenAgainst.digestStringReturns := rfl

theorem verify_loops_over_all_signatures : Envelope.ranges_Envelope_Verify = WrittenAgainst.verifyRanges := rfl
theorem verify_conditions : Envelope.conds_Envelope_Verify = WrittenAgainst.verifyConds := rfl
theorem verifySignature_conditions : Envelope.conds_Envelope_verifySignature = WrittenAgainst.verifySignatureConds := rfl
theorem verifySignature_returns : Envelope.returns_Envelope_verifySignature = WrittenAgainst.verifySignatureReturns := rfl
theorem verifySignature_loops_over_keys : Envelope.ranges_Envelope_verifySignature = WrittenAgainst.verifySignatureRanges := rfl
theorem signature_verify_conditions : Envelope.conds_sig_Signature_Verify = WrittenAgainst.sigVerifyConds := rfl

theorem cli_verify_loops_over_all_signatures : Envelope.ranges_cli_Verify = WrittenAgainst.cliVerifyRanges := rfl
theorem cli_verify_conditions : Envelope.conds_cli_Verify = WrittenAgainst.cliVerifyConds := rfl
theorem cli_verify_returns : Envelope.returns_cli_Verify = WrittenAgainst.cliVerifyReturns := rfl
theorem cli_verify_validates_and_compares :
    "Validate" ∈ Envelope.calls_cli_Verify ∧ "VerifyPayload" ∈ Envelope.calls_cli_Verify ∧
    "Contains" ∈ Envelope.calls_cli_Verify := by decide +kernel
theorem bulk_and_http_and_command_use_cli_verify :
    "Verify" ∈ Envelope.bulk_verify_calls ∧ "cli.Verify" ∈ Envelope.serve_verify_calls ∧
    "cli.Verify(ctx, input, key)" ∈ Envelope.cmd_verify_returns := by decide +kernel

end Expect

/-! ## the model is the source

`Generated/HeaderSrc.lean` is regenerated on every run from
/repo/head/header.go by the go2lean translator (harness/cmd/extract/go2lean*.go,
configuration headersrc.go): `(*Header).Contains` as one Lean definition, its
seven loops, the flag-and-break searches and the comma-ok map lookup included.
`Header`, `Stamp`, `Link` and `dsig.Digest` are mapped onto the records of
Model/Header.lean (`struct_*_as_mapped` pins the Go declarations, the generated
`example`s check the field types).  `src_Contains` proves, for ALL pairs of
headers, that the regenerated definition equals `Header.contains`; the
containment theorems of this file (characterisation, monotonicity, detection)
and, through `Env.verify`, the verification theorems are therefore statements
about the code as it stands on this run.  An edit of `Contains` changes the
regenerated definition and `src_Contains` no longer closes; a helper it might
call that is outside the translated subset makes `all_translated` fail.

Trusted: the translator's reading of Go (header of Generated/HeaderSrc.lean);
the assumptions `assumptions_as_reviewed` pins — `[]*Stamp` / `[]*Link` hold no
nil (a nil entry makes the Go code panic: C14), `cbc.Meta` is an association
list with distinct keys (the `range` over `h2.Meta` is shown order-independent
in `src_Contains_map_order`, the lookups in `h.Meta` in `map_lookup_order`),
`uuid.UUID.String` is the identity and `(*dsig.Digest).String` is `Digest.str`
(its source text is pinned by `Expect.digest_string`). -/
namespace Src
open GoblVerif.Generated GoblVerif.GoSem

theorem all_translated : HeaderSrc.untranslated = [] := rfl

theorem translated_as_listed : HeaderSrc.translated = ["Header.Contains"] := rfl

theorem struct_Header_as_mapped :
    HeaderSrc.struct_Header = [("UUID", "uuid.UUID"), ("Digest", "*dsig.Digest"), ("Stamps", "[]*Stamp"),
      ("Links", "[]*Link"), ("Tags", "[]string"), ("Meta", "cbc.Meta"), ("Notes", "string")] ∧
    HeaderSrc.structLean_Header = ("GoblVerif.Header", ["uuid", "dig", "stamps", "links", "tags", "metas", "notes"]) ∧
    HeaderSrc.structOmitted_Header = [] := ⟨rfl, rfl, rfl⟩

theorem struct_Stamp_as_mapped :
    HeaderSrc.struct_Stamp = [("Provider", "cbc.Key"), ("Value", "string")] ∧
    HeaderSrc.structLean_Stamp = ("GoblVerif.Stamp", ["prv", "val"]) ∧
    HeaderSrc.structOmitted_Stamp = [] := ⟨rfl, rfl, rfl⟩

theorem struct_Link_as_mapped :
    HeaderSrc.struct_Link = [("Key", "cbc.Key"), ("Title", "string"), ("Description", "string"),
      ("MIME", "string"), ("URL", "string")] ∧
    HeaderSrc.structLean_Link = ("GoblVerif.Link", ["key", "title", "description", "mime", "url"]) ∧
    HeaderSrc.structOmitted_Link = [] := ⟨rfl, rfl, rfl⟩

theorem struct_Digest_as_mapped :
    HeaderSrc.struct_dsig_Digest = [("Algorithm", "dsig.DigestAlgorithm"), ("Value", "string")] ∧
    HeaderSrc.structLean_dsig_Digest = ("GoblVerif.Digest", ["alg", "val"]) ∧
    HeaderSrc.structOmitted_dsig_Digest = [] := ⟨rfl, rfl, rfl⟩

/-- what the translation assumes beyond its general reading of Go -/
theorem assumptions_as_reviewed :
    HeaderSrc.nonNilElems = ["[]*Link", "[]*Stamp"] ∧
    HeaderSrc.mapRanges = [("Header.Contains", "h2.Meta")] ∧
    HeaderSrc.namedTypes = [] ∧
    HeaderSrc.primitives = [("dsig.Digest.String", "GoblVerif.Digest.str ({0}.get!)"), ("uuid.UUID.String", "{0}")] ∧
    HeaderSrc.natSubs = [] ∧ HeaderSrc.fuelChecks = [] := ⟨rfl, rfl, rfl, rfl, rfl, rfl⟩

/-- **`(*Header).Contains`, regenerated from the source, is the model's
    `Header.contains`** — for every pair of headers -/
theorem src_Contains (h h2 : Header) : HeaderSrc.Header_Contains h h2 = h.contains h2 := by
  unfold HeaderSrc.Header_Contains
  simp only [forIn_list_id, pure_bind]
  simp only [Id.run, id_pure, forList_flag, forList_any, Bool.false_or]
  -- the four loops in the vocabulary of the model
  rw [any_not_eq_not_all h2.stamps _ (fun s2 => h.stamps.any fun s => stampMatch s s2)
        (by simp [stampMatch, Bool.beq_eq_decide_eq]),
      any_not_eq_not_all h2.links _ (fun l2 => h.links.any fun l => linkMatch l l2)
        (by simp [linkMatch, Bool.beq_eq_decide_eq]),
      any_not_eq_not_all h2.tags _ (fun t2 => h.tags.any fun t => t == t2) (by intro x; rfl)]
  have hm : (List.any h2.metas fun x => decide
      (¬(List.lookup x.fst h.metas).isSome = true ∨ (List.lookup x.fst h.metas).getD "" ≠ x.snd))
      = !(h2.metas.all fun kv => metaMatch h.metas kv) := by
    rw [← any_not_eq_not_all h2.metas (metaMatch h.metas) _ fun _ => rfl]
    congr 1
    funext a
    -- the comma-ok lookup of one pair
    rw [Bool.eq_iff_iff]
    simp only [metaMatch, decide_eq_true_eq, beq_iff_eq]
    cases hl : List.lookup a.1 h.metas <;> simp
  -- the three tests outside the loops
  have e1 (x : Bool) : (if h.uuid ≠ h2.uuid then false else x) = (h.uuid == h2.uuid && x) := by
    by_cases hu : h.uuid = h2.uuid <;> simp [hu]
  have e2 (x : Bool) : (if h2.dig.isSome = true ∧ (h.dig.isNone = true ∨ h.dig.get!.str ≠ h2.dig.get!.str)
      then false else x) = (digContains h.dig h2.dig && x) := by
    cases h2.dig <;> cases h.dig <;> simp [digContains, Bool.beq_eq_decide_eq]
  have e3 : (if h2.notes ≠ "" ∧ h2.notes ≠ h.notes then false else true) =
      (h2.notes == "" || h2.notes == h.notes) := by
    by_cases hn : h2.notes = "" <;> by_cases hn2 : h2.notes = h.notes <;> simp [hn, hn2]
  rw [hm, e1, e2, e3]
  unfold Header.contains
  generalize (h2.stamps.all fun s2 => h.stamps.any fun s => stampMatch s s2) = b1
  generalize (h2.links.all fun l2 => h.links.any fun l => linkMatch l l2) = b2
  generalize (h2.tags.all fun t2 => h.tags.any fun t => t == t2) = b3
  generalize (List.all h2.metas fun kv => metaMatch h.metas kv) = b4
  -- each loop returns `false` early or falls through to the next test
  cases b1 <;> cases b2 <;> cases b3 <;> cases b4 <;> simp [Bool.and_assoc]

/-- the obligation of `mapRanges`: Go ranges over `h2.Meta` in an unspecified
    order, the translation in list order — the answer is the same for every order -/
theorem src_Contains_map_order (h h2 : Header) (m' : Meta) (hp : h2.metas.Perm m') :
    HeaderSrc.Header_Contains h { h2 with metas := m' } = HeaderSrc.Header_Contains h h2 := by
  rw [src_Contains, src_Contains]
  unfold Header.contains
  simp only
  rw [hp.all_eq]

/-- … and the lookups in `h.Meta` do not depend on how its association list is
    ordered (distinct keys: `Header.WF`, the invariant of a Go map) -/
theorem map_lookup_order (h h2 : Header) (m' : Meta) (hp : h.metas.Perm m') (hwf : h.WF) :
    HeaderSrc.Header_Contains { h with metas := m' } h2 = HeaderSrc.Header_Contains h h2 := by
  rw [src_Contains, src_Contains]
  unfold Header.contains metaMatch
  simp only
  congr 3
  funext kv
  rw [lookup_perm hp hwf]

/-! ### the theorems of this file, read off the regenerated code -/

/-- the exact characterisation of containment, for the regenerated `Contains` -/
theorem spec_of_the_source_Contains (h p : Header) : HeaderSrc.Header_Contains h p = true ↔
    h.uuid = p.uuid ∧
    (∀ d2, p.dig = some d2 → ∃ d, h.dig = some d ∧ d.str = d2.str) ∧
    (∀ s2 ∈ p.stamps, ∃ s ∈ h.stamps, s.prv = s2.prv ∧ s.val = s2.val) ∧
    (∀ l2 ∈ p.links, ∃ l ∈ h.links, l.key = l2.key ∧ l.url = l2.url) ∧
    (∀ t ∈ p.tags, t ∈ h.tags) ∧
    (∀ kv ∈ p.metas, h.metas.lookup kv.1 = some kv.2) ∧
    (p.notes = "" ∨ p.notes = h.notes) := by
  rw [src_Contains]; exact contains_iff h p

/-- a header with a Go map for meta contains itself, in the regenerated code -/
theorem spec_of_the_source_refl (h : Header) (hwf : h.WF) : HeaderSrc.Header_Contains h h = true := by
  rw [src_Contains]; exact contains_refl h hwf

/-- a stamp of the signed header that is missing or altered is detected by the regenerated code -/
theorem spec_of_the_source_detects_stamp (h p : Header) (s2 : Stamp) (hs : s2 ∈ p.stamps)
    (hne : ∀ s ∈ h.stamps, s.prv = s2.prv → s.val ≠ s2.val) : HeaderSrc.Header_Contains h p = false := by
  rw [src_Contains]; exact detects_stamp h p s2 hs hne

/-- … and so is a link -/
theorem spec_of_the_source_detects_link (h p : Header) (l2 : Link) (hl : l2 ∈ p.links)
    (hne : ∀ l ∈ h.links, l.key = l2.key → l.url ≠ l2.url) : HeaderSrc.Header_Contains h p = false := by
  rw [src_Contains]; exact detects_link h p l2 hl hne

/-- … and changed notes -/
theorem spec_of_the_source_detects_notes (h p : Header) (hn : p.notes ≠ "") (hne : p.notes ≠ h.notes) :
    HeaderSrc.Header_Contains h p = false := by
  rw [src_Contains]; exact detects_notes h p hn hne

example : HeaderSrc.Header_Contains (exHead.addStamp ⟨"prv-b", "v2"⟩) exHead = true ∧
    HeaderSrc.Header_Contains exHead (exHead.addStamp ⟨"prv-b", "v2"⟩) = false ∧
    HeaderSrc.Header_Contains (exHead.setNotes "other") (exHead.setNotes "signed") = false := by decide +kernel

end Src

end GoblVerif.Props.C09
