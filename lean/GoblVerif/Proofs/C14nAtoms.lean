/-
  Helper lemmas for C07, on the specification alone: decimal digits and spans
  of digits; README rule 8 by class of character (`escChar_cases`, through which C14nForm
  and C14nEncoding read `escChar`); a leaf of canonical text can be read
  back (`decodeAtom (atomText a ++ r) = some (a, r)`), hence leaf texts are a
  delimited prefix code; hence, by mutual structural induction on two values,
  the canonical text of a content is one, and injective.
-/
import GoblVerif.Spec.C07
import GoblVerif.Proofs.Digits

namespace GoblVerif.Proofs.C14n
open GoblVerif GoblVerif.Spec.C07

section
open GoblVerif.Digits

/-- `pre` is the canonical decimal notation of `n`: not empty, digits only, no leading zero unless
    `n = 0`, value `n` -/
structure DigitsOf (n : Nat) (pre : Chars) : Prop where
  ne : pre ≠ []
  dig : ∀ c ∈ pre, isDigit c = true
  lead : 0 < n → pre.head? ≠ some 48
  val : natOfDigits pre = n

theorem isDigit_iff (c : Nat) : isDigit c = true ↔ 48 ≤ c ∧ c ≤ 57 := by
  simp [isDigit]

theorem natDigitsAux_eq : ∀ (f n : Nat) (acc : Chars), n < f →
    natDigitsAux f n acc = (Nat.toDigits 10 n).map Char.toNat ++ acc
  | 0, _, _, h => by omega
  | f + 1, n, acc, h => by
    unfold natDigitsAux
    rw [toDigits_eq_if]
    split
    · simp [Nat.toNat_digitChar_of_lt_ten ‹n < 10›]
    · rw [natDigitsAux_eq f (n / 10) _ (by omega)]
      simp [Nat.toNat_digitChar_of_lt_ten (Nat.mod_lt n (by decide : 0 < 10))]

theorem natDigits_eq (n : Nat) : natDigits n = (Nat.toDigits 10 n).map Char.toNat := by
  rw [natDigits, natDigitsAux_eq (n + 1) n [] (by omega), List.append_nil]

theorem natOfDigits_eq (s : List Char) : natOfDigits (s.map Char.toNat) = Nat.ofDigitChars 10 s 0 := by
  rw [natOfDigits, List.foldl_map, Nat.ofDigitChars]
  congr; funext a c; exact Nat.mul_comm ..  ▸ rfl

theorem natDigits_spec (n : Nat) : DigitsOf n (natDigits n) := by
  rw [natDigits_eq]
  refine ⟨mt List.map_eq_nil_iff.mp Nat.toDigits_ne_nil, fun c hc => ?_, fun hn => ?_, ?_⟩
  · obtain ⟨d, hd, rfl⟩ := List.mem_map.mp hc
    exact (isDigit_iff _).mpr (toNat_mem_toDigits hd)
  · have := head_toDigits n hn
    cases h : Nat.toDigits 10 n with
    | nil => simp
    | cons a t => rw [h] at this; simpa [← Char.toNat_inj] using this
  · rw [natOfDigits_eq]; exact Nat.ofDigitChars_ten_toDigits

theorem natDigits_lt10 (n : Nat) (h : n < 10) : natDigits n = [48 + n] := by
  simp [natDigits, natDigitsAux, h]

theorem natDigits_zero : natDigits 0 = [48] := natDigits_lt10 0 (by decide)

theorem DigitsOf.cons {n : Nat} {pre : Chars} (hd : DigitsOf n pre) :
    ∃ h t, pre = h :: t ∧ isDigit h = true ∧ (0 < n → h ≠ 48) ∧ ∀ c ∈ t, isDigit c = true := by
  cases pre with
  | nil => exact absurd rfl hd.ne
  | cons h t =>
    exact ⟨h, t, rfl, hd.dig h (by simp), fun hpos => by simpa using hd.lead hpos, fun c hc => hd.dig c (by simp [hc])⟩

/-- `r` does not continue a run of digits -/
def stops (r : Chars) : Prop := ∀ c t, r = c :: t → isDigit c = false

theorem spanDigits_append (a r : Chars) (ha : ∀ c ∈ a, isDigit c = true) (hr : stops r) :
    spanDigits (a ++ r) = (a, r) := by
  induction a with
  | nil =>
    cases r with
    | nil => rfl
    | cons c t => simp [spanDigits, hr c t rfl]
  | cons x xs ih =>
    have hx : isDigit x = true := ha x (by simp)
    have := ih (fun c hc => ha c (by simp [hc]))
    simp [spanDigits, hx, this]

theorem stops_of_delim {r : Chars} (h : delim r = true) : stops r := by
  intro c t e; subst e
  simp [delim] at h
  rcases h with (h | h) | h <;> subst h <;> decide

theorem stops_cons {c : Nat} {t : Chars} (h : isDigit c = false) : stops (c :: t) := by
  intro c' t' e; cases e; exact h

end

theorem escChar_lit {c : Nat} (h : 0x20 ≤ c) (hq : c ≠ 0x22) (hb : c ≠ 0x5C) : escChar c = [c] := by
  rw [escChar, if_neg hq, if_neg hb, if_neg (by omega), if_neg (by omega), if_neg (by omega), if_neg (by omega),
    if_neg (by omega), if_neg (by omega)]

theorem escChar_ctl {c : Nat} (h : c < 0x20) (h8 : c ≠ 8) (h9 : c ≠ 9) (h10 : c ≠ 10) (h12 : c ≠ 12) (h13 : c ≠ 13) :
    escChar c = [0x5C, 0x75, 0x30, 0x30, upperHex (c / 16), upperHex (c % 16)] := by
  rw [escChar, if_neg (by omega), if_neg (by omega), if_neg h8, if_neg h9, if_neg h10, if_neg h12, if_neg h13, if_pos h]

/-- on the seven characters of the first alternative `escChar` computes: no equation is needed for them -/
theorem escChar_cases (c : Nat) :
    (c = 0x22 ∨ c = 0x5C ∨ c = 8 ∨ c = 9 ∨ c = 10 ∨ c = 12 ∨ c = 13) ∨
    (c < 0x20 ∧ escChar c = [0x5C, 0x75, 0x30, 0x30, upperHex (c / 16), upperHex (c % 16)]) ∨
    (0x20 ≤ c ∧ c ≠ 0x22 ∧ c ≠ 0x5C ∧ escChar c = [c]) := by
  by_cases hs : c = 0x22 ∨ c = 0x5C ∨ c = 8 ∨ c = 9 ∨ c = 10 ∨ c = 12 ∨ c = 13
  · exact Or.inl hs
  · simp only [not_or] at hs
    obtain ⟨hq, hb, h8, h9, h10, h12, h13⟩ := hs
    by_cases h : c < 0x20
    · exact Or.inr (Or.inl ⟨h, escChar_ctl h h8 h9 h10 h12 h13⟩)
    · exact Or.inr (Or.inr ⟨by omega, hq, hb, escChar_lit (by omega) hq hb⟩)

theorem hexVal_upperHex (n : Nat) (h : n < 16) : hexVal (upperHex n) = n := by
  unfold hexVal upperHex; split <;> split <;> omega

theorem unescS_lit (c : Nat) (r : Chars) (h1 : c ≠ 0x22) (h2 : c ≠ 0x5C) :
    unescS (c :: r) = (unescS r).map (fun p => (c :: p.1, p.2)) := by
  rw [unescS.eq_def]
  split <;> simp_all

theorem unescS_escChar (c : Nat) (r : Chars) :
    unescS (escChar c ++ r) = (unescS r).map (fun p => (c :: p.1, p.2)) := by
  rcases escChar_cases c with h | ⟨h, e⟩ | ⟨_, hq, hb, e⟩
  · rcases h with rfl | rfl | rfl | rfl | rfl | rfl | rfl <;> rfl
  · rw [e]
    simp only [List.cons_append, List.nil_append, unescS]
    rw [hexVal_upperHex _ (by omega), hexVal_upperHex _ (by omega), Nat.div_add_mod']
  · rw [e]; exact unescS_lit c r hq hb

theorem escS_cons (c : Nat) (cs : Str) : escS (c :: cs) = escChar c ++ escS cs := List.flatMap_cons

theorem unescS_escS : ∀ (s : Str) (r : Chars), unescS (escS s ++ 0x22 :: r) = some (s, r)
  | [], r => by simp [escS, unescS]
  | c :: cs, r => by rw [escS_cons, List.append_assoc, unescS_escChar, unescS_escS cs r]; rfl

theorem escChar_head (c : Nat) : ∃ h t, escChar c = h :: t ∧ h ≠ 0x22 := by
  rcases escChar_cases c with h | ⟨_, e⟩ | ⟨_, hq, _, e⟩
  · rcases h with rfl | rfl | rfl | rfl | rfl | rfl | rfl <;> exact ⟨_, _, rfl, by decide⟩
  · exact ⟨_, _, e, by decide⟩
  · exact ⟨_, _, e, hq⟩

theorem stripMinus_of_ne (c : Nat) (t : Chars) (h : c ≠ 0x2D) : stripMinus (c :: t) = (false, c :: t) := by
  simp [stripMinus, h]

theorem stripMinus_minus (t : Chars) : stripMinus (0x2D :: t) = (true, t) := by
  simp [stripMinus]

theorem stripMinus_digits (n : Nat) (r : Chars) : stripMinus (natDigits n ++ r) = (false, natDigits n ++ r) := by
  obtain ⟨h, t, e, hd, _, _⟩ := (natDigits_spec n).cons
  rw [e]; simp only [List.cons_append]
  apply stripMinus_of_ne
  intro hh; subst hh; rw [isDigit_iff] at hd; omega

theorem span_natDigits (n : Nat) (r : Chars) (hr : stops r) : spanDigits (natDigits n ++ r) = (natDigits n, r) :=
  spanDigits_append _ _ (natDigits_spec n).dig hr

theorem natDigits_isEmpty (n : Nat) : (natDigits n).isEmpty = false := by
  simpa using (natDigits_spec n).ne

theorem not_point_of_delim {r : Chars} (h : delim r = true) : (r.head? == some 0x2E) = false := by
  cases r with
  | nil => rfl
  | cons c t =>
    simp [delim] at h
    rcases h with (h | h) | h <;> subst h <;> simp

theorem stripMinus_formatInt (e : Int) (r : Chars) (hr : stops r) :
    (stripMinus (formatInt e ++ r)).1 = decide (e < 0) ∧
    spanDigits (stripMinus (formatInt e ++ r)).2 = (natDigits e.natAbs, r) := by
  unfold formatInt
  split
  · rename_i h
    simp [stripMinus_minus, span_natDigits _ r hr, h]
  · rename_i h
    simp [stripMinus_digits, span_natDigits _ r hr, h]

/-- an integer from its sign and its magnitude, as `decodeNumber` puts them together -/
theorem sign_natAbs (i : Int) : (if decide (i < 0) = true then -((i.natAbs : Nat) : Int) else (i.natAbs : Nat)) = i := by
  split <;> rename_i h <;> simp at h <;> omega

theorem decodeNumber_formatInt (i : Int) (r : Chars) (hr : delim r = true) :
    decodeNumber (formatInt i ++ r) = some (.int i, r) := by
  obtain ⟨h1, h2⟩ := stripMinus_formatInt i r (stops_of_delim hr)
  unfold decodeNumber
  simp only [h1, h2, natDigits_isEmpty, (natDigits_spec _).val, not_point_of_delim hr, Bool.false_eq_true, if_false,
    sign_natAbs]

theorem fracText_digits (rest : List Nat) (h : rest.all (· < 10) = true) : ∀ c ∈ fracText rest, isDigit c = true := by
  unfold fracText
  split
  · intro c hc; simp at hc; subst hc; decide
  · intro c hc
    simp only [List.mem_map] at hc
    obtain ⟨x, hx, e⟩ := hc
    have := List.all_eq_true.mp h x hx
    simp at this
    subst e; rw [isDigit_iff]; omega

theorem frac_no_E (rest : List Nat) (h : rest.all (· < 10) = true) : ∀ c ∈ fracText rest, c ≠ 0x45 := by
  intro c hc
  have := fracText_digits rest h c hc
  rw [isDigit_iff] at this; omega

theorem fracText_back (rest : List Nat) (hl : rest.getLast? ≠ some 0) :
    ((if fracText rest == [48] then [] else fracText rest).map (· - 48)) = rest := by
  unfold fracText
  cases rest with
  | nil => simp
  | cons a t =>
    simp only [List.isEmpty_cons, Bool.false_eq_true, if_false]
    have hne : ((a :: t).map (48 + ·) == [48]) = false := by
      cases t with
      | nil =>
        simp at hl
        simp; omega
      | cons b u => simp
    rw [hne]; simp only [Bool.false_eq_true, if_false]
    simp [Function.comp_def]

theorem wfDigits_cons {d : Nat} {rest : List Nat} (h : wfDigits (d :: rest) = true) :
    d < 10 ∧ rest.all (· < 10) = true ∧ rest.getLast? ≠ some 0 := by
  cases rest with
  | nil => simp [wfDigits] at h; simp [h]
  | cons a t =>
    simp only [wfDigits, Bool.and_eq_true, decide_eq_true_eq, bne_iff_ne] at h
    exact ⟨h.1.1, h.1.2, h.2⟩

/-- `pre` is the sign as written (`-` or nothing) and `sgn` what `stripMinus` makes of it: the two
    cases of `fltText` share everything behind the sign -/
theorem decodeNumber_flt_body (d : Nat) (rest : List Nat) (e : Int) (r : Chars)
    (hw : wfDigits (d :: rest) = true) (hr : delim r = true) (sgn : Bool) (pre : Chars)
    (hs : stripMinus (pre ++ (48 + d) :: 0x2E :: (fracText rest ++ 0x45 :: (formatInt e ++ r))) =
      (sgn, (48 + d) :: 0x2E :: (fracText rest ++ 0x45 :: (formatInt e ++ r)))) :
    decodeNumber (pre ++ (48 + d) :: 0x2E :: (fracText rest ++ 0x45 :: (formatInt e ++ r))) =
      some (.flt sgn (d :: rest) e, r) := by
  obtain ⟨hd, hall, hlast⟩ := wfDigits_cons hw
  have h1 : spanDigits ((48 + d) :: 0x2E :: (fracText rest ++ 0x45 :: (formatInt e ++ r))) =
      ([48 + d], 0x2E :: (fracText rest ++ 0x45 :: (formatInt e ++ r))) := by
    have := spanDigits_append [48 + d] (0x2E :: (fracText rest ++ 0x45 :: (formatInt e ++ r)))
      (by intro c hc; simp at hc; subst hc; rw [isDigit_iff]; omega) (stops_cons (by decide))
    simpa using this
  have h2 : spanDigits (fracText rest ++ 0x45 :: (formatInt e ++ r)) = (fracText rest, 0x45 :: (formatInt e ++ r)) :=
    spanDigits_append _ _ (fracText_digits rest hall) (stops_cons (by decide))
  obtain ⟨h3, h4⟩ := stripMinus_formatInt e r (stops_of_delim hr)
  have hfe : (fracText rest).isEmpty = false := by
    unfold fracText; split <;> simp_all
  unfold decodeNumber
  simp only [hs, h1, h2, h3, h4, natDigits_isEmpty, hfe, (natDigits_spec _).val, List.head?_cons, List.tail_cons]
  simp only [List.isEmpty_cons, Bool.false_eq_true, if_false, List.length_cons, List.length_nil,
    Bool.or_self, beq_self_eq_true, if_true]
  have hds : ([48 + d] ++ if fracText rest == [48] then [] else fracText rest).map (· - 48) = d :: rest := by
    rw [List.map_append, fracText_back rest hlast]; simp
  rw [hds]
  rw [sign_natAbs]; simp

theorem decodeNumber_fltText (neg : Bool) (ds : List Nat) (e : Int) (r : Chars)
    (hw : wfDigits ds = true) (hr : delim r = true) :
    decodeNumber (fltText neg ds e ++ r) = some (.flt neg ds e, r) := by
  cases ds with
  | nil => simp [wfDigits] at hw
  | cons d rest =>
    obtain ⟨hd, _, _⟩ := wfDigits_cons hw
    cases neg with
    | true =>
      have := decodeNumber_flt_body d rest e r hw hr true [0x2D] (by simp [stripMinus_minus])
      simpa [fltText] using this
    | false =>
      have := decodeNumber_flt_body d rest e r hw hr false []
        (by simp only [List.nil_append]; exact stripMinus_of_ne _ _ (by omega))
      simpa [fltText] using this


/-- first character of a number -/
def numStart (h : Nat) : Prop := h = 0x2D ∨ isDigit h = true

theorem formatInt_head (i : Int) : ∃ h t, formatInt i = h :: t ∧ numStart h := by
  unfold formatInt
  split
  · exact ⟨_, _, rfl, Or.inl rfl⟩
  · obtain ⟨h, t, e, hd, _⟩ := (natDigits_spec i.natAbs).cons
    exact ⟨h, t, e, Or.inr hd⟩

theorem fltText_head (neg : Bool) (ds : List Nat) (e : Int) (hw : wfDigits ds = true) :
    ∃ h t, fltText neg ds e = h :: t ∧ numStart h := by
  cases ds with
  | nil => simp [wfDigits] at hw
  | cons d rest =>
    obtain ⟨hd, _, _⟩ := wfDigits_cons hw
    cases neg with
    | true => exact ⟨_, _, rfl, Or.inl rfl⟩
    | false =>
      refine ⟨48 + d, 0x2E :: (fracText rest ++ 0x45 :: formatInt e), by simp [fltText], Or.inr ?_⟩
      rw [isDigit_iff]; omega

/-- `-` and the digits are none of `n` `t` `f` `"` -/
theorem decodeAtom_number {t : Chars} (ht : ∃ c u, t = c :: u ∧ numStart c) (r : Chars) :
    decodeAtom (t ++ r) = decodeNumber (t ++ r) := by
  obtain ⟨c, u, rfl, hn⟩ := ht
  have hc : c ≠ 0x6E ∧ c ≠ 0x74 ∧ c ≠ 0x66 ∧ c ≠ 0x22 := by
    rcases hn with rfl | hn
    · decide
    · rw [isDigit_iff] at hn; omega
  rw [List.cons_append, decodeAtom.eq_def]
  split <;> first | rfl | (rename_i heq; have := (List.cons.inj heq).1; omega)

theorem decodeAtom_atomText (a : Atom) (r : Chars) (hw : a.wf = true) (hr : delim r = true) :
    decodeAtom (atomText a ++ r) = some (a, r) := by
  cases a with
  | null => simp [atomText, decodeAtom]
  | bool b => cases b <;> simp [atomText, decodeAtom]
  | int i => exact (decodeAtom_number (formatInt_head i) r).trans (decodeNumber_formatInt i r hr)
  | flt neg ds e => exact (decodeAtom_number (fltText_head neg ds e hw) r).trans (decodeNumber_fltText neg ds e r hw hr)
  | str s =>
    simp only [atomText, strText, List.cons_append, List.append_assoc, List.nil_append, decodeAtom]
    have := unescS_escS s r
    rw [this]; rfl

/-- a reader that gives back the value written and what followed it: the writer is a prefix code -/
theorem prefix_free_of_decode {α : Type} {dec : Chars → Option (α × Chars)} {t₁ t₂ : Chars} {a b : α} {r₁ r₂ : Chars}
    (h₁ : dec t₁ = some (a, r₁)) (h₂ : dec t₂ = some (b, r₂)) (h : t₁ = t₂) : a = b ∧ r₁ = r₂ := by
  rw [h, h₂] at h₁
  cases h₁
  exact ⟨rfl, rfl⟩

theorem atomText_prefix_free (a b : Atom) (r₁ r₂ : Chars) (ha : a.wf = true) (hb : b.wf = true)
    (h₁ : delim r₁ = true) (h₂ : delim r₂ = true) (h : atomText a ++ r₁ = atomText b ++ r₂) :
    a = b ∧ r₁ = r₂ :=
  prefix_free_of_decode (decodeAtom_atomText a r₁ ha h₁) (decodeAtom_atomText b r₂ hb h₂) h

theorem strText_prefix_free (s t : Str) (r₁ r₂ : Chars) (h : strText s ++ r₁ = strText t ++ r₂) :
    s = t ∧ r₁ = r₂ := by
  simp only [strText, List.cons_append, List.append_assoc, List.nil_append, List.cons.injEq, true_and] at h
  exact prefix_free_of_decode (unescS_escS s r₁) (unescS_escS t r₂) h

/-- what a leaf can start with: neither an opening bracket or brace nor a delimiter -/
def atomStart (h : Nat) : Prop :=
  h ≠ 0x5B ∧ h ≠ 0x7B ∧ h ≠ 0x5D ∧ h ≠ 0x7D ∧ h ≠ 0x2C

theorem numStart_atomStart {h : Nat} (hn : numStart h) : atomStart h := by
  rcases hn with hn | hn
  · subst hn; unfold atomStart; decide
  · rw [isDigit_iff] at hn; unfold atomStart; omega

theorem atomText_head (a : Atom) (hw : a.wf = true) : ∃ h t, atomText a = h :: t ∧ atomStart h := by
  cases a with
  | null => exact ⟨_, _, rfl, by unfold atomStart; decide⟩
  | bool b => cases b <;> exact ⟨_, _, rfl, by unfold atomStart; decide⟩
  | int i =>
    obtain ⟨h, t, e, hn⟩ := formatInt_head i
    exact ⟨h, t, e, numStart_atomStart hn⟩
  | flt neg ds e =>
    obtain ⟨h, t, e', hn⟩ := fltText_head neg ds e hw
    exact ⟨h, t, e', numStart_atomStart hn⟩
  | str s => exact ⟨_, _, rfl, by unfold atomStart; decide⟩

theorem atomText_not_container (a : Atom) (hw : a.wf = true) (r t : Chars) :
    atomText a ++ r ≠ 0x5B :: t ∧ atomText a ++ r ≠ 0x7B :: t := by
  obtain ⟨c, u, e, hs⟩ := atomText_head a hw
  rw [e]
  exact ⟨fun h => hs.1 (List.cons.inj h).1, fun h => hs.2.1 (List.cons.inj h).1⟩

theorem not_delim_text (v : J) (hw : v.wf = true) (r : Chars) : delim (text v ++ r) = false := by
  cases v with
  | atom a =>
    obtain ⟨h, t, e, hs⟩ := atomText_head a (by simpa [J.wf] using hw)
    simp [text, e, delim, hs.2.2.1, hs.2.2.2.1, hs.2.2.2.2]
  | arr xs => rfl
  | obj kvs => rfl

theorem delim_elems (xs : JL) (r : Chars) : delim (elems false xs ++ 0x5D :: r) = true := by
  cases xs <;> simp [elems, sep, delim]

theorem delim_members (xs : KL) (r : Chars) : delim (members false xs ++ 0x7D :: r) = true := by
  cases xs <;> simp [members, sep, delim]

mutual
theorem inj_J : ∀ (v w : J) (r₁ r₂ : Chars), v.wf = true → w.wf = true → delim r₁ = true → delim r₂ = true →
    text v ++ r₁ = text w ++ r₂ → v = w ∧ r₁ = r₂
  | .atom a, .atom b, r₁, r₂, hv, hw, h₁, h₂, h => by
    have := atomText_prefix_free a b r₁ r₂ (by simpa [J.wf] using hv) (by simpa [J.wf] using hw) h₁ h₂
      (by simpa [text] using h)
    exact ⟨by rw [this.1], this.2⟩
  | .atom a, .arr ys, r₁, _, hv, _, _, _, h => absurd h (atomText_not_container a (by simpa [J.wf] using hv) r₁ _).1
  | .atom a, .obj ys, r₁, _, hv, _, _, _, h => absurd h (atomText_not_container a (by simpa [J.wf] using hv) r₁ _).2
  | .arr xs, .atom b, _, r₂, _, hw, _, _, h => absurd h.symm (atomText_not_container b (by simpa [J.wf] using hw) r₂ _).1
  | .obj xs, .atom b, _, r₂, _, hw, _, _, h => absurd h.symm (atomText_not_container b (by simpa [J.wf] using hw) r₂ _).2
  | .arr xs, .obj ys, r₁, r₂, hv, hw, h₁, h₂, h => by
    simp [text] at h
  | .obj xs, .arr ys, r₁, r₂, hv, hw, h₁, h₂, h => by
    simp [text] at h
  | .arr xs, .arr ys, r₁, r₂, hv, hw, h₁, h₂, h => by
    simp only [text, List.cons_append, List.cons.injEq, true_and, List.append_assoc, List.nil_append] at h
    have := inj_L true xs ys r₁ r₂ (by simpa [J.wf] using hv) (by simpa [J.wf] using hw) h
    exact ⟨by rw [this.1], this.2⟩
  | .obj xs, .obj ys, r₁, r₂, hv, hw, h₁, h₂, h => by
    simp only [text, List.cons_append, List.cons.injEq, true_and, List.append_assoc, List.nil_append] at h
    have := inj_K true xs ys r₁ r₂ (by simpa [J.wf] using hv) (by simpa [J.wf] using hw) h
    exact ⟨by rw [this.1], this.2⟩
theorem inj_L : ∀ (f : Bool) (xs ys : JL) (r₁ r₂ : Chars), xs.wf = true → ys.wf = true →
    elems f xs ++ 0x5D :: r₁ = elems f ys ++ 0x5D :: r₂ → xs = ys ∧ r₁ = r₂
  | f, .nil, .nil, r₁, r₂, _, _, h => by simpa [elems] using h
  | f, .nil, .cons y ys, r₁, r₂, _, hy, h => by
    simp only [JL.wf, Bool.and_eq_true] at hy
    cases f <;> simp [elems, sep] at h
    have := congrArg delim h
    rw [not_delim_text y hy.1] at this; cases this
  | f, .cons x xs, .nil, r₁, r₂, hx, _, h => by
    simp only [JL.wf, Bool.and_eq_true] at hx
    cases f <;> simp [elems, sep] at h
    have := congrArg delim h
    rw [not_delim_text x hx.1] at this; cases this
  | f, .cons x xs, .cons y ys, r₁, r₂, hx, hy, h => by
    simp only [JL.wf, Bool.and_eq_true] at hx hy
    have h' : text x ++ (elems false xs ++ 0x5D :: r₁) = text y ++ (elems false ys ++ 0x5D :: r₂) := by
      cases f <;> simpa [elems, sep] using h
    obtain ⟨e1, e2⟩ := inj_J x y _ _ hx.1 hy.1 (delim_elems xs r₁) (delim_elems ys r₂) h'
    obtain ⟨e3, e4⟩ := inj_L false xs ys r₁ r₂ hx.2 hy.2 e2
    exact ⟨by rw [e1, e3], e4⟩
theorem inj_K : ∀ (f : Bool) (xs ys : KL) (r₁ r₂ : Chars), xs.wf = true → ys.wf = true →
    members f xs ++ 0x7D :: r₁ = members f ys ++ 0x7D :: r₂ → xs = ys ∧ r₁ = r₂
  | f, .nil, .nil, r₁, r₂, _, _, h => by simpa [members] using h
  | f, .nil, .cons k v ys, r₁, r₂, _, _, h => by
    cases f <;> simp [members, sep, strText] at h
  | f, .cons k v xs, .nil, r₁, r₂, _, _, h => by
    cases f <;> simp [members, sep, strText] at h
  | f, .cons k v xs, .cons k' v' ys, r₁, r₂, hx, hy, h => by
    simp only [KL.wf, Bool.and_eq_true] at hx hy
    have h' : strText k ++ (0x3A :: (text v ++ (members false xs ++ 0x7D :: r₁))) =
        strText k' ++ (0x3A :: (text v' ++ (members false ys ++ 0x7D :: r₂))) := by
      cases f <;> simpa [members, sep] using h
    obtain ⟨ek, h''⟩ := strText_prefix_free k k' _ _ h'
    simp only [List.cons.injEq, true_and] at h''
    obtain ⟨e1, e2⟩ := inj_J v v' _ _ hx.1 hy.1 (delim_members xs r₁) (delim_members ys r₂) h''
    obtain ⟨e3, e4⟩ := inj_K false xs ys r₁ r₂ hx.2 hy.2 e2
    exact ⟨by rw [ek, e1, e3], e4⟩
end

theorem text_injective (v w : J) (hv : v.wf = true) (hw : w.wf = true) (h : text v = text w) : v = w :=
  (inj_J v w [] [] hv hw rfl rfl (by simpa using h)).1

end GoblVerif.Proofs.C14n
