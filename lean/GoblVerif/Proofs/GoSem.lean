/-
  GoSem (proofs): reasoning principles for the shapes the go2lean translator
  emits.  Nothing here is about a particular package.

  A condition-controlled Go loop becomes `for _ in [0:fuel] do …` in `Id`;
  `forIn_range_fuel` turns that into the structural recursion `forFuel`, on
  which an invariant is an ordinary induction on the fuel.  A loop whose counter grows
  does not run out of fuel (`forFuel_progress`, `forFuel_counts`).
  Loops over lists: Proofs/GoSemList.lean.
-/
namespace GoblVerif.GoSem

/-- in `Id`, `pure` is the identity (what `return` leaves behind after `simp [Id.run]`) -/
theorem id_pure {α : Type} (x : α) : (pure x : Id α) = x := rfl

/-- `len(l) == 0` and `len(l) > 0` as the translator writes them: on the length cast to `int` -/
theorem len_eq_zero {α : Type} (l : List α) : ((l.length : Int) = 0) ↔ l = [] := by
  cases l <;> simp <;> omega

theorem len_pos {α : Type} (l : List α) : ((l.length : Int) > 0) ↔ l ≠ [] := by
  cases l <;> simp <;> omega

/-- `fuel` rounds of a loop body `g` (`done` = break / return, `yield` = next round) -/
def forFuel {β : Type} (g : β → ForInStep β) : Nat → β → β
  | 0, b => b
  | n+1, b => match g b with
    | .done b' => b'
    | .yield b' => forFuel g n b'

theorem forIn_list_const {β α : Type} (g : β → ForInStep β) (l : List α) (init : β) :
    (forIn (m := Id) l init (fun _ s => pure (g s))) = pure (forFuel g l.length init) := by
  induction l generalizing init with
  | nil => rfl
  | cons x xs ih =>
    simp only [List.forIn_cons, List.length_cons, forFuel]
    cases h : g init with
    | done b => simp
    | yield b => simp [ih]

/-- a `for _ in [0:n]` loop whose body ignores the index is `forFuel` -/
theorem forIn_range_fuel {β : Type} (f : Nat → β → Id (ForInStep β)) (hf : ∀ i s, f i s = f 0 s)
    (n : Nat) (init : β) :
    (forIn [0:n] init f) = pure (forFuel (fun s => (f 0 s).run) n init) := by
  have h : f = fun _ s => pure ((fun s => (f 0 s).run) s) := by
    funext i s; rw [hf]; rfl
  rw [Std.Legacy.Range.forIn_eq_forIn_range']
  conv => lhs; rw [h]
  rw [forIn_list_const]
  simp [Std.Legacy.Range.size]

theorem forFuel_congr {β : Type} (g g' : β → ForInStep β) (h : ∀ b, g b = g' b) (n : Nat) (b : β) :
    forFuel g n b = forFuel g' n b := by
  have : g = g' := funext h
  rw [this]

/-- `for n != 0 { out *= base; n-- }` with fuel `n` -/
theorem forFuel_pow (g : Nat × Int → ForInStep (Nat × Int)) (base : Int) (hs : ∀ k s, g (k + 1, s) = .yield (k, s * base)) :
    ∀ (n : Nat) (s : Int), forFuel g n (n, s) = (0, s * base ^ n)
  | 0, s => by simp [forFuel]
  | n + 1, s => by
    simp only [forFuel, hs]
    rw [forFuel_pow g base hs n, Int.pow_succ]; ac_rfl

/-- `for i := o; i < o + n; i++ { a = f a (l[i-o], i) }`.  `mk` places accumulator and counter in the
    loop state; the start state `b` is given apart so that literals need not be casts. -/
theorem forFuel_scan {α β σ : Type} (g : β → ForInStep β) (mk : σ → Nat → β) (f : σ → α × Nat → σ) :
    ∀ (n : Nat) (l : List α) (o : Nat) (hn : n ≤ l.length),
    (∀ a i (h : i < n), g (mk a (o + i)) = .yield (mk (f a (l[i], o + i)) (o + i + 1))) →
    ∀ (fuel : Nat), (fuel = n ∨ n ≤ fuel ∧ ∀ a, g (mk a (o + n)) = .done (mk a (o + n))) → ∀ a b, b = mk a o →
      forFuel g fuel b = mk (((l.take n).zipIdx o).foldl f a) (o + n)
  | 0, l, o, _, _, fuel, hd, a, _, rfl => by
    cases fuel with
    | zero => rfl
    | succ k =>
      obtain ⟨_, hd⟩ := hd.resolve_left (by omega)
      rw [forFuel, show g (mk a o) = .done (mk a o) from hd a]; rfl
  | n + 1, x :: xs, o, hn, hy, fuel + 1, hd, a, _, rfl => by
    have h0 := hy a 0 (by omega)
    simp only [Nat.add_zero, List.getElem_cons_zero] at h0
    rw [forFuel, h0]
    simp only [List.take_succ_cons, List.zipIdx_cons, List.foldl_cons]
    rw [show o + (n + 1) = o + 1 + n by omega]
    refine forFuel_scan g mk f n xs (o + 1) (by simpa using hn) (fun a i h => ?_) fuel ?_ _ _ rfl
    · have := hy a (i + 1) (by omega)
      simpa only [List.getElem_cons_succ, show o + (i + 1) = o + 1 + i by omega] using this
    · refine hd.imp (by omega) (fun h => ⟨by omega, fun a => ?_⟩)
      simpa only [show o + (n + 1) = o + 1 + n by omega] using h.2 a
  | n + 1, _, _, _, _, 0, hd, _, _, _ => by omega

end GoblVerif.GoSem

namespace GoblVerif.C14nSrc  -- the namespace of Proofs/C14nSrc.lean; the fuel theorems of Props/C07 rewrite with these

/-- what `forFuel_progress` asks of one round, as ONE proposition about the step -/
def stepProp {β : Type} (Pd Py : β → Prop) : ForInStep β → Prop
  | .done x => Pd x
  | .yield x => Py x

theorem stepProp_ite {β : Type} (Pd Py : β → Prop) (c : Prop) [Decidable c] (a b : ForInStep β) :
    stepProp Pd Py (if c then a else b) = if c then stepProp Pd Py a else stepProp Pd Py b :=
  apply_ite _ _ _ _

theorem stepProp_ite_id {β : Type} (Pd Py : β → Prop) (c : Prop) [Decidable c] (a b : Id (ForInStep β)) :
    stepProp Pd Py (@ite (Id (ForInStep β)) c _ a b) = if c then stepProp Pd Py a else stepProp Pd Py b :=
  apply_ite _ _ _ _

theorem stepProp_done {β : Type} (Pd Py : β → Prop) (x : β) : stepProp Pd Py (.done x) = Pd x := rfl
theorem stepProp_yield {β : Type} (Pd Py : β → Prop) (x : β) : stepProp Pd Py (.yield x) = Py x := rfl

end GoblVerif.C14nSrc

namespace GoblVerif.GoSem

/-- `cnt` is the loop counter and `n` its bound; `P` holds of a state left by `return`, `Q` is the invariant while no
    `return` has happened.  A round from a `Q`-state either stops (`done`) in a `P`-state or at the bound, or goes on
    (`yield`) in a `Q`-state with the counter raised; then `n - cnt b` rounds of fuel suffice.
    The hypothesis is ONE statement about the step, so that the
    rewriting lemmas `stepProp_ite` … can push it through the `if`-tree of a loop body down to the leaves, where it
    reads off only the components it speaks of: branches that differ in the rest of the state (what is
    appended to a buffer) become equal and fall together by `ite_self`, and the body is never split. -/
theorem forFuel_progress {β : Type} (g : β → ForInStep β) (cnt : β → Int) (n : Int) (P Q : β → Prop)
    (h : ∀ b, Q b → C14nSrc.stepProp (fun b' => P b' ∨ (Q b' ∧ ¬ cnt b' < n)) (fun b' => Q b' ∧ cnt b + 1 ≤ cnt b') (g b)) :
    ∀ (k : Nat) (b : β), Q b → n - cnt b ≤ k →
      P (forFuel g k b) ∨ (Q (forFuel g k b) ∧ ¬ cnt (forFuel g k b) < n)
  | 0, b, hq, hk => Or.inr ⟨hq, by simp only [forFuel]; omega⟩
  | k + 1, b, hq, hk => by
    have hb := h b hq
    rw [forFuel]
    cases hg : g b with
    | done b' => rw [hg] at hb; exact hb
    | yield b' =>
      rw [hg] at hb
      exact forFuel_progress g cnt n P Q h k b' hb.1 (by have := hb.2; omega)

/-- what one round of a counted loop may do from the state `b`: leave through a `return` (`P`),
    leave at the bound, or go on with the counter raised by one (`Q`: no `return` so far) -/
inductive Counts {β : Type} (cnt : β → Int) (n : Int) (P Q : β → Prop) (b : β) : ForInStep β → Prop
  | ret {b'} : P b' → Counts cnt n P Q b (.done b')
  | exit {b'} : ¬ cnt b' < n → Q b' → Counts cnt n P Q b (.done b')
  | next {b'} : Q b' → cnt b' = cnt b + 1 → Counts cnt n P Q b (.yield b')

/-- a loop body is a tree of `if`s with one of the three at each leaf -/
theorem Counts.ite {β : Type} {cnt : β → Int} {n : Int} {P Q : β → Prop} {b : β} {c : Prop} [Decidable c]
    {x y : ForInStep β} (hx : c → Counts cnt n P Q b x) (hy : ¬ c → Counts cnt n P Q b y) :
    Counts cnt n P Q b (if c then x else y) := by
  split
  · exact hx ‹_›
  · exact hy ‹_›

/-- `r` names the result (`generalize hr : forFuel _ k _ = r`), so that the statement need not be written out
    where it is used -/
theorem forFuel_counts {β : Type} (cnt : β → Int) (n : Int) (P Q : β → Prop) {g : β → ForInStep β} {k : Nat} {b r : β}
    (hr : forFuel g k b = r) (hq : Q b) (hk : n - cnt b ≤ k) (h : ∀ b, Q b → Counts cnt n P Q b (g b)) :
    P r ∨ (Q r ∧ ¬ cnt r < n) :=
  hr ▸ forFuel_progress g cnt n P Q (fun b hq => by
    have hb := h b hq
    generalize g b = s at hb
    cases hb with
    | ret hp => exact Or.inl hp
    | exit hc hq' => exact Or.inr ⟨hq', hc⟩
    | next hq' hc => exact ⟨hq', by omega⟩) k b hq hk

theorem forFuel_counts_noret {β : Type} (cnt : β → Int) (n : Int) {g : β → ForInStep β} {k : Nat} {b r : β}
    (hr : forFuel g k b = r) (hk : n - cnt b ≤ k) (h : ∀ b, Counts cnt n (fun _ => False) (fun _ => True) b (g b)) :
    ¬ cnt r < n :=
  (forFuel_counts cnt n (fun _ => False) (fun _ => True) hr trivial hk fun b _ => h b).elim False.elim And.right

/-- Go's `%` and `/` truncate (`Int.tmod`, `Int.tdiv`); on non-negative integers they are those of `Nat` -/
theorem tmod_nat (a b : Nat) : Int.tmod (a : Int) (b : Int) = ((a % b : Nat) : Int) := by
  rw [Int.tmod_eq_emod_of_nonneg (by omega)]; norm_cast

theorem tdiv_nat (a b : Nat) : Int.tdiv (a : Int) (b : Int) = ((a / b : Nat) : Int) := by
  rw [Int.tdiv_eq_ediv_of_nonneg (by omega)]; norm_cast

theorem tmod_lit (a n : Nat) : Int.tmod (a : Int) (OfNat.ofNat n) = ((a % (OfNat.ofNat n : Nat) : Nat) : Int) :=
  tmod_nat a n

/-- the same two read from the other side: no proof names them, `push_cast` / `norm_cast` find them through the attribute -/
@[norm_cast] theorem natCast_tmod (a b : Nat) : ((a % b : Nat) : Int) = Int.tmod (a : Int) (b : Int) := (tmod_nat a b).symm
@[norm_cast] theorem natCast_tdiv (a b : Nat) : ((a / b : Nat) : Int) = Int.tdiv (a : Int) (b : Int) := (tdiv_nat a b).symm

end GoblVerif.GoSem
