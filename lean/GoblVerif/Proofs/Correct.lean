/-
  What carries Props/C16 (Model/Correct.lean): the merged correction definition, the stamp loop, and
  the notion the shape theorems are about, `Corrective`: a corrective document in the members
  `Calculate` keeps (`CalcKeeps`).  It holds of what `correctCore` builds, and survives `Calculate`
  and a new identifier.  Core Lean only.
-/
import GoblVerif.Model.Correct

namespace GoblVerif.Correct

variable {κ : Type}

theorem correctionDef_iff (p : CorrectionDef → Prop) (h0 : ¬ p {})
    (hm : ∀ a b : CorrectionDef, p (a.merge b) ↔ p a ∨ p b)
    (regime : Option CorrectionDef) (addons : List (Option CorrectionDef)) :
    p (correctionDef regime addons) ↔ (∃ d, regime = some d ∧ p d) ∨ ∃ a ∈ addons, ∃ d, a = some d ∧ p d := by
  have step : ∀ cd a, p (CorrectionDef.mergeOpt cd a) ↔ p cd ∨ ∃ d, a = some d ∧ p d := by
    intro cd a; cases a <;> simp [CorrectionDef.mergeOpt, hm]
  have fold : ∀ (as : List (Option CorrectionDef)) cd,
      p (as.foldl CorrectionDef.mergeOpt cd) ↔ p cd ∨ ∃ a ∈ as, ∃ d, a = some d ∧ p d := by
    intro as
    induction as with
    | nil => simp
    | cons a as ih => intro cd; simp [ih, step, or_assoc]
  simp [correctionDef, fold, step, h0]

/-- the stamp the loop takes for a provider -/
abbrev stampOf (have_ : List Stamp) (k : String) : Option Stamp := have_.find? (·.provider == k)

theorem stampOf_some {have_ : List Stamp} {k : String} {s : Stamp} (h : stampOf have_ k = some s) :
    s ∈ have_ ∧ s.provider = k :=
  ⟨List.mem_of_find?_eq_some h, by simpa using List.find?_some h⟩

theorem collectStamps_eq (have_ : List Stamp) : ∀ ks, collectStamps have_ ks =
    match ks.find? (fun k => (stampOf have_ k).isNone) with
    | some k => .error (.missingStamp k)
    | none => .ok (ks.filterMap (stampOf have_))
  | [] => rfl
  | k :: ks => by
    simp only [collectStamps, collectStamps_eq have_ ks, List.find?_cons, List.filterMap_cons, stampOf]
    cases have_.find? (·.provider == k) with
    | none => rfl
    | some s => simp only [Option.isNone_some]; cases ks.find? _ <;> rfl

theorem collectStamps_error (have_ : List Stamp) (ks : List String) (e : Err)
    (h : collectStamps have_ ks = .error e) : ∃ k, e = .missingStamp k := by
  rw [collectStamps_eq] at h
  split at h
  · exact ⟨_, by cases h; rfl⟩
  · cases h

/-- the stamp loop fails iff some required provider has no stamp in the options -/
theorem collectStamps_error_iff (have_ : List Stamp) (ks : List String) :
    (∃ e, collectStamps have_ ks = .error e) ↔ ∃ k ∈ ks, ∀ s ∈ have_, s.provider ≠ k := by
  rw [collectStamps_eq]
  have : (ks.find? fun k => (stampOf have_ k).isNone).isSome = true ↔ ∃ k ∈ ks, ∀ s ∈ have_, s.provider ≠ k := by
    simp [stampOf]
  rw [← this]
  cases ks.find? _ <;> simp

/-- success of the stamp loop: exactly one stamp per required provider, in
    the order of the definition, each taken from the options -/
theorem collectStamps_ok (have_ : List Stamp) (ks : List String) (out : List Stamp)
    (h : collectStamps have_ ks = .ok out) :
    out.map (·.provider) = ks ∧ ∀ s ∈ out, s ∈ have_ := by
  rw [collectStamps_eq] at h
  split at h
  · cases h
  · rename_i hn
    cases h
    refine ⟨?_, fun s hs => ?_⟩
    · have hall := List.find?_eq_none.mp hn
      clear hn
      induction ks with
      | nil => rfl
      | cons k ks ih =>
        cases hs : stampOf have_ k with
        | none => exact absurd (by rw [hs]; rfl) (hall k (by simp))
        | some s =>
          rw [List.filterMap_cons, hs, List.map_cons, (stampOf_some hs).2, ih fun x hx => hall x (by simp [hx])]
    · obtain ⟨k, _, hk⟩ := List.mem_filterMap.mp hs
      exact (stampOf_some hk).1

theorem correctCore_ok {cd : CorrectionDef} {o : Options} {today : String} {inv r : Invoice κ}
    (h : inv.correctCore cd o today = .ok r) :
    o.type ≠ "" ∧ inv.code ≠ "" ∧ (cd.types ≠ [] → o.type ∈ cd.types) ∧ (cd.reasonRequired = true → o.reason ≠ "") ∧
    ∃ stamps, stamps.map (·.provider) = cd.stamps ∧ (∀ s ∈ stamps, s ∈ o.stamps) ∧
      r = { inv with
            uuid := "", type := o.type, series := if o.series = "" then inv.series else o.series, code := "",
            issueDate := o.issueDate.getD today,
            preceding := [{ uuid := inv.uuid, type := inv.type, series := inv.series, code := inv.code,
                            issueDate := inv.issueDate, reason := o.reason, ext := o.ext, stamps := stamps,
                            tax := if o.copyTax then inv.totalsTax else none }] } := by
  unfold Invoice.correctCore at h
  by_cases ht : o.type = ""
  · simp [ht] at h
  by_cases hc : inv.code = ""
  · simp [ht, hc] at h
  cases hs : collectStamps o.stamps cd.stamps with
  | error e => simp [ht, hc, hs] at h
  | ok stamps =>
    by_cases hty : cd.types ≠ [] ∧ o.type ∉ cd.types
    · simp [ht, hc, hs, hty] at h
    by_cases hrr : cd.reasonRequired = true ∧ o.reason = ""
    · simp [ht, hc, hs, hty, hrr] at h
    simp only [ht, hc, hs, hty, hrr, if_false, Except.ok.injEq] at h
    obtain ⟨s1, s2⟩ := collectStamps_ok _ _ _ hs
    exact ⟨ht, hc, fun hne => Classical.byContradiction fun hn => hty ⟨hne, hn⟩, fun hreq he => hrr ⟨hreq, he⟩,
      stamps, s1, s2, h.symm⟩

/-- `r` is a corrective document of `inv` under `o` and `cd`, in the members `Calculate` keeps -/
structure Corrective (cd : CorrectionDef) (o : Options) (today : String) (inv r : Invoice κ) : Prop where
  type_ne : o.type ≠ ""
  code_ne : inv.code ≠ ""
  code : r.code = ""
  type : r.type = o.type
  allowed : cd.types ≠ [] → o.type ∈ cd.types
  series : r.series = (if o.series = "" then inv.series else o.series)
  issueDate : r.issueDate = o.issueDate.getD today
  reason : cd.reasonRequired = true → o.reason ≠ ""
  link : ∃ stamps, stamps.map (·.provider) = cd.stamps ∧ (∀ s ∈ stamps, s ∈ o.stamps) ∧
    r.preceding.map DocRef.ident = [(inv.uuid, inv.type, inv.series, inv.code, inv.issueDate, o.reason, stamps)]

namespace Corrective
variable {cd : CorrectionDef} {o : Options} {today : String} {inv r : Invoice κ}

theorem pre (c : Corrective cd o today inv r) :
    ∃ pre, r.preceding = [pre] ∧
      pre.uuid = inv.uuid ∧ pre.type = inv.type ∧ pre.series = inv.series ∧ pre.code = inv.code ∧
      pre.issueDate = inv.issueDate ∧ pre.reason = o.reason ∧
      pre.stamps.map (·.provider) = cd.stamps ∧ (∀ s ∈ pre.stamps, s ∈ o.stamps) := by
  obtain ⟨stamps, h1, h2, h3⟩ := c.link
  obtain ⟨pre, hp, e⟩ := List.map_eq_singleton_iff.mp h3
  simp only [DocRef.ident, Prod.mk.injEq] at e
  obtain ⟨e1, e2, e3, e4, e5, e6, rfl⟩ := e
  exact ⟨pre, hp, e1, e2, e3, e4, e5, e6, h1, h2⟩

theorem calculate {calcF : Invoice κ → Option (Invoice κ)} (hk : CalcKeeps calcF) {j : Invoice κ}
    (h : calcF r = some j) (c : Corrective cd o today inv r) : Corrective cd o today inv j := by
  obtain ⟨_, k2, k3, k4, k5, k6, _⟩ := hk.keeps r j h
  exact ⟨c.type_ne, c.code_ne, k4 ▸ c.code, k2 ▸ c.type, c.allowed, k3 ▸ c.series, k5 ▸ c.issueDate, c.reason,
    k6 ▸ c.link⟩

theorem withUuid (u : String) (c : Corrective cd o today inv r) : Corrective cd o today inv (r.withUuid u) :=
  ⟨c.type_ne, c.code_ne, c.code, c.type, c.allowed, c.series, c.issueDate, c.reason, c.link⟩

theorem of_correct {calcF : Invoice κ → Option (Invoice κ)} (hk : CalcKeeps calcF)
    (h : inv.correct calcF cd o today = .ok r) : Corrective cd o today inv r ∧ r.uuid = "" := by
  unfold Invoice.correct at h
  cases hr0 : inv.correctCore cd o today with
  | error e => simp [hr0] at h
  | ok r0 =>
    cases hc : calcF r0 with
    | none => simp [hr0, hc] at h
    | some r' =>
      simp only [hr0, hc, Except.ok.injEq] at h
      subst h
      obtain ⟨ht, hc', hty, hrr, stamps, s1, s2, rfl⟩ := correctCore_ok hr0
      exact ⟨calculate hk hc ⟨ht, hc', rfl, rfl, hty, rfl, rfl, hrr, stamps, s1, s2, rfl⟩, (hk.keeps _ _ hc).1⟩

end Corrective

end GoblVerif.Correct
