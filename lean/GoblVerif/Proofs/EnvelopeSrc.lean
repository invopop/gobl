/-
  Helpers for `namespace Src` of Props/C10.lean: the embedding of the model's
  envelope into the Go-shaped one of Generated/EnvelopeSrc.lean, and the
  equality of every translated function of /repo/envelope.go with the
  corresponding transition of Model/Envelope.lean.
-/
import GoblVerif.Generated.EnvelopeSrc
import GoblVerif.Proofs.GoSemList
import GoblVerif.Proofs.GoMap

namespace GoblVerif.EnvSrc
open GoblVerif GoblVerif.GoSem GoblVerif.Generated.EnvelopeSrc

/-- the `*schema.Object` that stands for a document of the model: not empty, and
    `Envelope.Digest()` over it is the model's `digestOf H` -/
def ofDoc (H : Nat → String) (d : Doc) : Obj := ⟨false, d, digestOf H d⟩

/-- the Go envelope that stands for an envelope of the model (`sch` = its
    `$schema`; the header pointer is never nil in the model) -/
def ofEnv (H : Nat → String) (sch : String) (e : Env) : Envelope :=
  ⟨sch, some e.head, e.doc.map (ofDoc H), e.sigs⟩

/-- the Go error of an outcome class: `nil` for ok, otherwise the `*gobl.Error`
    with the key of the class -/
def goErr : Outcome → Option Err
  | .ok => none
  | o => some (.gobl o.str)

/-- the Go error of a signature verdict (`errors.New` texts of `verifySignature`) -/
def verdictErr : SigVerdict → Option Err
  | .ok => none
  | .mismatch => some (.plain "header mismatch")
  | .noKey => some (.plain "no key match found")
  | .badPayload => some (.plain "invalid signature payload")

/-- the Go error of `Verify`.  With no signature at all Go returns `ErrSignature`, the key that a failed `Sign` carries
    too: the error alone does not tell the outcomes apart, which is why `Src.src_refines_outcome` of Props/C10.lean
    says of `Verify` only that it fails exactly when the model's does. -/
def verifyErr : VerifyOut → Option Err
  | .ok => none
  | .unsigned => some (.gobl "signature")
  | .failed _ => some (.gobl "validation")

theorem length_zero_iff {α : Type} (l : List α) : ((l.length : Int) = 0) ↔ l = [] :=
  len_eq_zero l

theorem src_Signed (H : Nat → String) (sch : String) (e : Env) :
    Envelope_Signed (ofEnv H sch e) = e.signed := by
  simp only [Envelope_Signed, Env.signed, ofEnv, len_pos]
  by_cases h : e.sigs = [] <;> simp [h]

theorem src_Unsign (H : Nat → String) (sch : String) (e : Env) :
    Envelope_Unsign (ofEnv H sch e) = ofEnv H sch e.unsign :=
  rfl

theorem validateStruct_ofEnv (H : Nat → String) (sch : String) (hs : sch ≠ "") (e : Env) (c : Bool) :
    validateStruct c (some (ofEnv H sch e)) = match e.doc with
      | none => some .fields
      | some d => if (headBad e.head c || !d.validIn c || e.sigs.any (·.isNone)) = true then some .fields else none := by
  cases hd : e.doc with
  | none => simp [validateStruct, ofEnv, hd]
  | some d => simp [validateStruct, ofEnv, ofDoc, hd, hs, or_assoc]

theorem src_verifyDigest (H : Nat → String) (sch : String) (e : Env) (d : Doc) (a : Digest) (hdoc : e.doc = some d)
    (hdig : e.head.dig = some a) :
    Envelope_verifyDigest (ofEnv H sch e) = if a = digestOf H d then none else some (.gobl "digest") := by
  unfold Envelope_verifyDigest
  simp only [Id.run, id_pure, digestPrim, ofEnv, hdoc, hdig, Option.map_some, ofDoc, Option.get!_some]
  -- `d1.Equals(d2)`: another algorithm or another value, the same `digest` error
  obtain ⟨a1, a2⟩ := a; obtain ⟨b1, b2⟩ := digestOf H d
  by_cases h1 : a1 = b1 <;> by_cases h2 : a2 = b2 <;> simp [digestEquals, withCause, ErrDigest, h1, h2]

theorem src_Validate (H : Nat → String) (sch : String) (hs : sch ≠ "") (e : Env) :
    Envelope_Validate (ofEnv H sch e) = goErr (Env.validate H e) := by
  unfold Envelope_Validate Envelope_ValidateWithContext
  simp only [Id.run, id_pure, len_pos]
  -- `ctx` ends as `e.signed`, in both arms of `if len(e.Signatures) > 0 { ctx = … }`
  have hsg : e.signed = decide ((ofEnv H sch e).Signatures ≠ []) := by
    rw [← src_Signed H sch e, Envelope_Signed]; simp only [len_pos]
  suffices key : (if (validateStruct e.signed (some (ofEnv H sch e))).isSome = true then
        wrapError (validateStruct e.signed (some (ofEnv H sch e)))
      else wrapError (Envelope_verifyDigest (ofEnv H sch e))) = goErr (Env.validate H e) by
    split <;> simp_all
  rw [validateStruct_ofEnv H sch hs, Env.validate]
  cases hdoc : e.doc with
  | none => rfl
  | some d =>
    dsimp only
    split
    · rfl
    · rename_i hb
      cases hdg : e.head.dig with
      | none => simp [headBad, hdg] at hb
      | some a =>
        rw [src_verifyDigest H sch e d a hdoc hdg]
        by_cases ha : a = digestOf H d <;> simp [ha, wrapError, goErr, Outcome.str]

theorem goErr_isSome (o : Outcome) : (goErr o).isSome = true ↔ o ≠ .ok := by
  cases o <;> simp [goErr]

theorem src_Sign (H : Nat → String) (sch : String) (hs : sch ≠ "") (e : Env) (k : Key) :
    Envelope_Sign (ofEnv H sch e) (some k) = (goErr (Env.sign H e k).2, ofEnv H sch (Env.sign H e k).1) := by
  unfold Envelope_Sign
  simp only [Id.run, id_pure]
  have h1 : (ofEnv H sch e).Head.isNone = false := by simp [ofEnv]
  have h2 : keySign (some k) (ofEnv H sch e).Head = (some ⟨k, e.head⟩, none) := by simp [ofEnv, keySign]
  have h3 : ({ ofEnv H sch e with Signatures := (ofEnv H sch e).Signatures ++ [some ⟨k, e.head⟩] } : Envelope)
      = ofEnv H sch { e with sigs := e.sigs ++ [some ⟨k, e.head⟩] } := by simp [ofEnv]
  simp only [h1, h2, h3, src_Validate H sch hs, goErr_isSome, Env.sign]
  cases hv : Env.validate H { e with sigs := e.sigs ++ [some ⟨k, e.head⟩] } <;>
    simp [goErr, ofEnv]

theorem src_Sign_badKey (H : Nat → String) (sch : String) (e : Env) :
    Envelope_Sign (ofEnv H sch e) none = (goErr .signature, ofEnv H sch e) :=
  rfl

theorem src_Sign_noHead (E : Envelope) (key : Option Key) (h : E.Head = none) :
    Envelope_Sign E key = (goErr .validation, E) := by
  obtain ⟨sch, hd, doc, sigs⟩ := E
  subst h
  rfl

theorem src_calculate (H : Nat → String) (sch : String) (e : Env) (d : Doc) (hdoc : e.doc = some d)
    (hz : uuidIsZero (some e.head.uuid) = false) :
    Envelope_calculate (ofEnv H sch e)
      = (goErr (Env.calculate H e).2, ofEnv H EnvelopeSchema (Env.calculate H e).1) := by
  unfold Envelope_calculate
  simp only [Id.run, id_pure]
  cases hc : d.calcOk
  · simp [ofEnv, hdoc, ofDoc, objCalculate, hc, Env.calculate, withCause, ErrCalculation, goErr, Outcome.str]
  · simp [ofEnv, hdoc, ofDoc, objCalculate, hc, Env.calculate, hz, digestPrim, goErr]

theorem src_Calculate_noDoc (H : Nat → String) (sch : String) (e : Env) (hdoc : e.doc = none) :
    Envelope_Calculate (ofEnv H sch e) = (goErr (Env.calculate H e).2, ofEnv H sch (Env.calculate H e).1) := by
  obtain ⟨hd, doc, sigs⟩ := e
  subst hdoc
  rfl

theorem src_Calculate (H : Nat → String) (sch : String) (e : Env) (d : Doc) (hdoc : e.doc = some d)
    (hz : uuidIsZero (some e.head.uuid) = false) :
    Envelope_Calculate (ofEnv H sch e)
      = (goErr (Env.calculate H e).2, ofEnv H EnvelopeSchema (Env.calculate H e).1) := by
  unfold Envelope_Calculate
  simp only [Id.run, id_pure]
  have h1 : (ofEnv H sch e).Document.isNone = false := by simp [ofEnv, hdoc]
  have h2 : objIsEmpty (ofEnv H sch e).Document = false := by simp [ofEnv, hdoc, objIsEmpty, ofDoc]
  simp [h1, h2, src_calculate H sch e d hdoc hz]

/-- an empty `schema.Object` (`NewEnvelope`'s) is no document either -/
theorem src_Calculate_emptyObj (E : Envelope) (o : Obj) (h : E.Document = some o) (he : o.empty = true) :
    Envelope_Calculate E = (goErr .noDocument, E) := by
  obtain ⟨sch, hd, doc, sigs⟩ := E
  obtain ⟨em, dc, dg⟩ := o
  subst h he
  rfl

theorem wrapError_goErr (o : Outcome) : wrapError (goErr o) = goErr o := by
  cases o <;> simp [goErr, wrapError]

theorem src_Insert_obj (H : Nat → String) (sch : String) (e : Env) (d : Doc)
    (hz : uuidIsZero (some e.head.uuid) = false) :
    Envelope_Insert (ofEnv H sch e) (.obj (some (ofDoc H d)))
      = (goErr (Env.insert H e d).2, ofEnv H EnvelopeSchema (Env.insert H e d).1) := by
  unfold Envelope_Insert
  simp only [Id.run, id_pure]
  have h3 : ({ ofEnv H sch e with Document := some (ofDoc H d) } : Envelope) = ofEnv H sch { e with doc := some d } := by
    simp [ofEnv]
  have hc := src_calculate H sch { e with doc := some d } d rfl hz
  simp only [AnyDoc.isNil, AnyDoc.asObj, h3, hc, Env.insert, wrapError_goErr, goErr_isSome]
  cases ho : (Env.calculate H { e with doc := some d }).2 <;>
    simp [ofEnv, goErr]

/-- any other value is wrapped by `schema.NewObject` first: the same computation -/
theorem src_Insert_other (H : Nat → String) (sch : String) (e : Env) (d : Doc)
    (hz : uuidIsZero (some e.head.uuid) = false) :
    Envelope_Insert (ofEnv H sch e) (.other (some (ofDoc H d)) none)
      = (goErr (Env.insert H e d).2, ofEnv H EnvelopeSchema (Env.insert H e d).1) :=
  src_Insert_obj H sch e d hz

theorem src_Insert_nil (H : Nat → String) (sch : String) (e : Env) :
    Envelope_Insert (ofEnv H sch e) .nil = (goErr .noDocument, ofEnv H sch e) :=
  rfl

theorem src_verifySignature (H : Nat → String) (sch : String) (e : Env) (sg : Option Sig) (ks : List Key) :
    Envelope_verifySignature (ofEnv H sch e) sg (ks.map some) = verdictErr (verifySignature e.head sg ks) := by
  unfold Envelope_verifySignature
  simp only [forIn_list_id, pure_bind]
  simp only [Id.run, id_pure]
  have h0 : ¬ ((ofEnv H sch e).Head.isNone = true ∨ (checkNull (ofEnv H sch e).Head).isSome = true) := by
    simp [ofEnv, checkNull]
  have hh : (ofEnv H sch e).Head.get! = e.head := by simp [ofEnv]
  -- a key under which the JWS verifies decides: the verdict on the payload
  rw [if_neg h0, hh, forList_return (fun k => ¬ (sigVerifyPayload sg k).1.isSome = true)
    (fun k => if e.head.contains (sigVerifyPayload sg k).2 = true then none else errNew "header mismatch") _
    (by intro x; split <;> simp [checkNull] <;> split <;> simp_all), List.find?_map]
  cases sg with
  | none =>
    cases ks with
    | nil => simp [sigPayload, verifySignature, verdictErr, errNew]
    | cons k ks =>
      have hl : ¬ (((List.map some (k :: ks)).length : Int) = 0) := mt (len_eq_zero _).mp (by simp)
      rw [if_neg hl, List.find?_eq_none.mpr (by simp [sigVerifyPayload])]
      simp [verifySignature, verdictErr, errNew]
  | some s =>
    cases ks with
    | nil =>
      by_cases hc : e.head.contains s.payload = true <;>
        simp [sigPayload, checkNull, verifySignature, verdictErr, errNew, hc]
    | cons k ks =>
      have hl : ¬ (((List.map some (k :: ks)).length : Int) = 0) := mt (len_eq_zero _).mp (by simp)
      have hp : ((fun k => decide ¬ (sigVerifyPayload (some s) k).1.isSome = true) ∘ some) = fun k => jwsValid k s := by
        funext k; simp only [Function.comp, sigVerifyPayload]; by_cases h : jwsValid k s = true <;> simp [h]
      rw [if_neg hl, hp]
      simp only [verifySignature]
      cases hf : List.find? (fun k => jwsValid k s) (k :: ks) with
      | none => simp [verdictErr, errNew]
      | some k' =>
        have := List.find?_some hf
        by_cases hc : e.head.contains s.payload = true <;> simp [verdictErr, errNew, hc, sigVerifyPayload, this]

theorem verdictErr_isNone (v : SigVerdict) : (verdictErr v).isNone = (v == .ok) := by
  cases v <;> simp [verdictErr] <;> rfl

theorem src_Verify (H : Nat → String) (sch : String) (e : Env) (ks : List Key) :
    Envelope_Verify (ofEnv H sch e) (ks.map some) = verifyErr (e.verify ks) := by
  unfold Envelope_Verify Env.verify
  simp only [forIn_list_id, pure_bind]
  simp only [Id.run, id_pure, gt_iff_lt, Int.natCast_pos]
  cases hsg : e.sigs with
  | nil => simp [ofEnv, hsg, verifyErr, ErrSignature]
  | cons a l =>
    have hl : ¬ (((ofEnv H sch e).Signatures.length : Int) = 0) := mt (len_eq_zero _).mp (by simp [ofEnv, hsg])
    rw [if_neg hl, ← hsg]
    generalize hve : forList _ (ofEnv H sch e).Signatures.zipIdx [] = ve
    have hloop : 0 < ve.length ↔ (e.sigs.map (fun s => verifySignature e.head s ks)).all (· == .ok) = false := by
      rw [← hve, ← gt_iff_lt, errLoop _ (fun x => verifySignature e.head x.1 ks == .ok)]
      · simp only [List.all_map, List.length_nil, Nat.lt_irrefl, false_or, ofEnv]
        rw [← all_zipIdx _ e.sigs 0]; rfl
      · intro x s
        rw [src_verifySignature, ← verdictErr_isNone]
        cases hv : verdictErr (verifySignature e.head x.1 ks) with
        | none => simp
        | some err => simpa using mapSet_length_pos s _ (some err)
    simp only [hloop, hsg, List.isEmpty_cons, Bool.false_eq_true, if_false]
    cases ((a :: l).map (fun s => verifySignature e.head s ks)).all (· == .ok) <;>
      simp [verifyErr, withCause, ErrValidation]

end GoblVerif.EnvSrc
