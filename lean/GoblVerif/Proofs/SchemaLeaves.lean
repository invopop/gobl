/-
  What carries the leaf inclusions of C11: `natDigits` is core's `Nat.toDigits` (Proofs/Digits.lean)
  and `%0*d` of a number that fits the width is its low digits; the day test of the `date` format
  is `dateValid`; what `cbc.NormalizeCode` leaves of a text (`sepOk`, `Allowed`); the language of the
  `cbc.Code` pattern is closed under one more character in front, hence holds every text of that
  shape; what `true` gives for the code, key and stored-summary validators.  Core Lean only.
-/
import GoblVerif.Model.SchemaLeaves
import GoblVerif.Proofs.Schema
import GoblVerif.Proofs.Regex
import GoblVerif.Proofs.Digits

namespace GoblVerif.Leaves
open GoblVerif.Regex RE GoblVerif.Digits
open GoblVerif.Schema (isDigit isDigit_iff)

/-! ### decimal digits -/

theorem natDigits_eq (n : Nat) : natDigits n = (Nat.toDigits 10 n).map Char.toNat :=
  fuelSnoc_eq (48 + ·) Char.toNat (fun _ h => (Nat.toNat_digitChar_of_lt_ten h).symm) natDigitsF (fun _ => rfl)
    (fun _ _ => rfl) n n (Nat.le_refl n)

theorem natDigits_digits (n c : Nat) (h : c ∈ natDigits n) : isDigit c = true := by
  rw [natDigits_eq] at h
  obtain ⟨d, hd, rfl⟩ := List.mem_map.mp h
  exact isDigit_iff.mpr (toNat_mem_toDigits hd)

theorem natDigits_ne_nil (n : Nat) : natDigits n ≠ [] := by
  rw [natDigits_eq]; exact mt List.map_eq_nil_iff.mp Nat.toDigits_ne_nil

theorem padZero_digits (w : Nat) (ds : List Nat) (h : ∀ c ∈ ds, isDigit c = true) :
    ∀ c ∈ padZero w ds, isDigit c = true := by
  intro c hc
  simp only [padZero, List.mem_append, List.mem_replicate] at hc
  rcases hc with ⟨_, rfl⟩ | hc
  · rfl
  · exact h c hc

theorem padZero_ne_nil (w : Nat) (ds : List Nat) (h : ds ≠ []) : padZero w ds ≠ [] := by
  simp [padZero, h]

theorem padZero_length (w : Nat) (ds : List Nat) (h : ds.length ≤ w) : (padZero w ds).length = w := by
  simp [padZero]; omega

theorem lowDigits_codes_succ (w n : Nat) :
    (lowDigits (w + 1) n).map Char.toNat = (lowDigits w (n / 10)).map Char.toNat ++ [48 + n % 10] := by
  simp [lowDigits, Nat.toNat_digitChar_of_lt_ten (Nat.mod_lt n (by decide : 0 < 10))]

theorem padZero_natDigits (w n : Nat) (hw : 0 < w) (h : n < 10 ^ w) :
    padZero w (natDigits n) = (lowDigits w n).map Char.toNat := by
  obtain ⟨w, rfl⟩ : ∃ v, w = v + 1 := ⟨w - 1, by omega⟩
  rw [padZero, natDigits_eq, List.length_map, ← pad_toDigits w n h, List.map_append, List.map_replicate]; rfl

/-- `[0-9]`: `.cls digitK` of Model/SchemaLeaves.lean, under the name the amount pattern is written with -/
def digitCls : RE := .cls ⟨[(48, 57)], false⟩

theorem digit_matches {c : Nat} (h : isDigit c = true) : Matches digitCls [c] := by
  apply Matches.cls
  exact (CClass.mem_iff rfl).mpr ⟨(48, 57), .head _, isDigit_iff.mp h⟩

theorem digits_plus {s : List Nat} (hne : s ≠ []) (h : ∀ c ∈ s, isDigit c = true) : Matches (RE.plus digitCls) s :=
  matches_plus_of_all hne (fun c hc => digit_matches (h c hc))

/-! ### dates and UUIDs -/

theorem dateValid_bounds {y m d : Nat} (h : dateValid y m d = true) : m ≤ 12 ∧ d ≤ 31 := by
  simp only [dateValid, Bool.and_eq_true, decide_eq_true_eq] at h
  refine ⟨h.1.1.2, ?_⟩
  have := h.2
  split at this <;> (try split at this) <;> omega

theorem validYMD_eq_dateValid (y m d : Nat) : Schema.validYMD y m d = dateValid y m d := by
  simp [Schema.validYMD, dateValid, Schema.daysIn, Schema.isLeap, Bool.and_assoc]

theorem isHex_hexDigit (n : Nat) (h : n < 16) : Schema.isHex (hexDigit n) = true := by
  unfold hexDigit Schema.isHex Schema.isDigit
  split <;> simp <;> omega

theorem isHex_hi (b : Nat) : Schema.isHex (hexDigit (b / 16 % 16)) = true :=
  isHex_hexDigit _ (Nat.mod_lt _ (by decide))
theorem isHex_lo (b : Nat) : Schema.isHex (hexDigit (b % 16)) = true :=
  isHex_hexDigit _ (Nat.mod_lt _ (by decide))

/-! ### cbc.NormalizeCode: the shape of the result -/

/-- every separator is followed by an alphanumeric character (or ends the text) -/
def sepOk : List Nat → Bool
  | x :: y :: r => (!isSep x || Leaves.isAlnum y) && sepOk (y :: r)
  | _ => true

def Allowed (l : List Nat) : Prop := ∀ c ∈ l, Leaves.isAlnum c = true ∨ isSep c = true

theorem sep_not_alnum {c : Nat} (h : isSep c = true) : Leaves.isAlnum c = false := by
  simp only [isSep, Bool.or_eq_true, beq_iff_eq] at h
  rcases h with ((((h | h) | h) | h) | h) | h <;> subst h <;> decide

theorem sepOk_tail {x : Nat} {l : List Nat} (h : sepOk (x :: l) = true) : sepOk l = true := by
  cases l with
  | nil => rfl
  | cons y r => simp only [sepOk, Bool.and_eq_true] at h; exact h.2

theorem collapse_false_head (d : Nat) (r : List Nat) : (collapse false (d :: r)).head? = some d := by
  unfold collapse
  split
  · split
    · split <;> rfl
    · rfl
  · rfl

theorem collapse_true_head (l : List Nat) : ∀ x, (collapse true l).head? = some x → Leaves.isAlnum x = true := by
  induction l with
  | nil => intro x h; simp [collapse] at h
  | cons c r ih =>
    intro x h
    unfold collapse at h
    split at h
    · rename_i hc
      cases h; exact hc
    · exact ih x h

theorem sepOk_cons_of {x : Nat} {l : List Nat} (hl : sepOk l = true)
    (hx : isSep x = true → ∀ y, l.head? = some y → Leaves.isAlnum y = true) : sepOk (x :: l) = true := by
  cases l with
  | nil => rfl
  | cons y r =>
    simp only [sepOk, Bool.and_eq_true, Bool.or_eq_true, Bool.not_eq_true']
    refine ⟨?_, hl⟩
    cases hs : isSep x with
    | false => exact .inl rfl
    | true => exact .inr (hx hs y rfl)

theorem sepOk_collapse (l : List Nat) : ∀ b, sepOk (collapse b l) = true := by
  induction l with
  | nil => intro b; cases b <;> rfl
  | cons c r ih =>
    intro b
    cases b with
    | true =>
      unfold collapse
      split
      · rename_i hc
        apply sepOk_cons_of (ih false)
        intro hs; rw [sep_not_alnum hs] at hc; cases hc
      · exact ih true
    | false =>
      unfold collapse
      split
      · rename_i hs
        split
        · rename_i d r'
          split
          · rename_i hd
            apply sepOk_cons_of (ih false)
            intro _ y hy
            rw [collapse_false_head] at hy
            cases hy; exact hd
          · apply sepOk_cons_of (ih true)
            intro _ y hy
            exact collapse_true_head _ y hy
        · rfl
      · rename_i hs
        apply sepOk_cons_of (ih false)
        intro h; exact absurd h hs

theorem collapse_sublist (l : List Nat) : ∀ b, (collapse b l).Sublist l := by
  induction l with
  | nil => intro b; cases b <;> exact .slnil
  | cons x r ih =>
    intro b
    cases b <;> unfold collapse
    · split
      · split
        · split
          · exact (ih false).cons_cons x
          · exact (ih true).cons_cons x
        · exact .refl _
      · exact (ih false).cons_cons x
    · split
      · exact (ih false).cons_cons x
      · exact (ih true).cons x

theorem trimLeft_suffix : ∀ l, trimLeft l <:+ l
  | [] => List.suffix_refl _
  | x :: r => by
    unfold trimLeft
    split
    · exact (trimLeft_suffix r).trans (List.suffix_cons x r)
    · exact List.suffix_refl _

theorem trimRight_prefix : ∀ l, trimRight l <+: l
  | [] => List.prefix_refl _
  | x :: r => by
    unfold trimRight
    split
    · split
      · exact List.nil_prefix
      · exact List.cons_prefix_cons.mpr ⟨rfl, List.nil_prefix⟩
    · exact List.cons_prefix_cons.mpr ⟨rfl, trimRight_prefix r⟩

theorem normalizeCode_sublist (s : List Nat) : (normalizeCode s).Sublist (dropInvalid s) :=
  (trimRight_prefix _).sublist.trans ((trimLeft_suffix _).sublist.trans (collapse_sublist _ _))

/-- `sepOk` speaks of neighbours only -/
theorem sepOk_suffix {l' l : List Nat} (hs : l' <:+ l) (h : sepOk l = true) : sepOk l' = true := by
  obtain ⟨t, rfl⟩ := hs
  induction t with
  | nil => exact h
  | cons x t ih => exact ih (sepOk_tail h)

theorem sepOk_prefix : ∀ {l' l : List Nat}, l' <+: l → sepOk l = true → sepOk l' = true
  | [], _, _, _ => rfl
  | [_], _, _, _ => rfl
  | x :: y :: r, l, hs, h => by
    obtain ⟨t, rfl⟩ := hs
    simp only [List.cons_append, sepOk, Bool.and_eq_true] at h ⊢
    exact ⟨h.1, sepOk_prefix (l' := y :: r) ⟨t, rfl⟩ h.2⟩

/-! ### the language of `codeRE` (Model/SchemaLeaves.lean: what the `cbc.Code` pattern compiles to) -/

theorem alnum_matches {c : Nat} (h : Leaves.isAlnum c = true) : Matches alnumCls [c] := by
  simp only [Leaves.isAlnum, Regex.isAlnum, Bool.or_eq_true, Bool.and_eq_true, decide_eq_true_eq] at h
  apply Matches.cls
  exact (CClass.mem_iff rfl).mpr (by simp; omega)

theorem sep_matches {c : Nat} (h : isSep c = true) : Matches sepCls [c] := by
  simp only [isSep, Bool.or_eq_true, beq_iff_eq] at h
  rcases h with ((((rfl | rfl) | rfl) | rfl) | rfl) | rfl <;> exact .cls (by decide)

/-- the new character joins the leading run -/
theorem codeRE_cons {c : Nat} {s : List Nat} (hc : Leaves.isAlnum c = true) (h : Matches codeRE s) :
    Matches codeRE (c :: s) := by
  obtain ⟨run, rest, rfl, hrun, hrest⟩ := matches_cat.mp h
  exact Matches.cat (s := c :: run) (matches_plus_cons (alnum_matches hc) (matches_star_of_plus hrun)) hrest

/-- the separator and the old leading run are one more block -/
theorem codeRE_cons_sep {c d : Nat} {s : List Nat} (hc : Leaves.isAlnum c = true) (hd : isSep d = true)
    (h : Matches codeRE s) : Matches codeRE (c :: d :: s) := by
  obtain ⟨run, rest, rfl, hrun, hrest⟩ := matches_cat.mp h
  exact Matches.cat (s := [c]) (matches_plus_cons (alnum_matches hc) .starNil)
    (Matches.starCons (s := d :: run) (Matches.cat (s := [d]) (matches_opt_some (sep_matches hd)) hrun) hrest)

theorem code_shape_cons : ∀ (c : Nat) (t : List Nat), Leaves.isAlnum c = true → Allowed (c :: t) →
    sepOk (c :: t) = true → (∀ z, (c :: t).getLast? = some z → Leaves.isAlnum z = true) → Matches codeRE (c :: t)
  | c, [], hc, _, _, _ => Matches.cat (s := [c]) (matches_plus_cons (alnum_matches hc) .starNil) .starNil
  | c, d :: t, hc, hal, hso, hlast => by
    have hal' : Allowed (d :: t) := fun x hx => hal x (List.mem_cons_of_mem _ hx)
    have hlast' : ∀ z, (d :: t).getLast? = some z → Leaves.isAlnum z = true := fun z hz =>
      hlast z (by rw [List.getLast?_cons_cons]; exact hz)
    cases hd : Leaves.isAlnum d with
    | true => exact codeRE_cons hc (code_shape_cons d t hd hal' (sepOk_tail hso) hlast')
    | false =>
      -- `d` is a separator, so it is not the last character and an alphanumeric follows it
      have hsd : isSep d = true := (hal d (by simp)).resolve_left (by simp [hd])
      match t, hal', hso, hlast' with
      | [], _, _, hlast' => exact absurd (hlast' d rfl) (by simp [hd])
      | e :: t, hal', hso, hlast' =>
        have hso' := sepOk_tail hso
        have he : Leaves.isAlnum e = true := by
          simp only [sepOk, Bool.and_eq_true, Bool.or_eq_true, Bool.not_eq_true'] at hso'
          exact hso'.1.resolve_left (by simp [hsd])
        exact codeRE_cons_sep hc hsd (code_shape_cons e t he
          (fun x hx => hal' x (List.mem_cons_of_mem _ hx)) (sepOk_tail hso')
          (fun z hz => hlast' z (by rw [List.getLast?_cons_cons]; exact hz)))

/-- a text of allowed characters in which every separator is followed by an alphanumeric, and which
    starts and ends with an alphanumeric, is in the language of the `cbc.Code` pattern -/
theorem code_shape_matches (l : List Nat) (hal : Allowed l) (hso : sepOk l = true)
    (hhead : ∀ y, l.head? = some y → Leaves.isAlnum y = true) (hne : l ≠ [])
    (hlast : ∀ z, l.getLast? = some z → Leaves.isAlnum z = true) : Matches codeRE l := by
  match l, hne with
  | c :: t, _ => exact code_shape_cons c t (hhead c rfl) hal hso hlast

theorem length_le_utf8Len : ∀ s : List Nat, s.length ≤ utf8Len s
  | [] => Nat.le_refl _
  | c :: r => by
    have := length_le_utf8Len r
    simp only [List.length_cons, utf8Len]
    split <;> (try split) <;> (try split) <;> omega

theorem codeValidate_spec {s : List Nat} (h : codeValidate s = true) (hne : s ≠ []) :
    1 ≤ s.length ∧ s.length ≤ 32 ∧ codeRE.matchL s = true := by
  simp only [codeValidate, Bool.and_eq_true, Bool.or_eq_true, decide_eq_true_eq] at h
  rcases h with h | ⟨⟨_, h32⟩, hm⟩
  · exact absurd (List.isEmpty_iff.mp h) hne
  · exact ⟨List.length_pos_iff.mpr hne, Nat.le_trans (length_le_utf8Len s) h32, hm⟩

theorem keyValidate_spec {s : List Nat} (h : keyValidate s = true) (hne : s ≠ []) :
    1 ≤ s.length ∧ s.length ≤ 64 ∧ keyRE.matchL s = true := by
  simp only [keyValidate, Bool.and_eq_true, Bool.or_eq_true, decide_eq_true_eq] at h
  rcases h with h | ⟨⟨hm, _⟩, h64⟩
  · exact absurd (List.isEmpty_iff.mp h) hne
  · exact ⟨List.length_pos_iff.mpr hne, Nat.le_trans (length_le_utf8Len s) h64, hm⟩

section
variable {countries : List (List Nat)} {defOf : List Nat → Option ExtKeyDef}

theorem rateTotalValidate_iff {rt : RateTotalV} :
    rateTotalValidate countries defOf rt = true ↔
      keyValidate rt.key = true ∧ (rt.country = [] ∨ rt.country ∈ countries) ∧ extensionsValidate defOf rt.ext = true := by
  simp [rateTotalValidate, taxCountryValidate, and_assoc]

theorem categoryTotalValidate_iff {ct : CategoryTotalV} :
    categoryTotalValidate countries defOf ct = true ↔
      requiredCode ct.code = true ∧ ct.rates ≠ [] ∧ ∀ rt ∈ ct.rates, rateTotalValidate countries defOf rt = true := by
  simp [categoryTotalValidate, and_assoc]

end

end GoblVerif.Leaves
