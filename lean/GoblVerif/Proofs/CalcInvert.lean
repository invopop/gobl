/-
  `Invoice.Invert`: every rounding primitive of the exact layer is one `rnd` of the
  exact result and `rnd` is odd (`rnd_neg`), so every step of the calculation
  commutes with negation — primitives, a line, then the document component by
  component: recalculating the inverted document gives the negated result.
-/
import GoblVerif.Proofs.CalcBasics

namespace GoblVerif.Calc

/-! ### the primitives -/

theorem neg_neg' (a : Amount) : neg (neg a) = a := by cases a; simp [neg]

theorem neg_zero_amt (c : ℕ) : neg ⟨0, c⟩ = ⟨0, c⟩ := by simp [neg]

theorem mulX_neg_left (a b : Amount) : (neg a).mulX b = neg (a.mulX b) := by
  rw [mulX_rnd, mulX_rnd, neg_toRat, neg_mul, rnd_neg]; rfl

theorem mulX_neg_right (a b : Amount) : a.mulX (neg b) = neg (a.mulX b) := by
  rw [mulX_rnd, mulX_rnd, neg_toRat, mul_neg, rnd_neg]

theorem rescaleX_neg (a : Amount) (e : ℕ) : (neg a).rescaleX e = neg (a.rescaleX e) := by
  rw [rescaleX_rnd, rescaleX_rnd, neg_toRat, rnd_neg]

/-- for every divisor, zero too -/
theorem divX_neg (a b : Amount) : (neg a).divX b = neg (a.divX b) := by
  rw [divX_rnd, divX_rnd, neg_toRat, neg_div, rnd_neg]; rfl

theorem up_neg (a : Amount) (e : ℕ) : up (neg a) e = neg (up a e) := by
  unfold up neg
  split_ifs <;> simp

theorem add_neg (a b : Amount) : add exactOps (neg a) (neg b) = neg (add exactOps a b) := by
  simp only [add, exact_rescale, rescaleX_neg]
  simp [neg]
  omega

theorem sub_neg (a b : Amount) : sub exactOps (neg a) (neg b) = neg (sub exactOps a b) := by
  simp only [sub, exact_rescale, rescaleX_neg]
  simp [neg]
  omega

theorem accum_neg (a b : Amount) : accum exactOps (neg a) (neg b) = neg (accum exactOps a b) := by
  simp [accum, up_neg, add_neg]

theorem applyRule_neg (r : Rule) (c : ℕ) (a : Amount) :
    applyRule exactOps r c (neg a) = neg (applyRule exactOps r c a) := by
  cases r <;> simp [applyRule, rescaleX_neg, up_neg]

theorem mrp_neg (r : Rule) (a b : Amount) : mrp r (neg a) (neg b) = neg (mrp r a b) := by
  cases r <;> simp [mrp, up_neg]

theorem taxStep_neg (r : Rule) (a x : Amount) : taxStep exactOps r (neg a) (neg x) = neg (taxStep exactOps r a x) := by
  simp [taxStep, mrp_neg, add_neg]

theorem pctOf_neg (p : Pct) (a : Amount) : pctOf exactOps p (neg a) = neg (pctOf exactOps p a) :=
  mulX_neg_left a p.amount

theorem remove_neg (a : Amount) (p : Pct) : remove exactOps (neg a) p = neg (remove exactOps a p) :=
  divX_neg a _

theorem down_neg (a : Amount) (e : ℕ) : down exactOps (neg a) e = neg (down exactOps a e) := by
  unfold down
  split_ifs <;> simp_all [rescaleX_neg]

/-- a fold commutes with a pair of maps its step commutes with; below the maps are sign changes -/
theorem foldl_odd {α α' β β' : Type} {na : α → α'} {nb : β → β'} {f : β → α → β} {f' : β' → α' → β'}
    (h : ∀ b a, f' (nb b) (na a) = nb (f b a)) (xs : List α) (z : β) :
    (xs.map na).foldl f' (nb z) = nb (xs.foldl f z) := by
  rw [List.foldl_map]
  exact List.foldl_hom nb h

theorem map_odd {α α' β β' : Type} {f : α → β} {f' : α' → β'} {g : α → α'} {g' : β → β'}
    (h : ∀ x, f' (g x) = g' (f x)) (xs : List α) : (xs.map g).map f' = (xs.map f).map g' := by
  simp [h]

theorem foldl_accum_neg (xs : List Amount) (z : Amount) :
    (xs.map neg).foldl (accum exactOps) (neg z) = neg (xs.foldl (accum exactOps) z) :=
  foldl_odd accum_neg xs z

theorem optSum_neg (c : ℕ) (xs : List Amount) : optSum exactOps c (xs.map neg) = (optSum exactOps c xs).map neg := by
  simp only [optSum, List.isEmpty_map]
  split_ifs
  · rfl
  · rw [Option.map_some, ← foldl_accum_neg, neg_zero_amt]

/-! ### a line -/

theorem adjPct_neg (r : Rule) (c : ℕ) (sum : Amount) (d : LineAdj) :
    adjPct exactOps r c (neg sum) (invertAdj d) = invertAdj (adjPct exactOps r c sum d) := by
  rcases d with ⟨_ | p, _ | b, _, _, _⟩ <;> simp only [adjPct, invertAdj, Option.map] <;> split_ifs <;>
    simp [pctOf_neg, up_neg, applyRule_neg]

theorem adjRate_neg (qty : Amount) (d : LineAdj) :
    adjRate exactOps (neg qty) (invertAdj d) = invertAdj (adjRate exactOps qty d) := by
  rcases d with ⟨_, _, _, _ | rt, _ | q⟩ <;> simp [adjRate, invertAdj, mulX_neg_right]

theorem adjUp_neg (c : ℕ) (d : LineAdj) : adjUp c (invertAdj d) = invertAdj (adjUp c d) := by
  simp [adjUp, invertAdj, up_neg]

theorem lineDiscounts_neg (r : Rule) (c : ℕ) (sum : Amount) (ds : List LineAdj) (total : Amount) :
    lineDiscounts exactOps r c (neg sum) (ds.map invertAdj) (neg total) =
      (((lineDiscounts exactOps r c sum ds total).1).map invertAdj, neg (lineDiscounts exactOps r c sum ds total).2) := by
  simp only [lineDiscounts_eq, discountRow, List.map_map, Function.comp_def, adjPct_neg, adjUp_neg]
  rw [← foldl_odd sub_neg, List.map_map]
  rfl


theorem lineCharges_neg (r : Rule) (c : ℕ) (qty sum : Amount) (ds : List LineAdj) (total : Amount) :
    lineCharges exactOps r c (neg qty) (neg sum) (ds.map invertAdj) (neg total) =
      (((lineCharges exactOps r c qty sum ds total).1).map invertAdj, neg (lineCharges exactOps r c qty sum ds total).2) := by
  simp only [lineCharges_eq, chargeRow, List.map_map, Function.comp_def, adjPct_neg, adjRate_neg, adjUp_neg]
  rw [← foldl_odd add_neg, List.map_map]
  rfl

theorem figures_neg (r : Rule) (c : ℕ) (qty price : Amount) (ds cs : List LineAdj) :
    figures exactOps c r (neg qty) price (ds.map invertAdj) (cs.map invertAdj) =
      let f := figures exactOps c r qty price ds cs
      { sum := neg f.sum, discounts := f.discounts.map invertAdj, charges := f.charges.map invertAdj,
        total := neg f.total } := by
  simp [figures, mulX_neg_right, applyRule_neg, lineDiscounts_neg, lineCharges_neg]

/-- an input line: no sum and no total stored on it yet; breakdown, item and adjustments are free -/
def PlainLine (l : Line) : Prop := l.sum = none ∧ l.total = none

theorem invertLine_keeps (l : Line) :
    (invertLine l).item = l.item ∧ (invertLine l).breakdown = l.breakdown ∧ (invertLine l).taxes = l.taxes :=
  ⟨rfl, rfl, rfl⟩

/-- **An inverted line** (with or without breakdown: `Invert` leaves the sub-lines as they are, their total
becomes the unit price) calculates to the calculated line with every figure negated. -/
theorem calcLine_invert (cur : String) (c : ℕ) (rates : List XRate) (r : Rule) (l : Line)
    (h : PlainLine l) :
    calcLine exactOps cur c rates r (invertLine l) = (calcLine exactOps cur c rates r l).map negLineOut := by
  have hout : ∀ bd it2 p, lineOut exactOps c r (invertLine l) bd it2 p = negLineOut (lineOut exactOps c r l bd it2 p) := by
    intro bd it2 p
    simp [lineOut, invertLine, figures_neg, negLineOut]
  simp only [calcLine_eq, invertLine_keeps, show ∀ bd it0, lineItem exactOps cur c (invertLine l) bd it0 = lineItem exactOps cur c l bd it0 from fun _ _ => rfl, hout]
  cases l.item with
  | none => simp [Except.map, negLineOut, invertLine, h.1, h.2]
  | some it0 =>
    cases calcSubLines exactOps cur c rates r l.breakdown with
    | error e => rfl
    | ok bd =>
      simp only
      generalize lineItem exactOps cur c l bd it0 = it1
      rcases it1 with ⟨_ | p0, _, _, _⟩
      · rfl
      · simp only
        cases itemPrice exactOps cur c rates _ p0 <;> rfl

/-! ### the lines of a document -/

theorem calcLines_invert (cur : String) (c : ℕ) (rates : List XRate) (r : Rule) (ls : List Line)
    (h : ∀ l ∈ ls, PlainLine l) :
    calcLines exactOps cur c rates r (ls.map invertLine) =
      (calcLines exactOps cur c rates r ls).map (·.map negLineOut) := by
  rw [calcLines_eq, calcLines_eq]
  exact mapOk_map_comm _ _ _ _ fun l hl => calcLine_invert cur c rates r l (h l hl)

theorem invertDoc_settings (d : Doc) :
    (invertDoc d).cur = d.cur ∧ (invertDoc d).c = d.c ∧ (invertDoc d).rates = d.rates ∧
    (invertDoc d).rule = d.rule ∧ (invertDoc d).includes = d.includes ∧ (invertDoc d).lines = d.lines.map invertLine :=
  ⟨rfl, rfl, rfl, rfl, rfl, rfl⟩

theorem lineSum_neg (c : ℕ) (ls : List Line) :
    lineSum exactOps c (ls.map negLineOut) = neg (lineSum exactOps c ls) := by
  rw [lineSum, lineSum, ← neg_zero_amt, ← foldl_accum_neg, List.filterMap_map, List.map_filterMap]
  rfl

/-! ### document discounts and charges -/

theorem docAdj_neg (r : Rule) (c : ℕ) (sum : Amount) (d : DocAdj) :
    docAdj exactOps r c (neg sum) (invertDocAdj d) = invertDocAdj (docAdj exactOps r c sum d) := by
  rcases d with ⟨_ | p, b, _, _⟩
  · simp [docAdj, invertDocAdj, applyRule_neg]
  · by_cases hz : pctIsZero p = true <;> cases b <;>
      simp [docAdj, invertDocAdj, hz, pctOf_neg, up_neg, applyRule_neg]

theorem adjSum_neg (c : ℕ) (ds : List DocAdj) :
    adjSum exactOps c (ds.map invertDocAdj) = (adjSum exactOps c ds).map neg := by
  rw [adjSum_eq, adjSum_eq, ← optSum_neg, List.map_map, List.map_map]
  rfl

/-! ### everything before the tax summary -/

def negRow (rw : Row) : Row := { rw with total := neg rw.total }

def negPre (p : Pre) : Pre :=
  { lines := p.lines.map negLineOut, sum := neg p.sum, discounts := p.discounts.map invertDocAdj,
    charges := p.charges.map invertDocAdj, dsum := p.dsum.map neg, csum := p.csum.map neg,
    total2 := neg p.total2, rows := p.rows.map negRow }

theorem taxRows_neg (lines : List Line) (ds cs : List DocAdj) :
    taxRows (lines.map negLineOut) (ds.map invertDocAdj) (cs.map invertDocAdj) =
      (taxRows lines ds cs).map negRow := by
  simp only [taxRows, List.map_append, List.map_map, List.filterMap_map, List.map_filterMap]
  congr 2
  refine List.filterMap_congr fun l _ => ?_
  cases h : l.total <;> simp [negLineOut, invertLine, h, negRow]

theorem total2Of_neg (sum : Amount) (dsum csum : Option Amount) :
    total2Of exactOps (neg sum) (dsum.map neg) (csum.map neg) = neg (total2Of exactOps sum dsum csum) := by
  cases dsum <;> cases csum <;> simp [total2Of, sub_neg, add_neg]

theorem preOf_neg (d : Doc) (lines : List Line) :
    preOf exactOps (invertDoc d) (lines.map negLineOut) = negPre (preOf exactOps d lines) := by
  simp only [preOf, invertDoc, negPre, lineSum_neg, map_odd (docAdj_neg d.rule d.c _), adjSum_neg, total2Of_neg,
    taxRows_neg]

theorem pre_invert (d : Doc) (h : ∀ l ∈ d.lines, PlainLine l) :
    pre exactOps (invertDoc d) = (pre exactOps d).map negPre := by
  simp only [pre_eq, invertDoc_settings, calcLines_invert d.cur d.c d.rates d.rule d.lines h]
  cases calcLines exactOps d.cur d.c d.rates d.rule d.lines with
  | error e => rfl
  | ok lines => exact congrArg _ (preOf_neg d lines)

/-! ### tax summary -/

def negRate (rt : RateTotal) : RateTotal :=
  { rt with base := neg rt.base, amount := neg rt.amount,
            surcharge := rt.surcharge.map (fun (sp, sa) => (sp, neg sa)) }

def negCat (ct : CatTotal) : CatTotal :=
  { ct with rates := ct.rates.map negRate, amount := neg ct.amount,
            surcharge := ct.surcharge.map neg, precise := neg ct.precise }

def negTax (t : TaxTotal) : TaxTotal :=
  { cats := t.cats.map negCat, sum := neg t.sum, preciseSum := neg t.preciseSum }

theorem prepareRow_neg (c : ℕ) (rw : Row) : prepareRow c (negRow rw) = negRow (prepareRow c rw) := by
  unfold prepareRow negRow
  split_ifs <;> simp [up_neg]

theorem removeIncludedRow_neg (k : String) (rw : Row) :
    removeIncludedRow exactOps k (negRow rw) = (removeIncludedRow exactOps k rw).map negRow := by
  simp only [removeIncludedRow, show (negRow rw).taxes = rw.taxes from rfl]
  cases rw.taxes.find? (fun cb => cb.cat == k) with
  | none => rfl
  | some cb => rcases cb with ⟨_, _, _, _ | p, _, _, _ | _⟩ <;> simp [Except.map, remove_neg, negRow]

theorem removeIncluded_neg (k : String) (rows : List Row) :
    removeIncluded exactOps k (rows.map negRow) = (removeIncluded exactOps k rows).map (·.map negRow) := by
  rw [removeIncluded_eq, removeIncluded_eq]
  exact mapOk_map_comm _ _ _ _ fun rw _ => removeIncludedRow_neg k rw

theorem rtMatches_negRate (rt : RateTotal) (cb : Combo) : rtMatches (negRate rt) cb = rtMatches rt cb := by
  unfold rtMatches negRate
  rcases rt.surcharge with _ | ⟨sp, sa⟩
  · rfl
  · cases cb.surcharge <;> rfl

theorem newRate_neg (c : ℕ) (cb : Combo) : negRate (newRate c cb) = newRate c cb := by
  cases h : cb.surcharge <;> simp [negRate, newRate, h, neg]

theorem addToRates_neg (r : Rule) (c : ℕ) (cb : Combo) (t : Amount) (rts : List RateTotal) :
    addToRates exactOps r c cb (neg t) (rts.map negRate) = (addToRates exactOps r c cb t rts).map negRate := by
  have bump (rt : RateTotal) : negRate { rt with base := taxStep exactOps r rt.base t } =
      { negRate rt with base := taxStep exactOps r (negRate rt).base (neg t) } := by
    simp [negRate, taxStep_neg]
  rw [addToRates_eq, addToRates_eq, upsert, upsert,
    map_updFirst negRate (p' := (rtMatches · cb)) (f' := fun rt => { rt with base := taxStep exactOps r rt.base (neg t) })
      (fun rt => rtMatches_negRate rt cb) bump,
    List.map_singleton, bump, newRate_neg]

theorem addToCats_neg (r : Rule) (c : ℕ) (cb : Combo) (t : Amount) (cts : List CatTotal) :
    addToCats exactOps r c cb (neg t) (cts.map negCat) = (addToCats exactOps r c cb t cts).map negCat := by
  have bump (ct : CatTotal) : negCat { ct with rates := addToRates exactOps r c cb t ct.rates } =
      { negCat ct with rates := addToRates exactOps r c cb (neg t) (negCat ct).rates } := by
    simp [negCat, addToRates_neg]
  rw [addToCats_eq, addToCats_eq, upsert, upsert,
    map_updFirst negCat (p := (·.code == cb.cat)) (p' := (·.code == cb.cat)) (f' := fun ct => { ct with rates := addToRates exactOps r c cb (neg t) ct.rates })
      (fun _ => rfl) bump, List.map_singleton]
  simp [negCat, neg_zero_amt, ← addToRates_neg]
theorem baseRateTotals_neg (r : Rule) (c : ℕ) (rows : List Row) :
    baseRateTotals exactOps r c (rows.map negRow) = (baseRateTotals exactOps r c rows).map negCat :=
  foldl_odd (na := negRow) (nb := List.map negCat) (fun _ rw => List.foldl_hom (List.map negCat)
    (g₁ := fun cats cb => addToCats exactOps r c cb rw.total cats)
    fun cats cb => addToCats_neg r c cb rw.total cats) rows []

theorem rateAmounts_neg (rt : RateTotal) (c : ℕ) :
    rateAmounts exactOps (negRate rt) c = negRate (rateAmounts exactOps rt c) := by
  rcases rt with ⟨_, _, _, _, _ | p, _ | s, _⟩ <;> simp [rateAmounts, negRate, pctOf_neg, neg_zero_amt]

theorem catAmounts_neg (r : Rule) (c : ℕ) (ct : CatTotal) :
    catAmounts exactOps r c (negCat ct) = negCat (catAmounts exactOps r c ct) := by
  have hr : (ct.rates.map negRate).map (rateAmounts exactOps · c) = (ct.rates.map (rateAmounts exactOps · c)).map negRate :=
    map_odd (fun rt => rateAmounts_neg rt c) _
  simp only [catAmounts, negCat, hr, CatTotal.mk.injEq, true_and, and_true]
  constructor
  · rw [← neg_zero_amt]
    refine foldl_odd (fun a rt => ?_) _ _
    rcases rt with ⟨_, _, _, _, _ | p, _, _⟩ <;> simp [negRate, ← taxStep.eq_1, taxStep_neg]
  · refine foldl_odd (nb := Option.map neg) (fun s rt => ?_) _ none
    have hs : (s.map neg).getD ⟨0, c⟩ = neg (s.getD ⟨0, c⟩) := by cases s <;> simp [neg]
    rcases rt with ⟨_, _, _, _, _ | p, _ | ⟨sp, sa⟩, _⟩ <;> simp [negRate, hs, ← taxStep.eq_1, taxStep_neg]

theorem finalSum_neg (r : Rule) (c : ℕ) (cats : List CatTotal) :
    finalSum exactOps r c (cats.map negCat) = neg (finalSum exactOps r c cats) := by
  rw [finalSum, finalSum, ← neg_zero_amt]
  refine foldl_odd (fun s ct => ?_) _ _
  rcases ct with ⟨_, _ | _, _, _, _ | x, _⟩ <;> simp [negCat, mrp_neg, add_neg, sub_neg]

theorem roundTax_neg (c : ℕ) (cats : List CatTotal) (sum : Amount) :
    roundTax exactOps c (cats.map negCat) (neg sum) = negTax (roundTax exactOps c cats sum) := by
  simp only [roundTax, negTax, TaxTotal.mk.injEq, exact_rescale, rescaleX_neg, and_true, List.map_map]
  refine List.map_congr_left fun ct _ => ?_
  simp only [Function.comp, negCat, CatTotal.mk.injEq, true_and, rescaleX_neg, List.map_map, and_true]
  constructor
  · refine List.map_congr_left fun rt _ => ?_
    rcases rt with ⟨_, _, _, _, _, _ | s, _⟩ <;> simp [negRate, rescaleX_neg]
  · cases ct.surcharge <;> simp [rescaleX_neg]

def negTaxR : Except CalcErr TaxTotal → Except CalcErr TaxTotal := Except.map negTax

theorem preparedRows_neg (c : ℕ) (includes : Option String) (rows : List Row) :
    preparedRows exactOps c includes (rows.map negRow) = (preparedRows exactOps c includes rows).map (·.map negRow) := by
  unfold preparedRows
  rw [map_odd (prepareRow_neg c)]
  cases includes with
  | none => rfl
  | some k => exact removeIncluded_neg k _

theorem taxSummary_neg (r : Rule) (c : ℕ) (rows : List Row) :
    taxSummary exactOps r c (rows.map negRow) = negTax (taxSummary exactOps r c rows) := by
  unfold taxSummary
  rw [baseRateTotals_neg, map_odd (catAmounts_neg r c), finalSum_neg, roundTax_neg]

theorem taxTotal_neg (r : Rule) (c : ℕ) (includes : Option String) (rows : List Row) :
    taxTotal exactOps r c includes (rows.map negRow) = (taxTotal exactOps r c includes rows).map negTax := by
  rw [taxTotal_eq, taxTotal_eq, preparedRows_neg]
  cases preparedRows exactOps c includes rows with
  | error e => rfl
  | ok rows3 => exact congrArg _ (taxSummary_neg r c rows3)

/-! ### totals, payment, presentation -/

def negTotals (t : Totals) : Totals :=
  { sum := neg t.sum, discount := t.discount.map neg, charge := t.charge.map neg,
    taxIncluded := t.taxIncluded.map neg, total := neg t.total, taxes := t.taxes.map negTax,
    tax := neg t.tax, totalWithTax := neg t.totalWithTax, rounding := t.rounding.map neg,
    payable := neg t.payable, advances := t.advances.map neg, due := t.due.map neg }

/-- the negated result (for document rows and advances the sign change of the inputs, `invertDocAdj`,
`invertAdvance`, is also the negation of the result); payment due dates are kept as they are and left out of the
comparison (`Out.dropDues`): a fixed due amount does not change sign in the code either -/
def negOut (o : Out) : Out :=
  { lines := o.lines.map negLineOut, discounts := o.discounts.map invertDocAdj,
    charges := o.charges.map invertDocAdj, advances := o.advances.map invertAdvance,
    dues := o.dues, totals := o.totals.map negTotals }

def Out.dropDues (o : Out) : Out := { o with dues := [] }

theorem preciseAmount_neg (ct : CatTotal) : (negCat ct).preciseAmount = neg ct.preciseAmount := by
  unfold CatTotal.preciseAmount negCat neg
  split_ifs <;> simp_all

theorem precise_neg (t : TaxTotal) : (negTax t).precise = neg t.precise := by
  unfold TaxTotal.precise negTax neg
  split_ifs <;> simp_all

theorem taxIncluded_neg (inc : Option String) (tx : TaxTotal) :
    taxIncluded inc (negTax tx) = (taxIncluded inc tx).map neg := by
  cases inc with
  | none => rfl
  | some k =>
    simp only [taxIncluded, negTax, List.find?_map, Option.map_map]
    congr 1
    funext ct
    exact preciseAmount_neg ct

theorem calcAdvance_neg (c : ℕ) (twt : Amount) (a : Advance) :
    calcAdvance exactOps c (neg twt) (invertAdvance a) = invertAdvance (calcAdvance exactOps c twt a) := by
  rcases a with ⟨_ | p, _⟩ <;> simp [calcAdvance, invertAdvance, up_neg, pctOf_neg]

theorem advanceTotal_neg (c : ℕ) (advs : List Advance) :
    advanceTotal exactOps c (advs.map invertAdvance) = (advanceTotal exactOps c advs).map neg := by
  rw [advanceTotal_eq, advanceTotal_eq, ← optSum_neg, List.map_map, List.map_map]
  rfl

theorem rawTotals_neg (d : Doc) (p : Pre) (tx : TaxTotal) :
    rawTotals exactOps (invertDoc d) (negPre p) (negTax tx) = negTotals (rawTotals exactOps d p tx) := by
  have hadv (twt : Amount) :
      (if d.hasPayment then advanceTotal exactOps d.c ((d.advances.map invertAdvance).map (calcAdvance exactOps d.c (neg twt)))
        else none) =
      (if d.hasPayment then advanceTotal exactOps d.c (d.advances.map (calcAdvance exactOps d.c twt)) else none).map neg := by
    cases d.hasPayment <;> simp [← advanceTotal_neg, calcAdvance_neg, Function.comp_def]
  have hcats : (if (negTax tx).cats.isEmpty then none else some (negTax tx)) =
      (if tx.cats.isEmpty then none else some tx).map negTax := by
    cases h : tx.cats <;> simp [negTax, h]
  simp only [rawTotals, invertDoc, negPre, taxIncluded_neg, precise_neg, hcats]
  cases taxIncluded d.includes tx <;> cases d.rounding <;>
    simp only [Option.map_some, Option.map_none, sub_neg, add_neg, hadv] <;>
    simp [negTotals, sub_neg, Function.comp_def]

theorem roundLine_neg (l : Line) : roundLine exactOps (negLineOut l) = negLineOut (roundLine exactOps l) := by
  have hadj (e : ℕ) (x : LineAdj) : roundAdj exactOps e (invertAdj x) = invertAdj (roundAdj exactOps e x) := by
    simp [roundAdj, invertAdj, down_neg]
  rcases l with ⟨_, _ | ⟨_ | pr, _, _, _⟩, _, _, _, _, _ | s, _ | t⟩ <;>
    simp [roundLine, negLineOut, invertLine, hadj, down_neg]

theorem roundDocAdj_neg (c : ℕ) (x : DocAdj) :
    roundDocAdj exactOps c (invertDocAdj x) = invertDocAdj (roundDocAdj exactOps c x) := by
  rcases x with ⟨_, _ | b, _, _⟩ <;> simp [roundDocAdj, invertDocAdj, down_neg]

theorem roundTotals_neg (c : ℕ) (t : Totals) :
    roundTotals exactOps c (negTotals t) = negTotals (roundTotals exactOps c t) := by
  simp [roundTotals, negTotals, rescaleX_neg, Function.comp_def]

theorem finish_neg (d : Doc) (p : Pre) (tx : TaxTotal) :
    (finish exactOps (invertDoc d) (negPre p) (negTax tx)).dropDues =
      (negOut (finish exactOps d p tx)).dropDues := by
  simp only [finish, rawTotals_neg d p tx, roundTotals_neg]
  simp only [invertDoc, negPre,
    show (negTotals (rawTotals exactOps d p tx)).totalWithTax = neg (rawTotals exactOps d p tx).totalWithTax from rfl]
  by_cases hp : d.hasPayment = true <;>
    simp [hp, Out.dropDues, negOut, roundLine_neg, roundDocAdj_neg, calcAdvance_neg, Function.comp_def]
  -- with payment details: the presentation rounding of a stored advance commutes with `invertAdvance`
  simp [invertAdvance, rescaleX_neg]

theorem outOf_neg (d : Doc) (p : Pre) :
    (outOf exactOps (invertDoc d) (negPre p)).map Out.dropDues =
      ((outOf exactOps d p).map negOut).map Out.dropDues := by
  simp only [outOf, invertDoc_settings, show (negPre p).rows = p.rows.map negRow from rfl, List.isEmpty_map, taxTotal_neg]
  split_ifs
  · rfl
  · cases taxTotal exactOps d.rule d.c d.includes p.rows with
    | error e => rfl
    | ok tx => exact congrArg Except.ok (finish_neg d p tx)

/-! ### the sign changes are involutions -/

theorem map_involutive {α : Type} {f : α → α} (h : ∀ x, f (f x) = x) (xs : List α) : (xs.map f).map f = xs := by
  simp [Function.comp_def, h]

theorem invertAdj_invertAdj (d : LineAdj) : invertAdj (invertAdj d) = d := by
  cases d; simp [invertAdj, neg_neg', Option.map_map, Function.comp_def]

theorem invertLine_invertLine (l : Line) : invertLine (invertLine l) = l := by
  cases l; simp [invertLine, neg_neg', map_involutive invertAdj_invertAdj]

theorem negRate_negRate (rt : RateTotal) : negRate (negRate rt) = rt := by
  rcases rt with ⟨_, _, _, _, _, _ | ⟨sp, sa⟩, _⟩ <;> simp [negRate, neg_neg']

theorem negCat_negCat (ct : CatTotal) : negCat (negCat ct) = ct := by
  rcases ct with ⟨_, _, _, _, _ | s, _⟩ <;> simp [negCat, neg_neg', map_involutive negRate_negRate]

theorem negTax_negTax (t : TaxTotal) : negTax (negTax t) = t := by
  cases t; simp [negTax, neg_neg', map_involutive negCat_negCat]

theorem negTotals_negTotals (t : Totals) : negTotals (negTotals t) = t := by
  have ho (o : Option Amount) : (o.map neg).map neg = o := by cases o <;> simp [neg_neg']
  have ht (o : Option TaxTotal) : (o.map negTax).map negTax = o := by cases o <;> simp [negTax_negTax]
  cases t; simp only [negTotals, neg_neg', ho, ht]
end GoblVerif.Calc