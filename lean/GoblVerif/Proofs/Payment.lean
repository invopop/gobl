/-
  Helper lemmas for the payment half of C20: the loop of `Payment.calculate` and its two
  accumulators as folds, the shape of a line total, and exactness of `ExchangeRate.Convert` at
  the destination currency's precision.
-/
import GoblVerif.Model.Payment
import GoblVerif.Spec.C20
import GoblVerif.Proofs.Num

namespace GoblVerif.Payment
open GoblVerif GoblVerif.Merge GoblVerif.Spec.C20

/-! ### the loop of `Payment.calculate` -/

/-- the tax summary a line contributes, if any -/
def lineTax (p : Payment) (l : PaymentLine) : Option Total :=
  l.document.bind fun dr => dr.calculated p.roundingCurrency

/-- `tt` after one more summary -/
def accTax (acc : Option Total) (t : Total) : Option Total :=
  some (match acc with | none => t | some x => x.merge t)

def accTotal (acc : Option Amount) (lt : Amount) : Option Amount :=
  some (match acc with | none => lt | some x => x.add lt)

def docOK (l : PaymentLine) : Bool := l.document.all (·.docValid)

theorem docOK_iff (l : PaymentLine) : docOK l = true ↔ ∀ dr, l.document = some dr → dr.docValid = true := by
  unfold docOK; cases l.document <;> simp

theorem runLines_cons (p : Payment) (l : PaymentLine) (ls : List PaymentLine) (st : LoopState) :
    runLines p (l :: ls) st = match l.calculate p.currency p.curExp p.rates with
      | .error e => .error e
      | .ok lt =>
        if docOK l then
          runLines p ls ⟨st.lineTotals ++ [lt], match lineTax p l with | none => st.tt | some t => accTax st.tt t,
            accTotal st.total lt⟩
        else .error .docCurrency := by
  obtain ⟨lts, tt, tot⟩ := st
  rw [runLines]
  unfold stepLine docOK lineTax accTax accTotal
  cases l.calculate p.currency p.curExp p.rates with
  | error e => rfl
  | ok lt =>
    rcases l.document with _ | dr
    · simp [bind, Except.bind, pure, Except.pure]; cases tot <;> rfl
    · rcases hv : dr.docValid
      · simp [hv, bind, Except.bind, throw, throwThe, MonadExceptOf.throw]
      · rcases hc : dr.calculated p.roundingCurrency with _ | t <;> rcases tt with _ | acc <;>
          simp [hv, hc, bind, Except.bind, pure, Except.pure] <;> cases tot <;> rfl

theorem runLines_ok (p : Payment) (ls : List PaymentLine) (st st' : LoopState) (h : runLines p ls st = .ok st') :
    ∃ lts, List.Forall₂ (fun l lt => l.calculate p.currency p.curExp p.rates = .ok lt) ls lts ∧
      st'.lineTotals = st.lineTotals ++ lts ∧
      st'.total = lts.foldl accTotal st.total ∧
      st'.tt = (ls.filterMap (lineTax p)).foldl accTax st.tt := by
  induction ls generalizing st with
  | nil => cases h; exact ⟨[], .nil, by simp, rfl, rfl⟩
  | cons l ls ih =>
    rw [runLines_cons] at h
    -- of the four cases only "a line total, and the document's currency is defined" is not an error
    cases hl : l.calculate p.currency p.curExp p.rates <;> cases hd : docOK l <;>
      simp only [hl, hd, if_true, Bool.false_eq_true, if_false, reduceCtorEq] at h
    obtain ⟨lts, f, g1, g2, g3⟩ := ih _ h
    refine ⟨_ :: lts, .cons hl f, by simp [g1], g2, ?_⟩
    rw [g3]; cases hx : lineTax p l <;> simp [hx]

/-- a line the loop of `Payment.calculate` accepts: its amounts can be converted
    and the currency of its document (if any) is defined -/
theorem runLines_defined (p : Payment) (ls : List PaymentLine) (st : LoopState) :
    (∃ st', runLines p ls st = .ok st') ↔
      ∀ l ∈ ls, (∃ lt, l.calculate p.currency p.curExp p.rates = .ok lt) ∧ docOK l = true := by
  induction ls generalizing st with
  | nil => simp [runLines]
  | cons l ls ih =>
    rw [runLines_cons]
    cases hl : l.calculate p.currency p.curExp p.rates with
    | error e => simp [hl]
    | ok lt => cases hd : docOK l <;> simp [hl, hd, ih]

theorem stepLine_total_irrelevant (p : Payment) (a : Amount) (st : LoopState) (l : PaymentLine) :
    stepLine { p with total := a } st l = stepLine p st l := rfl

theorem runLines_total_irrelevant (p : Payment) (a : Amount) (ls : List PaymentLine) (st : LoopState) :
    runLines { p with total := a } ls st = runLines p ls st := by
  induction ls generalizing st with
  | nil => rfl
  | cons l ls ih => simp only [runLines, stepLine_total_irrelevant, ih]

/-! ### the two accumulators -/

theorem foldl_accTotal (e : ℕ) (lts : List Amount) (acc : Amount) (hacc : acc.exp = e)
    (h : ∀ lt ∈ lts, lt.exp = e) :
    lts.foldl accTotal (some acc) = some ⟨acc.value + (lts.map (·.value)).sum, e⟩ := by
  induction lts generalizing acc with
  | nil => simp [← hacc]
  | cons lt more ih =>
    simp only [List.foldl_cons, accTotal]
    have hl := h lt (by simp)
    rw [add_of_exp_eq acc lt (by omega)]
    rw [ih ⟨acc.value + lt.value, acc.exp⟩ hacc (fun x hx => h x (by simp [hx]))]
    simp only [List.map_cons, List.sum_cons]
    congr 2; ring

theorem foldl_accTotal_none (e : ℕ) (lts : List Amount) (h : ∀ lt ∈ lts, lt.exp = e) :
    (lts.foldl accTotal none).getD amountZero = if lts = [] then amountZero else ⟨(lts.map (·.value)).sum, e⟩ := by
  cases lts with
  | nil => rfl
  | cons lt more =>
    rw [List.foldl_cons, show accTotal none lt = some lt from rfl,
      foldl_accTotal e more lt (h lt (by simp)) (fun x hx => h x (by simp [hx]))]
    simp

/-- merge of a non-empty list of summaries, left to right -/
def mergeAll : List Total → Option Total
  | [] => none
  | t :: ts => some (ts.foldl Total.merge t)

theorem foldl_accTax (ts : List Total) : ts.foldl accTax none = mergeAll ts := by
  cases ts with
  | nil => rfl
  | cons t more =>
    simp only [List.foldl_cons, accTax, mergeAll]
    induction more generalizing t with
    | nil => rfl
    | cons x more ih => simp only [List.foldl_cons, accTax]; exact ih _

/-- the tax summary does not depend on the line totals: it stands outside the `∃` -/
theorem calculate_ok (p : Payment) (res : Result) (h : p.calculate = .ok res) :
    (∃ lts, List.Forall₂ (fun l lt => l.calculate p.currency p.curExp p.rates = .ok lt) p.lines lts ∧
      res.lineTotals = lts ∧ res.total = (lts.foldl accTotal none).getD amountZero) ∧
      res.tax = mergeAll (p.lines.filterMap (lineTax p)) := by
  unfold Payment.calculate at h
  cases hr : runLines p p.lines ⟨[], none, none⟩ <;> rw [hr] at h <;> cases h
  obtain ⟨lts, hf, g1, g2, g3⟩ := runLines_ok p p.lines _ _ hr
  exact ⟨⟨lts, hf, by simpa using g1, by rw [g2]⟩, by rw [g3, foldl_accTax]⟩

/-! ### a line total -/

/-- value a debit/credit side contributes to the line total -/
def sideValue (e : ℕ) (x : Option Amount) : ℤ := match x with | none => 0 | some a => (a.rescale e).value

theorem line_total (pl : PaymentLine) (cur : String) (e : ℕ) (rates : List ExchangeRate) (lt : Amount)
    (h : pl.calculate cur e rates = .ok lt) :
    ∃ d c, lineSide pl cur rates pl.debit = .ok d ∧ lineSide pl cur rates pl.credit = .ok c ∧
      lt = ⟨sideValue e d - sideValue e c, e⟩ := by
  unfold PaymentLine.calculate at h
  cases hd : lineSide pl cur rates pl.debit <;> cases hc : lineSide pl cur rates pl.credit <;>
    simp only [hd, hc, bind, Except.bind, pure, Except.pure, Except.ok.injEq, reduceCtorEq] at h
  rename_i d c
  refine ⟨d, c, rfl, rfl, ?_⟩
  subst h
  unfold sideValue
  rcases d with _ | a <;> rcases c with _ | b <;> simp [Amount.add, Amount.sub]

theorem forall2_exp (cur : String) (e : ℕ) (rates : List ExchangeRate) (ls : List PaymentLine) (lts : List Amount)
    (hf : List.Forall₂ (fun l lt => l.calculate cur e rates = .ok lt) ls lts) : ∀ lt ∈ lts, lt.exp = e := by
  induction hf with
  | nil => simp
  | cons hl _ ih =>
    obtain ⟨d, c, _, _, rfl⟩ := line_total _ _ _ _ _ hl
    simpa using ih

/-! ### `ExchangeRate.Convert` is one exact rounding at the destination precision -/

/-- `Convert` = the exact product with the declared rate rounded half away from
    zero to the destination precision, for an amount of *any* precision, inside
    the float-exact domain: the product of the two integers `Multiply` receives
    (the amount's value, scaled up to the destination precision when it is
    coarser, and the rate's value) below 2^52, the power of ten it divides by
    at most 10^22. -/
theorem convert_exact (er : ExchangeRate) (a : Amount)
    (hm : |a.value * pow10 (er.toExp - a.exp) * er.amount.value| < 2 ^ 52)
    (he : er.amount.exp + (a.exp - er.toExp) ≤ 22) :
    er.convert a = convertSpec er.amount.toRat er.toExp a := by
  unfold ExchangeRate.convert convertSpec
  simp only
  split
  · rename_i h
    obtain ⟨d, hd⟩ : ∃ d, a.exp = er.toExp + d := ⟨a.exp - er.toExp, by omega⟩
    rw [show er.toExp - a.exp = 0 by omega, show pow10 0 = 1 from rfl, mul_one] at hm
    rw [rescaleUp_of_le _ _ (le_refl _), Nat.sub_self, show pow10 0 = 1 from rfl, mul_one,
      multiply_rnd ⟨a.value, er.toExp⟩ ⟨er.amount.value, er.amount.exp + (a.exp - er.toExp)⟩ hm he,
      hd, Nat.add_sub_cancel_left, toRat_mul_shift, ← hd]
    rfl
  · rename_i h
    have h' : a.exp ≤ er.toExp := by omega
    rw [rescaleUp_of_le a _ h', multiply_rnd ⟨a.value * pow10 (er.toExp - a.exp), er.toExp⟩ er.amount hm (by omega),
      ← rescaleUp_of_le a _ h', rescaleUp_toRat, rescaleUp_of_le a _ h']
    rfl

/-! ### a converted payment line against the specification -/

/-- the float-exact domain of `convert_exact` for an optional amount -/
def convDomain (r : ExchangeRate) (x : Option Amount) : Prop :=
  ∀ a, x = some a →
    |a.value * pow10 (r.toExp - a.exp) * r.amount.value| < 2 ^ 52 ∧ r.amount.exp + (a.exp - r.toExp) ≤ 22

/-- what a side contributes according to the specification: the exact product
    with the rate `q`, rounded once to `e` decimals; nothing when absent -/
def specSide (q : ℚ) (e : ℕ) (x : Option Amount) : ℤ :=
  match x with | none => 0 | some a => (convertSpec q e a).value

theorem lineSide_converted (pl : PaymentLine) (cur : String) (rates : List ExchangeRate) (r : ExchangeRate)
    (x : Option Amount) (hc : pl.currency ≠ "") (hne : pl.currency ≠ cur)
    (hr : matchExchangeRate rates pl.currency cur = some r) (hd : convDomain r x) :
    lineSide pl cur rates x = .ok (x.map (convertSpec r.amount.toRat r.toExp)) := by
  unfold lineSide
  rcases x with _ | a
  · rfl
  · obtain ⟨hm, he⟩ := hd a rfl
    simp only [bne_iff_ne, ne_eq, hc, not_false_eq_true, if_true, Option.map_some]
    unfold convert
    simp only [beq_iff_eq, hne, if_false, hr]
    rw [convert_exact r a hm he]

theorem sideValue_spec (q : ℚ) (e : ℕ) (x : Option Amount) :
    sideValue e (x.map (convertSpec q e)) = specSide q e x := by
  unfold sideValue specSide
  rcases x with _ | a
  · rfl
  · exact congrArg Amount.value (rescale_self _)

end GoblVerif.Payment
