/-
  The rows the tax summary is built from.

  With the exact primitives `prepareLines` and `removeIncludedTaxes` turn a row into the specification's
  tax-exclusive working total (`Spec.C02.exclusive`, as the row `exclRow`): the only thing that can fail is
  a retained included category.  So the summary `taxTotal` returns is `taxSummary` of the rows `exclRow`
  (`taxTotal_rows`), and the invariant of the accumulation speaks of the specification's contributions
  (`baseRateTotals_inv`).
-/
import GoblVerif.Spec.C02
import GoblVerif.Proofs.CalcGroups

namespace GoblVerif.Calc
open GoblVerif.Spec GoblVerif.Spec.C02

/-- the row as the specification sees it after preparation and included-tax removal -/
def exclRow (c : ℕ) (inc : Option String) (rw : Row) : Row := { total := exclusive c inc rw, taxes := rw.taxes }

theorem prepareRow_eq (c : ℕ) (rw : Row) : prepareRow c rw = { total := working c rw, taxes := rw.taxes } := by
  unfold prepareRow working E
  split <;> rfl

theorem working_toRat (c : ℕ) (rw : Row) : (working c rw).toRat = rw.total.toRat := by
  unfold working; split
  · rfl
  · exact up_toRat _ _

theorem working_exp (c : ℕ) (rw : Row) :
    (working c rw).exp = if rw.taxes.isEmpty then rw.total.exp else max rw.total.exp (c + 2) := by
  unfold working; split
  · rfl
  · exact up_exp _ _

theorem removeIncludedRow_spec (c : ℕ) (k : String) (rw rw' : Row)
    (h : removeIncludedRow exactOps k (prepareRow c rw) = .ok rw') : rw' = exclRow c (some k) rw := by
  rw [prepareRow_eq] at h
  unfold removeIncludedRow at h
  unfold exclRow exclusive
  simp only at h ⊢
  cases hf : rw.taxes.find? (fun cb => cb.cat == k) with
  | none =>
    simp only [hf] at h ⊢
    injection h with h
    exact h.symm
  | some cb =>
    simp only [hf] at h ⊢
    split at h
    · cases h
    · cases hp : cb.percent with
      | none =>
        simp only [hp] at h ⊢
        injection h with h
        exact h.symm
      | some p =>
        simp only [hp] at h ⊢
        injection h with h
        rw [← h, remove_rnd]; rfl

theorem preparedRows_ok {c : ℕ} {inc : Option String} {rows rows3 : List Row}
    (h : preparedRows exactOps c inc rows = .ok rows3) : rows3 = rows.map (exclRow c inc) := by
  cases inc with
  | none => rw [← Except.ok.inj h]; exact List.map_congr_left fun rw _ => by rw [prepareRow_eq]; rfl
  | some k =>
    rw [preparedRows, removeIncluded_eq, mapOk_map] at h
    exact mapOk_eq_map h fun rw _ rw' hr => removeIncludedRow_spec c k rw rw' hr

theorem taxTotal_rows (r : Rule) (c : ℕ) (inc : Option String) (rows : List Row) (tx : TaxTotal)
    (h : taxTotal exactOps r c inc rows = .ok tx) : tx = taxSummary exactOps r c (rows.map (exclRow c inc)) := by
  obtain ⟨rows3, h3, rfl⟩ := taxTotal_ok_iff.mp h
  rw [preparedRows_ok h3]

theorem contributions_eq (r : Rule) (c : ℕ) (inc : Option String) (rows : List Row) :
    contributions r c inc rows = contribsOf r c (rows.map (exclRow c inc)) := by
  unfold contributions contribsOf pairsOf
  induction rows with
  | nil => rfl
  | cons rw rows ih =>
    simp only [List.map_cons, List.flatMap_cons, List.map_append, ih]
    congr 1
    simp [exclRow, List.map_map, Function.comp_def]

theorem baseRateTotals_inv (r : Rule) (c : ℕ) (inc : Option String) (rows : List Row) :
    SummaryInv r c (contributions r c inc rows) (baseRateTotals exactOps r c (rows.map (exclRow c inc))) := by
  rw [contributions_eq]
  exact baseRateTotals_summaryInv r c _

end GoblVerif.Calc
