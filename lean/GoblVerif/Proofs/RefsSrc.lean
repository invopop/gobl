/-
  The leaf predicates of /repo/cbc and /repo/tax as the go2lean translator reads them
  (Generated/RefsSrc.lean), each brought into a closed form over lists of bytes: `any`, `all`,
  `contains`, `find?`, `lookup`, and the model's `splitPlus` (`strings.Split` / `SplitN(…, 2)` at "+").

  The `src_*` theorems here NAME regenerated definitions, over byte lists and `Registry`.  Props/C18.lean
  (`Src`) restates them against Model/Refs.lean (strings in place of byte lists, `Defs` in place of
  `Registry`) in one line each, and proves two more ties of its own (`src_hasKeyRule`, `src_hasKeyRule_other`).

  The two loops of `Extensions.Validate` only collect errors into a map (`GoSem.errLoop`): every branch of
  a loop body either hands the map on or writes to it, a written map is non-empty, and only the NIL-NESS
  of the result is observed; so the order in which Go ranges over the extension map does not matter
  (`List.all`).
-/
import GoblVerif.Generated.RefsSrc
import GoblVerif.Proofs.GoSemList
import GoblVerif.Proofs.GoMap

namespace GoblVerif.Proofs.RefsSrc
open GoblVerif.Generated.RefsSrc GoblVerif.GoSem GoblVerif.Refs GoblVerif.Refs.Src GoblVerif.GoStr

/-- one step of `strings.Split` for a one-byte separator -/
theorem splitAux_step (b c : Char) (rest cur : Str) (m : Nat) :
    splitAux [b] (c :: rest) 0 cur (m + 1) =
      if c = b then cur.reverse :: splitAux [b] rest 0 [] m else splitAux [b] rest 0 (c :: cur) (m + 1) := by
  have : ([b].isPrefixOf (c :: rest) = true) ↔ c = b := by simp [List.isPrefixOf]; exact eq_comm
  simp only [splitAux, this]; rfl

theorem splitAux_plus (s : Str) (cur : Str) (more : Nat) (h : s.length ≤ more) :
    splitAux ['+'] s 0 cur more = splitPlus s cur := by
  induction s generalizing cur more with
  | nil => simp [splitAux, splitPlus]
  | cons c rest ih =>
    obtain ⟨m, rfl⟩ : ∃ m, more = m + 1 := ⟨more - 1, by simp at h; omega⟩
    rw [splitAux_step, splitPlus, ih _ m (by simpa using h), ih _ (m + 1) (by simp at h; omega)]
    simp only [beq_iff_eq]

theorem src_Key_Has_list (k ke : Str) : Cbc.Key_Has k ke = (splitPlus k []).any (· == ke) := by
  unfold Cbc.Key_Has Cbc.Key_String Cbc.KeySeparator split
  simp only [forIn_list_id, pure_bind]
  simp only [Id.run, id_pure]
  rw [splitAux_plus k [] k.length (Nat.le_refl _), forList_any (· = ke) true]
  simp only [Bool.beq_eq_decide_eq]
  cases (splitPlus k []).any (fun x => decide (x = ke)) <;> rfl

theorem src_Key_In (k : Str) (set : List Str) : Cbc.Key_In k set = set.contains k := by
  unfold Cbc.Key_In
  simp only [forIn_list_id, pure_bind]
  simp only [Id.run, id_pure]
  rw [forList_any (· = k) true, ← List.any_beq']
  simp only [Bool.beq_eq_decide_eq]
  cases set.any (fun x => decide (x = k)) <;> rfl

theorem splitAux_head (s cur : Str) :
    (splitAux ['+'] s 0 cur 1)[0]?.getD [] = (splitPlus s cur).head?.getD [] := by
  induction s generalizing cur with
  | nil => simp [splitAux, splitPlus]
  | cons c rest ih =>
    rw [splitAux_step, splitPlus]
    simp only [beq_iff_eq]
    split
    · rfl
    · exact ih _

theorem src_Key_HasPrefix (k ke : Str) : Cbc.Key_HasPrefix k ke = ((splitPlus k []).head?.getD [] == ke) := by
  have h2 : splitN k ['+'] 2 = splitAux ['+'] k 0 [] 1 := rfl
  unfold Cbc.Key_HasPrefix Cbc.Key_String Cbc.KeySeparator
  simp only [Id.run, id_pure, h2]
  rw [← splitAux_head]
  have hd : (default : Str) = [] := rfl
  rw [Bool.eq_iff_iff]
  simp [hd]

theorem src_Definition_HasCode (d : CDef) (c : Str) : Cbc.Definition_HasCode d c = d.values.any (fun v => v.code == c) := by
  unfold Cbc.Definition_HasCode Cbc.Definition_CodeDef
  simp only [forIn_list_id, pure_bind]
  simp only [Id.run, id_pure]
  rw [forList_return (·.code = c) some _ (fun _ => rfl), ← List.isSome_find?]
  simp only [Bool.beq_eq_decide_eq]
  cases d.values.find? (fun v => decide (v.code = c)) <;> rfl

theorem src_inCategoryRatesRule (cat : Str) (keys : List Str) (key : Str) :
    (Tax.inCategoryRatesRule_Validate ⟨cat, keys⟩ (.key key)).isNone =
      (key == [] || keys.any (fun k => Cbc.Key_Has key k)) := by
  unfold Tax.inCategoryRatesRule_Validate
  simp only [forIn_list_id, pure_bind]
  dsimp +instances only [Id.run, id_pure, Dyn.asKey]
  by_cases hk : key = []
  · subst hk; simp
  · simp only [hk, not_true_eq_false, or_self, if_false]
    have hb : (key == []) = false := by simpa using hk
    rw [forList_any (Cbc.Key_Has key · = true) none, hb, Bool.false_or]
    simp only [Bool.decide_eq_true]
    cases keys.any (fun k => Cbc.Key_Has key k) <;> simp [errNew]

theorem src_inCategoryRatesRule_other (r : Tax.inCategoryRatesRule) (v : Dyn) (h : ∀ k, v ≠ .key k) :
    Tax.inCategoryRatesRule_Validate r v = none := by
  unfold Tax.inCategoryRatesRule_Validate
  cases v with
  | key k => exact absurd rfl (h k)
  | _ => simp [Dyn.asKey, Id.run, id_pure]

theorem src_CategoryDef (r : Option RegimeD) (code : Str) :
    Tax.RegimeDef_CategoryDef r code = r.bind (fun r => r.categories.find? (fun c => c.code == code)) := by
  unfold Tax.RegimeDef_CategoryDef
  cases r with
  | none => simp [Id.run, id_pure]
  | some r =>
    simp only [forIn_list_id, pure_bind]
    simp only [Id.run, id_pure, Option.isNone_some, Bool.false_eq_true, if_false, Option.get!_some, Option.bind_some]
    rw [forList_return (·.code = code) some _ (fun _ => rfl)]
    simp only [Bool.beq_eq_decide_eq]
    cases r.categories.find? (fun c => decide (c.code = code)) <;> rfl

/-- the list of keys may come as `[]cbc.Key` or inside `tax.Tags` -/
theorem tagValidation_list (keys l : List Str) (v : Dyn) (hv : v = .keys l ∨ v = .tags ⟨l⟩) :
    (Tax.tagValidation_Validate ⟨keys⟩ v).isNone = l.all (keys.contains ·) := by
  unfold Tax.tagValidation_Validate
  simp only [forIn_list_id, pure_bind]
  rcases hv with rfl | rfl <;>
  · simp only [Id.run, id_pure, Dyn.asKeys, Dyn.asTags, Bool.false_eq_true, not_false_eq_true, not_true_eq_false,
      if_true, if_false]
    rw [forList_all (fun x : Str × Nat => keys.contains x.1) errorsAsError _
      (fun x => by rw [src_Key_In]; cases keys.contains x.1 <;> rfl), all_zipIdx]
    cases l.all (fun x => keys.contains x) <;> simp [errorsAsError]

theorem src_tagValidation_keys (keys l : List Str) :
    (Tax.tagValidation_Validate ⟨keys⟩ (.keys l)).isNone = l.all (keys.contains ·) :=
  tagValidation_list keys l _ (.inl rfl)

theorem src_tagValidation_tags (keys l : List Str) :
    (Tax.tagValidation_Validate ⟨keys⟩ (.tags ⟨l⟩)).isNone = l.all (keys.contains ·) :=
  tagValidation_list keys l _ (.inr rfl)

theorem src_tagValidation_other (keys : List Str) (v : Dyn) (h1 : ∀ l, v ≠ .keys l) (h2 : ∀ t, v ≠ .tags t) :
    Tax.tagValidation_Validate ⟨keys⟩ v = none := by
  unfold Tax.tagValidation_Validate
  cases v with
  | keys l => exact absurd rfl (h1 l)
  | tags t => exact absurd rfl (h2 t)
  | _ => simp [Dyn.asKeys, Dyn.asTags, Id.run, id_pure]

theorem src_addonValidation [reg : Registry] (k : Str) :
    (Tax.addonValidation_Validate ⟨⟩ (.key k)).isNone = reg.addonDefined k := by
  unfold Tax.addonValidation_Validate
  simp only [Id.run, id_pure, Dyn.asKey]
  by_cases h : reg.addonDefined k = true
  · simp [h]
  · have hb : reg.addonDefined k = false := by simpa using h
    simp [hb, errNew]

theorem src_Regime_Validate [reg : Registry] (c : Str) :
    (Tax.Regime_Validate ⟨c⟩).isNone = (c == [] || reg.regimeDefined c) := by
  unfold Tax.Regime_Validate
  simp only [Id.run, id_pure]
  by_cases hc : c = []
  · subst hc; simp
  · have hb : (c == []) = false := by simpa using hc
    by_cases h : reg.regimeDefined c = true
    · simp [hc, hb, h]
    · have hr : reg.regimeDefined c = false := by simpa using h
      simp [hc, hb, hr, errNew]

theorem src_ExtCodeValues (key : Str) (values : List Str) (em : List (Str × Str)) :
    (Tax.validateExtCodeValues_Validate ⟨key, values⟩ (.ext em)).isNone =
      (match em.lookup key with | none => true | some ev => values.contains ev) := by
  unfold Tax.validateExtCodeValues_Validate
  simp only [forIn_list_id, pure_bind]
  simp only [Id.run, id_pure, Dyn.asExt]
  obtain ⟨o, ho⟩ : ∃ o, List.lookup key em = o := ⟨_, rfl⟩
  simp only [ho]
  cases o with
  | none => simp
  | some ev =>
    simp only [Option.isSome_some, Option.getD_some, if_true, not_true_eq_false, if_false]
    simp only [forList_flag (fun x => ev = x) values false, Bool.false_or, ← Bool.beq_eq_decide_eq, List.any_beq]
    cases values.contains ev <;> simp [GoblVerif.GoSem.mapSet, errorsAsError]

/-- one pair of `Extensions.Validate`, as the code judges it -/
def extPairOK [reg : Registry] (reMatch : Str → Str → Bool) (codeSyntax : Str → Bool) (x : Str × Str) : Bool :=
  match reg.extensionForKey x.1 with
  | none => false
  | some kd =>
    (validateCode codeSyntax x.2 ["validation.Required"]).isNone &&
    (kd.values.isEmpty || kd.values.any (fun v => v.code == x.2)) &&
    (kd.pattern == [] || reMatch kd.pattern x.2)

theorem src_Extensions_Validate [reg : Registry] (reMatch : Str → Str → Bool) (keySyntax : Str → Option Str)
    (codeSyntax : Str → Bool) (em : List (Str × Str)) :
    (Tax.Extensions_Validate reMatch keySyntax codeSyntax em).isNone =
      (em.all (fun x => (keySyntax x.1).isNone) && em.all (extPairOK reMatch codeSyntax)) := by
  unfold Tax.Extensions_Validate
  simp only [forIn_list_id, pure_bind]
  simp only [Id.run, id_pure, gt_iff_lt, Int.natCast_pos]
  generalize h1 : forList _ em [] = L1
  generalize h2 : forList _ em L1 = L2
  have e1 : 0 < L1.length ↔ em.all (fun x => (keySyntax x.1).isNone) = false := by
    rw [← h1, ← gt_iff_lt, errLoop _ (fun x => (keySyntax x.1).isNone)]
    · simp
    · intro x s
      cases hk : keySyntax x.1 with
      | none => simp
      | some e => simpa using mapSet_length_pos s x.1 (some e)
  have e2 : 0 < L2.length ↔ (L1.length > 0 ∨ em.all (extPairOK reMatch codeSyntax) = false) := by
    rw [← h2, ← gt_iff_lt]
    apply errLoop
    intro x s
    unfold extPairOK
    cases hk : Registry.extensionForKey x.1 with
    | none => simpa using mapSet_length_pos s x.1 _
    | some kd =>
      simp only [Option.isNone_some, Bool.false_eq_true, if_false, Option.get!_some, Option.getD_some,
        src_Definition_HasCode, reCompile]
      cases hv : validateCode codeSyntax x.2 ["validation.Required"] with
      | some e => simpa using mapSet_length_pos s x.1 _
      | none =>
        simp only [Option.isSome_none, Bool.false_eq_true, if_false, Option.isNone_none, Bool.true_and]
        have hlen : (0 < kd.values.length) ↔ kd.values.isEmpty = false := by
          cases kd.values <;> simp
        -- the four tests left in the body; in each of the 16 cases the body either hands `s` on
        -- (and `extPairOK` is true) or writes to it (and a written map is non-empty)
        by_cases h1 : kd.values.isEmpty = true <;> by_cases h2 : (kd.values.any fun v => v.code == x.2) = true <;>
          by_cases h3 : kd.pattern = [] <;> by_cases h4 : reMatch kd.pattern x.2 = true <;>
          simp [hlen, h1, h2, h3, h4, mapSet_length_pos]
  simp only [e1, e2]
  cases em.all (fun x => (keySyntax x.1).isNone) <;> cases em.all (extPairOK reMatch codeSyntax) <;>
    simp [errorsAsError]

end GoblVerif.Proofs.RefsSrc
