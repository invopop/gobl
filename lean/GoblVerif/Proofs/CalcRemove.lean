/-
  `Invoice.RemoveIncludedTaxes` (Model/CalcRemove.lean).  What a calculation
  leaves in memory is stable and the removal keeps it so, hence the rows of the
  stripped document are reproduced and the function has a closed form
  (`removeFrom_eq`): the calculation of the stripped document, with the residue
  of the total with tax as rounding.
-/
import GoblVerif.Model.CalcRemove
import GoblVerif.Proofs.CalcSettled
import GoblVerif.Proofs.CalcExact

namespace GoblVerif.Calc

/-! ## the removal on a line: it keeps a line in memory settled -/

theorem removeAt_rnd (a : Amount) (p : Pct) :
    removeAt exactOps a p = rnd (a.exp + 2) (a.toRat / (1 + p.amount.toRat)) := by
  rw [removeAt, remove_rnd, upscale, exact_rescale, rescaleX_exp, rescaleX_up_toRat a _ (Nat.le_add_right _ _)]
  rfl

theorem removeAt_exp (a : Amount) (p : Pct) : (removeAt exactOps a p).exp = a.exp + 2 :=
  (eq_rnd_iff.mp (removeAt_rnd a p)).1

theorem subPriced_remove (p : Pct) (sl : SubLine) : SubPriced (removeSubLine exactOps p sl) = SubPriced sl := by
  rcases sl with ⟨_, _ | ⟨_ | q, _, _, _⟩, _, _, _, _⟩ <;> rfl

theorem removeSubLine_priced (p : Pct) {sl : SubLine} {it : Item} {q : Amount} (hi : sl.item = some it)
    (hq : it.price = some q) :
    ∃ it2 q2, (removeSubLine exactOps p sl).item = some it2 ∧ it2.price = some q2 ∧ q2.exp = q.exp + 2 := by
  simp only [removeSubLine, hi, hq]
  exact ⟨_, _, rfl, rfl, removeAt_exp q p⟩

theorem removeSubLine_settled (cur : String) (c : ℕ) (p : Pct) (sl : SubLine) (h : SubSettled cur c sl) :
    SubSettled cur c (removeSubLine exactOps p sl) := by
  rcases sl with ⟨_, _ | ⟨_ | q, _, _, _⟩, _, _, _, _⟩ <;> simp_all [SubSettled, removeSubLine, removeAt_exp]
  omega

/-- with at least one priced sub-line, the removal makes the sub-line precision two decimals finer, and
that precision was at least the currency's -/
theorem slp_remove (cur : String) (c : ℕ) (p : Pct) (sls : List SubLine) (h : ∀ sl ∈ sls, SubSettled cur c sl)
    (hany : sls.any SubPriced = true) :
    c ≤ subLinePrecision sls ∧
    subLinePrecision sls + 2 ≤ subLinePrecision (sls.map (removeSubLine exactOps p)) := by
  have hnew : ∀ sl ∈ sls, ∀ it q, sl.item = some it → it.price = some q →
      q.exp + 2 ≤ subLinePrecision (sls.map (removeSubLine exactOps p)) := by
    intro sl hm it q h1 h2
    obtain ⟨it2, q2, j1, j2, j3⟩ := removeSubLine_priced p h1 h2
    exact j3 ▸ le_subLinePrecision _ _ it2 q2 (List.mem_map_of_mem hm) j1 j2
  obtain ⟨sl0, hm0, hp0⟩ := List.any_eq_true.mp hany
  obtain ⟨it, q, hi, hq⟩ := (subPriced_iff sl0).mp hp0
  have hc : c ≤ q.exp := (h sl0 hm0).exp_le hi hq
  have h0 := hnew sl0 hm0 it q hi hq
  have := (subLinePrecision_le_iff sls (subLinePrecision (sls.map (removeSubLine exactOps p)) - 2)).mpr
    fun sl hm it q h1 h2 => by have := hnew sl hm it q h1 h2; omega
  have := le_subLinePrecision sls sl0 it q hm0 hi hq
  omega

theorem removeLineIncluded_priced (k : String) (l : Line) (cb : Combo) (p : Pct) (it : Item) (pr : Amount)
    (hf : l.taxes.find? (fun cb => cb.cat == k) = some cb) (hp : cb.percent = some p)
    (hi : l.item = some it) (hpr : it.price = some pr) :
    removeLineIncluded exactOps k l =
      { l with item := some { it with alts := [], price := some (removeAt exactOps pr p) },
               breakdown := l.breakdown.map (removeSubLine exactOps p),
               discounts := l.discounts.map (removeLineAdj exactOps p),
               charges := l.charges.map (removeLineAdj exactOps p) } := by
  unfold removeLineIncluded
  simp only [hf, hp, hi, hpr]

theorem removeLineIncluded_untouched (k : String) (l : Line)
    (h : ∀ cb p it pr, l.taxes.find? (fun cb => cb.cat == k) = some cb → cb.percent = some p →
      l.item = some it → it.price = some pr → False) :
    removeLineIncluded exactOps k l = l := by
  unfold removeLineIncluded
  split <;> [rfl; skip]
  split <;> [rfl; skip]
  split <;> [rfl; skip]
  split <;> [rfl; skip]
  exact absurd (h _ _ _ _ ‹_› ‹_› ‹_› ‹_›) id

theorem removeLineIncluded_cases (k : String) (l : Line) :
    removeLineIncluded exactOps k l = l ∨
    ∃ cb p it pr, l.taxes.find? (fun cb => cb.cat == k) = some cb ∧ cb.percent = some p ∧ l.item = some it ∧
      it.price = some pr := by
  by_cases hx : ∃ cb p it pr, l.taxes.find? (fun cb => cb.cat == k) = some cb ∧ cb.percent = some p ∧
      l.item = some it ∧ it.price = some pr
  · exact .inr hx
  · exact .inl (removeLineIncluded_untouched k l fun cb p it pr a b c d => hx ⟨cb, p, it, pr, a, b, c, d⟩)

theorem removeLineIncluded_item (k : String) (l : Line) (it : Item) (hi : l.item = some it) (hp : it.price.isSome = true) :
    ∃ it', (removeLineIncluded exactOps k l).item = some it' ∧ it'.price.isSome = true := by
  rcases removeLineIncluded_cases k l with h | ⟨cb, p, it1, pr, hf, hp', hi1, hp1⟩
  · exact ⟨it, by rw [h, hi], hp⟩
  · exact ⟨_, by rw [removeLineIncluded_priced k l cb p it1 pr hf hp' hi1 hp1], rfl⟩

/-- **The removal keeps a line settled.** -/
theorem settled_remove (cur : String) (c : ℕ) (k : String) (l : Line) (h : Settled cur c l) :
    Settled cur c (removeLineIncluded exactOps k l) := by
  rcases removeLineIncluded_cases k l with hu | ⟨cb, p, it, pr, hf, hp', hi, hp⟩
  · rwa [hu]
  -- a priced line carrying the tax: every price and amount gets two more decimals
  rw [removeLineIncluded_priced k l cb p it pr hf hp' hi hp]
  simp only [Settled, hi] at h
  obtain ⟨hsl, hrest⟩ := h
  have hany : (l.breakdown.map (removeSubLine exactOps p)).any SubPriced = l.breakdown.any SubPriced := by
    rw [List.any_map]
    exact congrArg _ (funext (subPriced_remove p))
  have hadj (ds : List LineAdj) (n m : ℕ) (hn : n + 2 ≤ m) (h : ∀ d ∈ ds, d.amount.exp ≤ n) :
      ∀ d ∈ ds.map (removeLineAdj exactOps p), d.amount.exp ≤ m := by
    intro d hd
    obtain ⟨d', hd', rfl⟩ := List.mem_map.mp hd
    have := h d' hd'
    simp only [removeLineAdj, removeAt_exp]
    omega
  simp only [Settled, hany]
  refine ⟨fun sl hm => ?_, ?_⟩
  · obtain ⟨sl', hm', rfl⟩ := List.mem_map.mp hm
    exact removeSubLine_settled cur c p sl' (hsl sl' hm')
  · split_ifs at hrest ⊢ with ha
    · obtain ⟨q1, q2⟩ := slp_remove cur c p l.breakdown hsl ha
      exact ⟨hadj _ _ _ (by omega) hrest.1, hadj _ _ _ (by omega) hrest.2⟩
    · simp only [hp] at hrest
      exact ⟨hrest.1, hrest.2.1, hadj _ _ _ (by rw [removeAt_exp]) hrest.2.2.1,
        hadj _ _ _ (by rw [removeAt_exp]) hrest.2.2.2⟩

/-! ## the presented total with tax -/

/-- presenting `raw + rnd` where `rnd` has the currency's decimals and `raw` at least as many -/
theorem rescale_add_rounding (raw rnd : Amount) (c : ℕ) (hc : rnd.exp = c) (hraw : c ≤ raw.exp)
    (h : (raw.rescaleX c).value = 0 ∨ 0 < ((raw.rescaleX c).value + rnd.value) * (raw.rescaleX c).value) :
    ((add exactOps raw rnd).rescaleX c).value = (raw.rescaleX c).value + rnd.value := by
  rw [rescaleX_value] at h ⊢
  rw [rescaleX_value, add_toRat raw rnd (by omega)]
  unfold Spec.roundTo at h ⊢
  rw [add_mul, toRat_at rnd c hc, div_mul_cancel₀ _ (p10q_ne c)]
  exact goRound_shift _ _ h

theorem roundTotals_twt (c : ℕ) (t : Totals) : (roundTotals exactOps c t).totalWithTax = t.totalWithTax.rescaleX c := rfl

/-- the presented total with tax has the currency's number of decimals -/
theorem calculate_twt_exp (d : Doc) (out : Out) (t : Totals)
    (h : calculate exactOps d = .ok out) (ht : out.totals = some t) : t.totalWithTax.exp = d.c := by
  obtain ⟨p, tx, ⟨-, -, -, -, rfl⟩⟩ := calculated h ht
  exact rescaleX_exp _ _

/-! ## the invoice in memory -/

/-- the document the first recalculation works on: every row with the included tax taken out,
`prices_include` cleared, a fresh totals object (no rounding) -/
def removedDoc (k : String) (d : Doc) : Doc :=
  { d with lines := d.lines.map (removeLineIncluded exactOps k),
           discounts := d.discounts.map (removeAdjIncluded exactOps k),
           charges := d.charges.map (removeAdjIncluded exactOps k),
           includes := none, rounding := none }

/-- the document one `calculate(doc)` on the invoice in memory works on: the rounding is the one in the totals object -/
def Mem.input (m : Mem) : Doc := { m.doc with rounding := m.totals.bind (·.rounding) }

/-- what a calculation of `d` that came out as `out` leaves in memory -/
def Mem.after (d : Doc) (out : Out) : Mem := { doc := rereadDoc d out, totals := out.totals }

theorem Mem.after_doc (d : Doc) (out : Out) : (Mem.after d out).doc = rereadDoc d out := rfl
theorem Mem.after_totals (d : Doc) (out : Out) : (Mem.after d out).totals = out.totals := rfl

theorem stored_eq (d : Doc) (out : Out) : stored d out = rereadDoc d out := rfl

theorem calcMem_eq (m : Mem) : calcMem exactOps m = (calculate exactOps m.input).map (Mem.after m.input) := by
  simp only [calcMem, stored_eq, ← Mem.input.eq_1, ← Mem.after.eq_1]
  cases calculate exactOps m.input <;> rfl

theorem removedMem_input (k : String) (m : Mem) : (removedMem exactOps k m).input = removedDoc k m.doc := rfl

theorem removeFrom_def (k : String) (m : Mem) (t : Totals) :
    removeFrom exactOps k m t =
      match calculate exactOps (removedDoc k m.doc) with
      | .error e => .error (.calc e)
      | .ok out2 =>
        match out2.totals with
        | none => .error .nilTotals
        | some t2 =>
          if !(amtEq t.totalWithTax t2.totalWithTax) then
            match calcMem exactOps { Mem.after (removedDoc k m.doc) out2 with
                totals := some { t2 with rounding := some (sub exactOps t.totalWithTax t2.totalWithTax) } } with
            | .error e => .error (.calc e)
            | .ok m3 => .ok m3
          else .ok (Mem.after (removedDoc k m.doc) out2) := by
  unfold removeFrom
  rw [calcMem_eq, removedMem_input]
  cases calculate exactOps (removedDoc k m.doc) <;> rfl

theorem calcMem_ok {m m' : Mem} (h : calcMem exactOps m = .ok m') :
    ∃ out, calculate exactOps m.input = .ok out ∧ m' = Mem.after m.input out :=
  Except.map_eq_ok.mp ((calcMem_eq m).symm.trans h)

/-- one more `calculate` on what a calculation left in memory, whatever rounding was written into the totals meanwhile -/
theorem calcMem_again (d : Doc) (p : Pre) (tx : TaxTotal) (t : Totals) (r' : Option Amount)
    (hpre : pre exactOps d = .ok p) (hne : p.rows.isEmpty = false) (hfix : RowsFix d p)
    (htx : taxTotal exactOps d.rule d.c d.includes p.rows = .ok tx) :
    calcMem exactOps { Mem.after d (finish exactOps d p tx) with totals := some { t with rounding := r' } } =
      .ok (Mem.after { rereadDoc d (finish exactOps d p tx) with rounding := r' }
        (finish exactOps { rereadDoc d (finish exactOps d p tx) with rounding := r' } p tx)) :=
  (calcMem_eq _).trans (congrArg (Except.map _) (calculate_reread d p tx tx d.includes r' hpre hne hfix htx))

/-- `removeIncludedTaxes` in closed form, from the point where the original total with tax is known: the calculation
of the stripped document and, when its presented total with tax differs from the original one, the same calculation
with the difference as rounding — the third `calculate` finds the `Pre` and the tax summary of the second -/
theorem removeFrom_eq (k : String) (m : Mem) (t : Totals) (p2 : Pre) (tx2 : TaxTotal)
    (hpre2 : pre exactOps (removedDoc k m.doc) = .ok p2) (hne2 : p2.rows.isEmpty = false)
    (htx2 : taxTotal exactOps m.doc.rule m.doc.c none p2.rows = .ok tx2)
    (hfix : RowsFix (removedDoc k m.doc) p2) :
    removeFrom exactOps k m t = .ok (
      let d2 := removedDoc k m.doc
      let t2 := roundTotals exactOps d2.c (rawTotals exactOps d2 p2 tx2)
      let d3 := if amtEq t.totalWithTax t2.totalWithTax then d2
        else { rereadDoc d2 (finish exactOps d2 p2 tx2) with rounding := some (sub exactOps t.totalWithTax t2.totalWithTax) }
      Mem.after d3 (finish exactOps d3 p2 tx2)) := by
  rw [removeFrom_def, calculate_of_pre _ p2 tx2 hpre2 hne2 htx2]
  simp only [show (finish exactOps (removedDoc k m.doc) p2 tx2).totals = some _ from rfl]
  cases amtEq t.totalWithTax (roundTotals exactOps (removedDoc k m.doc).c (rawTotals exactOps (removedDoc k m.doc) p2 tx2)).totalWithTax
  · simp only [Bool.not_false, if_true, calcMem_again (removedDoc k m.doc) p2 tx2 _ _ hpre2 hne2 hfix htx2]
    rfl
  · rfl

theorem removeFrom_cases {k : String} {m m' : Mem} {t : Totals} (h : removeFrom exactOps k m t = .ok m') :
    ∃ out2 t2, calculate exactOps (removedDoc k m.doc) = .ok out2 ∧ out2.totals = some t2 ∧
      (m' = Mem.after (removedDoc k m.doc) out2 ∨
        ∃ r, calcMem exactOps { Mem.after (removedDoc k m.doc) out2 with totals := some { t2 with rounding := r } } = .ok m') := by
  rw [removeFrom_def] at h
  split at h
  · cases h
  next out2 hcal =>
  split at h
  · cases h
  next t2 ht2 =>
  refine ⟨out2, t2, hcal, ht2, ?_⟩
  split at h
  · split at h
    · cases h
    · cases h; exact .inr ⟨_, ‹_›⟩
  · cases h; exact .inl rfl

/-! ## the rows after the removal are fixpoints -/

/-- The domain of the known finding `remove-included-fixed-document-row`: a document discount/charge
with a fixed amount (no percentage, or 0 %) that carries the included category with a percentage.  The
removal divides its amount at two extra decimals; unless the rounding rule is `currency`, the next
calculation presents (rounds) that amount in place and the one after it starts from the rounded value. -/
def FixedIncludedRow (k : String) (x : DocAdj) : Prop :=
  (∀ p, x.percent = some p → pctIsZero p = true) ∧
  ∃ cb p, x.taxes.find? (fun cb => cb.cat == k) = some cb ∧ cb.percent = some p


theorem removeAdjIncluded_priced (k : String) (x : DocAdj) (cb : Combo) (p : Pct)
    (hf : x.taxes.find? (fun cb => cb.cat == k) = some cb) (hp : cb.percent = some p) :
    removeAdjIncluded exactOps k x = { x with amount := removeAt exactOps x.amount p } := by
  unfold removeAdjIncluded
  simp only [hf, hp]

theorem removeAdjIncluded_untouched (k : String) (x : DocAdj)
    (h : ∀ cb p, x.taxes.find? (fun cb => cb.cat == k) = some cb → cb.percent = some p → False) :
    removeAdjIncluded exactOps k x = x := by
  unfold removeAdjIncluded
  split <;> [rfl; skip]
  split <;> [rfl; skip]
  exact absurd (h _ _ ‹_› ‹_›) id

theorem removeAdjIncluded_cases (k : String) (x : DocAdj) :
    removeAdjIncluded exactOps k x = x ∨
    ∃ cb p, x.taxes.find? (fun cb => cb.cat == k) = some cb ∧ cb.percent = some p := by
  by_cases hx : ∃ cb p, x.taxes.find? (fun cb => cb.cat == k) = some cb ∧ cb.percent = some p
  · exact .inr hx
  · exact .inl (removeAdjIncluded_untouched k x fun cb p hf hcp => hx ⟨cb, p, hf, hcp⟩)

theorem removeAdjIncluded_stable (r : Rule) (c : ℕ) (k : String) (y : DocAdj) (hy : DocAdjStable' r c y)
    (h : r = .currency ∨ ¬ FixedIncludedRow k y) : DocAdjStable' r c (removeAdjIncluded exactOps k y) := by
  rcases hy with hr | hy
  · exact .inl hr
  rcases h with hr | h
  · exact .inl hr
  refine .inr ?_
  rcases removeAdjIncluded_cases k y with hu | ⟨cb, p, hf, hp⟩
  · rwa [hu]
  · -- the row carries the included tax with a percentage, so its amount is recomputed from its own percentage,
    -- which the removal keeps
    rw [removeAdjIncluded_priced k y cb p hf hp]
    exact .inl (not_forall_not.mp fun hn => h ⟨fun q hq => by simpa [hq] using hn q, cb, p, hf, hp⟩)

/-- what a calculation leaves in memory: settled lines (for a well-formed input), stable document rows, and a
`FixedIncludedRow` only where the input had one -/
theorem stored_stable (d : Doc) (p1 : Pre) (tx1 : TaxTotal) (hpre1 : pre exactOps d = .ok p1)
    (hwf : ∀ l ∈ d.lines, LineWF d.cur d.c l) (hrates : RatesWF d.c d.rates) :
    (∀ l ∈ (rereadDoc d (finish exactOps d p1 tx1)).lines, Settled d.cur d.c l) ∧
    ∀ x ∈ (rereadDoc d (finish exactOps d p1 tx1)).discounts ++ (rereadDoc d (finish exactOps d p1 tx1)).charges,
      DocAdjStable' d.rule d.c x ∧ ∃ x0 ∈ d.discounts ++ d.charges, ∀ k, FixedIncludedRow k x → FixedIncludedRow k x0 := by
  obtain ⟨lines, hl1, rfl⟩ := pre_ok_iff.mp hpre1
  refine ⟨fun l hl => ?_, fun x hx => ?_⟩
  · obtain ⟨l1, hl1m, rfl⟩ := List.mem_map.mp (show l ∈ lines.map (roundLine exactOps) from hl)
    obtain ⟨l0, hl0, hcalc⟩ := calcLines_mem hl1 hl1m
    exact settled_of_calcLine _ _ _ _ l0 l1 (hwf l0 hl0) hrates hcalc
  · obtain ⟨x0, hx0, rfl⟩ : ∃ x0 ∈ d.discounts ++ d.charges,
        x = roundDocAdj exactOps d.c (docAdj exactOps d.rule d.c (preOf exactOps d lines).sum x0) := by
      have : x ∈ ((d.discounts ++ d.charges).map (docAdj exactOps d.rule d.c (preOf exactOps d lines).sum)).map
          (roundDocAdj exactOps d.c) := by
        simpa [rereadDoc, finish, preOf] using hx
      obtain ⟨y, hy, rfl⟩ := List.mem_map.mp this
      obtain ⟨x0, hx0, rfl⟩ := List.mem_map.mp hy
      exact ⟨x0, hx0, rfl⟩
    obtain ⟨hp, ht⟩ := docAdj_keeps d.rule d.c (preOf exactOps d lines).sum x0
    exact ⟨.inr (.inr (down_exp_le _ _)), x0, hx0, fun k h => ⟨hp ▸ h.1, ht ▸ h.2⟩⟩

theorem removedDoc_lines_settled (k : String) (d : Doc) (hl : ∀ l ∈ d.lines, Settled d.cur d.c l) :
    ∀ l ∈ (removedDoc k d).lines, Settled d.cur d.c l := fun l hl' => by
  obtain ⟨l0, hl0, rfl⟩ := List.mem_map.mp hl'
  exact settled_remove _ _ k l0 (hl l0 hl0)

theorem removedDoc_rows_stable (k : String) (d : Doc)
    (hx : ∀ x ∈ d.discounts ++ d.charges, DocAdjStable' d.rule d.c x ∧ (d.rule = .currency ∨ ¬ FixedIncludedRow k x)) :
    ∀ x ∈ (removedDoc k d).discounts ++ (removedDoc k d).charges, DocAdjStable' d.rule d.c x := fun x hx' => by
  obtain ⟨x0, hx0, rfl⟩ := List.mem_map.mp (show x ∈ (d.discounts ++ d.charges).map (removeAdjIncluded exactOps k) by
    simpa [removedDoc] using hx')
  exact removeAdjIncluded_stable _ _ k x0 (hx x0 hx0).1 (hx x0 hx0).2

/-- **The rows after the removal are fixpoints.**  `d` is the document before anything happened, `p1`, `tx1` its
calculation. -/
theorem removed_rowsFix (d : Doc) (k : String) (p1 : Pre) (tx1 : TaxTotal) (hpre1 : pre exactOps d = .ok p1)
    (hwf : ∀ l ∈ d.lines, LineWF d.cur d.c l) (hrates : RatesWF d.c d.rates)
    (hrows : d.rule = .currency ∨ ∀ x ∈ d.discounts ++ d.charges, ¬ FixedIncludedRow k x) :
    ∀ p2, pre exactOps (removedDoc k (rereadDoc d (finish exactOps d p1 tx1))) = .ok p2 →
      RowsFix (removedDoc k (rereadDoc d (finish exactOps d p1 tx1))) p2 := by
  intro p2 hpre2
  obtain ⟨hl, hx⟩ := stored_stable d p1 tx1 hpre1 hwf hrates
  refine rowsFix_of _ p2 hpre2 (fun l hl' => lineFix_of _ _ _ _ l (removedDoc_lines_settled k _ hl l hl').fixable)
    (removedDoc_rows_stable k _ fun x hxm => ?_)
  obtain ⟨hs, x0, hx0, hf⟩ := hx x hxm
  exact ⟨hs, hrows.imp_right fun h hfx => h x0 hx0 (hf k hfx)⟩

/-! ## `Invoice.RemoveIncludedTaxes` on a document -/

theorem rounding_none_eta (d : Doc) (hr : d.rounding = none) : { d with rounding := none } = d := by
  cases d
  simp only at hr
  subst hr
  rfl

theorem removeIncludedMem_eq {m : Mem} {k : String} (hk : m.doc.includes = some k) :
    removeIncludedMem exactOps m =
      match m.totals with
      | some t => removeFrom exactOps k m t
      | none =>
        match calcMem exactOps m with
        | .error e => .error (.calc e)
        | .ok m1 =>
          match m1.totals with
          | none => .ok m1
          | some t => removeFrom exactOps k m1 t := by
  unfold removeIncludedMem
  simp only [hk]
  rfl

theorem calcMem_fresh (d : Doc) (hr : d.rounding = none) :
    calcMem exactOps { doc := d, totals := none } = (calculate exactOps d).map (Mem.after d) := by
  rw [calcMem_eq, show Mem.input { doc := d, totals := none } = d from rounding_none_eta d hr]

/-- `removeIncludedDoc` on a document with `prices_include` that calculates with totals: it is
`removeFrom` on what that calculation left in memory -/
theorem removeIncludedDoc_eq (d : Doc) (k : String) (out : Out) (t : Totals)
    (hk : d.includes = some k) (hr : d.rounding = none)
    (h1 : calculate exactOps d = .ok out) (ht : out.totals = some t) :
    removeIncludedDoc exactOps d =
      (removeFrom exactOps k (Mem.after d out) t).map Mem.out := by
  unfold removeIncludedDoc memOfDoc
  rw [removeIncludedMem_eq (show _ = some k from hk)]
  simp only [hr, Option.map_none]
  rw [calcMem_fresh d hr, h1]
  simp only [Except.map, Mem.after_totals, ht]

/-! ### the flag -/

theorem calculate_taxIncluded_none (d : Doc) (out : Out) (t : Totals)
    (h : calculate exactOps d = .ok out) (ht : out.totals = some t) (hi : d.includes = none) :
    t.taxIncluded = none := by
  obtain ⟨p, tx, ⟨-, -, -, -, rfl⟩⟩ := calculated h ht
  simp [roundTotals, rawTotals, taxIncluded, hi]

/-- whatever `removeFrom` returns normally has `prices_include` cleared and no `tax_included`: both exits return
the result of a `calculate` on a document without `prices_include` -/
theorem removeFrom_flag (k : String) (m m' : Mem) (t : Totals) (h : removeFrom exactOps k m t = .ok m') :
    m'.doc.includes = none ∧ ∀ t', m'.totals = some t' → t'.taxIncluded = none := by
  obtain ⟨out2, t2, hcal, -, rfl | ⟨r, hcm3⟩⟩ := removeFrom_cases h
  · exact ⟨rfl, fun t' ht' => calculate_taxIncluded_none _ out2 t' hcal ht' rfl⟩
  · obtain ⟨out3, hcal3, rfl⟩ := calcMem_ok hcm3
    exact ⟨rfl, fun t' ht' => calculate_taxIncluded_none _ out3 t' hcal3 ht' rfl⟩

/-! ## nothing to remove; the removal returns normally -/

/-! ### a category nobody carries does not appear in the summary -/

/-- none of these combos has category `k` -/
def NoCat (k : String) (taxes : List Combo) : Prop := taxes.find? (fun cb => cb.cat == k) = none

theorem removeIncluded_noop (k : String) (rows : List Row) (h : ∀ rw ∈ rows, NoCat k rw.taxes) :
    removeIncluded exactOps k rows = .ok rows := by
  rw [removeIncluded_eq, mapOk_ok_iff, List.forall₂_same]
  intro rw hrw
  simp [removeIncludedRow, show _ = none from h rw hrw]

/-- when no row carries category `k`, "prices include `k`" makes no difference to the tax summary, and
the summary has no category `k` -/
theorem taxTotal_noCat (r : Rule) (c : ℕ) (k : String) (rows : List Row) (h : ∀ rw ∈ rows, NoCat k rw.taxes) :
    taxTotal exactOps r c (some k) rows = taxTotal exactOps r c none rows ∧
    ∀ tx, taxTotal exactOps r c none rows = .ok tx → tx.cats.find? (fun ct => ct.code == k) = none := by
  have hprep : ∀ rw ∈ rows.map (prepareRow c), NoCat k rw.taxes := by
    intro rw hrw
    obtain ⟨rw', h1, rfl⟩ := List.mem_map.mp hrw
    rw [prepareRow_taxes]
    exact h rw' h1
  refine ⟨by rw [taxTotal_eq, taxTotal_eq, preparedRows, preparedRows, removeIncluded_noop k _ hprep], fun tx htx => ?_⟩
  obtain ⟨_, ⟨⟩, rfl⟩ := taxTotal_ok_iff.mp htx
  have := baseRateTotals_forall (o := exactOps) (r := r) (c := c) (fun code _ => code ≠ k) fun rw hrw =>
    by simpa [NoCat] using hprep rw hrw
  simpa [taxSummary, roundTax, catAmounts] using this

/-! ### nothing to remove -/

/-- no line, document discount or document charge carries a combo of category `k` -/
def NothingIncluded (k : String) (d : Doc) : Prop :=
  (∀ l ∈ d.lines, NoCat k l.taxes) ∧ (∀ x ∈ d.discounts ++ d.charges, NoCat k x.taxes)

theorem taxRows_noCat (k : String) (lines : List Line) (ds cs : List DocAdj)
    (hl : ∀ l ∈ lines, NoCat k l.taxes) (hd : ∀ x ∈ ds, NoCat k x.taxes) (hc : ∀ x ∈ cs, NoCat k x.taxes) :
    ∀ rw ∈ taxRows lines ds cs, NoCat k rw.taxes := by
  intro rw hrw
  simp only [taxRows, List.mem_append, List.mem_filterMap, List.mem_map] at hrw
  rcases hrw with (⟨l, h1, h2⟩ | ⟨x, h1, rfl⟩) | ⟨x, h1, rfl⟩
  · cases ht : l.total <;> simp only [ht, Option.map_none, Option.map_some, Option.some.injEq, reduceCtorEq] at h2
    exact h2 ▸ hl l h1
  · exact hd x h1
  · exact hc x h1

/-- the rows of the calculation carry the combos of the input, so none of them carries `k` either -/
theorem pre_noCat {k : String} {d : Doc} {p1 : Pre} (hn : NothingIncluded k d) (hpre1 : pre exactOps d = .ok p1) :
    (∀ l1 ∈ p1.lines, NoCat k l1.taxes) ∧ (∀ y ∈ p1.discounts ++ p1.charges, NoCat k y.taxes) ∧
    ∀ rw ∈ p1.rows, NoCat k rw.taxes := by
  obtain ⟨lines, hl1, rfl⟩ := pre_ok_iff.mp hpre1
  have hlines : ∀ l1 ∈ lines, NoCat k l1.taxes := by
    intro l1 hl1m
    obtain ⟨l0, hl0, hc⟩ := calcLines_mem hl1 hl1m
    rw [calcLine_taxes _ _ _ _ l0 l1 hc]
    exact hn.1 l0 hl0
  have hadj : ∀ y ∈ (preOf exactOps d lines).discounts ++ (preOf exactOps d lines).charges, NoCat k y.taxes := by
    show ∀ y ∈ List.map _ _ ++ List.map _ _, _
    rw [← List.map_append]
    intro y hy
    obtain ⟨x, hx, rfl⟩ := List.mem_map.mp hy
    rw [docAdj_taxes]
    exact hn.2 x hx
  exact ⟨hlines, hadj, taxRows_noCat k _ _ _ hlines (fun y hy => hadj y (List.mem_append_left _ hy))
    fun y hy => hadj y (List.mem_append_right _ hy)⟩

/-- then the removal leaves every row in memory alone -/
theorem removedDoc_nothing {k : String} {d : Doc} {p1 : Pre} (tx1 : TaxTotal) (hn : NothingIncluded k d)
    (hpre1 : pre exactOps d = .ok p1) :
    removedDoc k (rereadDoc d (finish exactOps d p1 tx1)) =
      { rereadDoc d (finish exactOps d p1 tx1) with includes := none, rounding := none } := by
  obtain ⟨hlines, hadj, -⟩ := pre_noCat hn hpre1
  have e1 : (p1.lines.map (roundLine exactOps)).map (removeLineIncluded exactOps k) =
      p1.lines.map (roundLine exactOps) := by
    rw [List.map_map]
    refine List.map_congr_left fun l1 hl1m => removeLineIncluded_untouched k _ fun cb p it pr hf => ?_
    rw [roundLine_taxes, show _ = none from hlines l1 hl1m] at hf
    cases hf
  have e2 (ys : List DocAdj) (hys : ∀ y ∈ ys, NoCat k y.taxes) :
      (ys.map (roundDocAdj exactOps d.c)).map (removeAdjIncluded exactOps k) = ys.map (roundDocAdj exactOps d.c) := by
    rw [List.map_map]
    refine List.map_congr_left fun y hy => removeAdjIncluded_untouched k _ fun cb p hf => ?_
    rw [show (roundDocAdj exactOps d.c y).taxes = y.taxes from rfl, show _ = none from hys y hy] at hf
    cases hf
  simp only [removedDoc, rereadDoc, finish, e1, e2 p1.discounts fun y hy => hadj y (by simp [hy]),
    e2 p1.charges fun y hy => hadj y (by simp [hy])]

/-! ### the removal returns normally -/

/-- a settled line calculates without error; it has a total when it has a priced item -/
theorem calcLine_settled_ok (cur : String) (c : ℕ) (rates : List XRate) (r : Rule) (l : Line)
    (h : Settled cur c l) :
    ∃ l2, calcLine exactOps cur c rates r l = .ok l2 ∧
      ∀ it, l.item = some it → it.price.isSome = true → l2.total.isSome = true := by
  cases hi : l.item with
  | none => exact ⟨l, by simp [calcLine_eq, hi], by simp⟩
  | some it =>
    simp only [Settled, hi] at h
    obtain ⟨hsl, hrest⟩ := h
    -- the sub-lines are priced in the document's currency, or not at all: no conversion can fail
    obtain ⟨bd, hbd⟩ : ∃ bd, calcSubLines exactOps cur c rates r l.breakdown = .ok bd := by
      rw [calcSubLines_eq]
      refine mapOk_ok_of_forall _ _ fun sl hm => ?_
      have hs := (hsl sl hm).subFixable.1
      rw [calcSubLine_eq]
      rcases sl with ⟨_, _ | ⟨_ | q, icur, isub, ialts⟩, _, _, _, _⟩
      · exact ⟨_, rfl⟩
      · exact ⟨_, rfl⟩
      · simp only [itemPrice_same cur c rates ⟨some q, icur, isub, ialts⟩ q (hs _ rfl rfl)]
        exact ⟨_, rfl⟩
    have hcond := lineItem_cond cur c rates r l bd (fun sl h => (SubSettled.subFixable (hsl sl h)).2) hbd
    by_cases hany : l.breakdown.any SubPriced = true
    · obtain ⟨p0, hp⟩ : ∃ p0, (lineItem exactOps cur c l bd it).price = some p0 := by simp [lineItem, hcond, hany]
      exact ⟨_, calcLine_of_price hi hbd hp (by simp [lineItem, hcond, hany]), fun _ _ _ => rfl⟩
    · simp only [hany, Bool.false_eq_true, if_false] at hrest
      have hit : lineItem exactOps cur c l bd it = it := lineItem_own _ _ _ _ (by simp [hcond, hany])
      cases hp : it.price with
      | none => exact ⟨_, by simp only [calcLine_eq, hi, hbd, hit, hp]; rfl, by simp [hp]⟩
      | some p =>
        simp only [hp] at hrest
        exact ⟨_, calcLine_of_price hi hbd (hit.symm ▸ hp) (hit.symm ▸ hrest.1), fun _ _ _ => rfl⟩

theorem roundLine_total_isSome (l : Line) : (roundLine exactOps l).total.isSome = l.total.isSome := by
  unfold roundLine
  split
  · rfl
  · split
    · rfl
    · simp

/-- a stored line that had a total still has one after the removal and the next calculation -/
theorem stored_line_keeps_total (cur : String) (c : ℕ) (rates : List XRate) (r : Rule) (k : String) (l0 l1 l2 : Line)
    (hwf : LineWF cur c l0) (hr : RatesWF c rates) (h : calcLine exactOps cur c rates r l0 = .ok l1)
    (ht : l1.total.isSome = true)
    (h2 : calcLine exactOps cur c rates r (removeLineIncluded exactOps k (roundLine exactOps l1)) = .ok l2) :
    l2.total.isSome = true := by
  obtain ⟨l2', h2', hpriced⟩ := calcLine_settled_ok cur c rates r _
    (settled_remove cur c k _ (settled_of_calcLine cur c rates r l0 l1 hwf hr h))
  cases h2.symm.trans h2'
  cases hi : l0.item with
  | none =>
    -- no item: nothing touches the line
    cases calcLine_no_item _ _ _ _ _ h hi
    have hr1 : roundLine exactOps l0 = l0 := by simp [roundLine, hi]
    have hr2 : removeLineIncluded exactOps k l0 = l0 :=
      removeLineIncluded_untouched k l0 fun _ _ _ _ _ _ h3 => by simp [hi] at h3
    rw [hr1, hr2] at h2
    rwa [calcLine_no_item _ _ _ _ _ h2 hi]
  | some it0 =>
    -- an item: the line has a total only if the item has a price, and the removal keeps it priced
    obtain ⟨bd, -, ⟨-, rfl⟩ | ⟨p0, it2, -, hip, rfl⟩⟩ := calcLine_out _ _ _ _ _ h hi
    · simp at ht
    · obtain ⟨-, p1, hp1⟩ := itemPrice_some hip
      have hri : (roundLine exactOps (lineOut exactOps c r l0 bd it2 (it2.price.getD p0))).item = some it2 := by
        rw [roundLine_item]
        rfl
      obtain ⟨it', h3, h4⟩ := removeLineIncluded_item k _ it2 hri (by simp [hp1])
      exact hpriced it' h3 h4

/-- in the domain of `Props.C17.remove_included_payable` no line of the stripped document fails (its lines are settled),
and a line that had a total, a document discount or a charge is still there -/
theorem removed_pre_ok (d : Doc) (k : String) (p1 : Pre) (tx1 : TaxTotal) (hpre1 : pre exactOps d = .ok p1)
    (hne1 : p1.rows.isEmpty = false) (hwf : ∀ l ∈ d.lines, LineWF d.cur d.c l) (hrates : RatesWF d.c d.rates) :
    ∃ p2, pre exactOps (removedDoc k (rereadDoc d (finish exactOps d p1 tx1))) = .ok p2 ∧ p2.rows.isEmpty = false := by
  have hsettled := removedDoc_lines_settled k _ (stored_stable d p1 tx1 hpre1 hwf hrates).1
  obtain ⟨lines, hl1, rfl⟩ := pre_ok_iff.mp hpre1
  set d2 := removedDoc k (rereadDoc d (finish exactOps d (preOf exactOps d lines) tx1)) with hd2
  obtain ⟨ls2, hls2⟩ : ∃ ls2, calcLines exactOps d.cur d.c d.rates d.rule d2.lines = .ok ls2 := by
    rw [calcLines_eq]
    exact mapOk_ok_of_forall _ _ fun l hl => (calcLine_settled_ok _ _ _ _ l (hsettled l hl)).imp fun _ h => h.1
  refine ⟨preOf exactOps d2 ls2, pre_ok_iff.mpr ⟨ls2, hls2, rfl⟩, ?_⟩
  rw [show (preOf exactOps d lines).rows = taxRows _ _ _ from rfl, taxRows_nonempty] at hne1
  rw [show (preOf exactOps d2 ls2).rows = taxRows _ _ _ from rfl, taxRows_nonempty]
  rcases hne1 with ⟨l1, hl1m, ht1⟩ | h | h
  · left
    obtain ⟨l2, hl2m, hc2'⟩ := calcLines_mem_left hls2
      (show removeLineIncluded exactOps k (roundLine exactOps l1) ∈ d2.lines from
        List.mem_map_of_mem (List.mem_map_of_mem hl1m))
    obtain ⟨l0, hl0, hc0⟩ := calcLines_mem hl1 hl1m
    exact ⟨l2, hl2m, stored_line_keeps_total d.cur d.c d.rates d.rule k l0 l1 l2 (hwf l0 hl0) hrates hc0 ht1 hc2'⟩
  · right; left
    show List.map _ (List.map (removeAdjIncluded exactOps k) (List.map (roundDocAdj exactOps d.c) (List.map _ d.discounts))) ≠ []
    simpa using h
  · right; right
    show List.map _ (List.map (removeAdjIncluded exactOps k) (List.map (roundDocAdj exactOps d.c) (List.map _ d.charges))) ≠ []
    simpa using h

end GoblVerif.Calc
