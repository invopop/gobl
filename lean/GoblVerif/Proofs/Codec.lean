/-
  Helper lemmas for C06: digit strings, `%d` formatting, `strconv.ParseInt`,
  `strings.Split`, and the bridge between the parser of Model/Codec.lean and
  the recogniser / decimal reading of Spec/C06.lean.

  Both directions of the codec meet in one normal form: a sign and a decimal
  text `dec a m` (digits `a`, then — unless `m` is empty — a point and digits
  `m`), read as the number `decVal a m` with `m.length` decimals (`IsDec`).

  The model wraps at 64 bits, the regenerated source (Generated/CodecSrc.lean)
  computes on unbounded integers.  `partsZ` / `toStringZ` are the model on
  unbounded integers; `amountFromString_eq_Z` (every text) and
  `amountToString_eq_Z` (int64 values; at most 18 decimals, or more than 1000) say that inside
  the guards nothing wraps.
-/
import GoblVerif.Model.Codec
import GoblVerif.Model.GoStrings
import GoblVerif.Spec.C06
import Mathlib.Data.List.Basic
import Mathlib.Data.List.Induction
import GoblVerif.Proofs.Digits
import Mathlib.Tactic.IntervalCases
import Mathlib.Tactic.Ring

namespace GoblVerif.Codec
open GoblVerif GoblVerif.Spec.C06 GoblVerif.Digits
/-! ### digit strings: the model's functions are core's `Nat.toDigits 10` and `Nat.ofDigitChars 10` -/

theorem isDigitC_eq (c : Char) : isDigitC c = c.isDigit := by
  rw [Bool.eq_iff_iff, Char.isDigit_iff_toNat]; simp [isDigitC]

theorem isDigitC_val (c : Char) (h : isDigitC c = true) : digitVal c ≤ 9 := by
  unfold isDigitC at h
  simp only [Bool.and_eq_true, decide_eq_true_eq] at h
  unfold digitVal; omega

theorem natOfDigits_eq (s : Text) : natOfDigits s = Nat.ofDigitChars 10 s 0 := rfl

theorem natToDigits_eq (n : Nat) : natToDigits n = Nat.toDigits 10 n :=
  (fuelSnoc_eq digitChar id (fun d h => by interval_cases d <;> rfl) natToDigitsF (fun _ => rfl) (fun _ _ => rfl)
    n n (le_refl _)).trans (List.map_id _)

theorem natOfDigits_append (a b : Text) :
    natOfDigits (a ++ b) = natOfDigits a * 10 ^ b.length + natOfDigits b := by
  rw [natOfDigits_eq, Nat.ofDigitChars_append, Nat.ofDigitChars_eq_ofDigitChars_zero, Nat.mul_comm]; rfl

theorem natOfDigits_nil : natOfDigits [] = 0 := rfl

theorem natOfDigits_lt (s : Text) (h : s.all isDigitC = true) : natOfDigits s < 10 ^ s.length := by
  induction s using List.reverseRecOn with
  | nil => exact Nat.one_pos
  | append_singleton s c ih =>
    simp only [List.all_append, List.all_cons, List.all_nil, Bool.and_true, Bool.and_eq_true] at h
    have hc := isDigitC_val c h.2
    have := ih h.1
    rw [natOfDigits_append, List.length_append, List.length_singleton, pow_succ]
    show _ * 10 ^ 1 + (0 * 10 + digitVal c) < _
    omega

theorem isDigitC_not_sign (c : Char) (h : isDigitC c = true) : c ≠ '+' ∧ c ≠ '-' ∧ c ≠ '.' ∧ c ≠ '%' := by
  unfold isDigitC at h
  simp only [Bool.and_eq_true, decide_eq_true_eq] at h
  refine ⟨?_, ?_, ?_, ?_⟩ <;> (intro e; subst e; revert h; decide)

theorem isDigits_iff (s : Text) : isDigits s = true ↔ s ≠ [] ∧ s.all isDigitC = true := by simp [isDigits]

theorem isDigits_all (s : Text) (h : isDigits s = true) : s.all isDigitC = true := ((isDigits_iff s).mp h).2

theorem isDigits_ne_nil (s : Text) (h : isDigits s = true) : s ≠ [] := ((isDigits_iff s).mp h).1

theorem isDigits_head {c : Char} {t : Text} (h : isDigits (c :: t) = true) : c ≠ '+' ∧ c ≠ '-' ∧ c ≠ '.' ∧ c ≠ '%' :=
  isDigitC_not_sign c (List.all_eq_true.mp (isDigits_all _ h) c List.mem_cons_self)

theorem isDigits_nodot (s : Text) (h : isDigits s = true) : ∀ c ∈ s, c ≠ '.' :=
  fun c hc => (isDigitC_not_sign c (List.all_eq_true.mp (isDigits_all s h) c hc)).2.2.1

/-! ### `%d` -/

theorem natToDigits_val (n : Nat) : natOfDigits (natToDigits n) = n := by
  rw [natToDigits_eq]; exact Nat.ofDigitChars_ten_toDigits

theorem natToDigits_all (n : Nat) : (natToDigits n).all isDigitC = true := by
  rw [natToDigits_eq]
  exact List.all_eq_true.mpr fun c hc => isDigitC_eq c ▸ Nat.isDigit_of_mem_toDigits (by decide) (by decide) hc

theorem natToDigits_ne (n : Nat) : natToDigits n ≠ [] := by rw [natToDigits_eq]; exact Nat.toDigits_ne_nil

theorem natToDigits_isDigits (n : Nat) : isDigits (natToDigits n) = true :=
  (isDigits_iff _).mpr ⟨natToDigits_ne n, natToDigits_all n⟩

theorem natToDigits_len (n w : Nat) (hw : n < 10 ^ (w + 1)) : (natToDigits n).length ≤ w + 1 := by
  rw [natToDigits_eq]; exact (Nat.length_toDigits_le_iff (by decide) (by omega)).mpr hw

/-! ### padding -/

theorem natOfDigits_zeros (k : Nat) (s : Text) :
    natOfDigits (List.replicate k '0' ++ s) = natOfDigits s := by
  rw [natOfDigits_eq, Nat.ofDigitChars_append, Nat.ofDigitChars_replicate_zero]; rfl

theorem padZeros_val (w : Nat) (s : Text) : natOfDigits (padZeros w s) = natOfDigits s :=
  natOfDigits_zeros _ _

theorem padZeros_all (w : Nat) (s : Text) (h : s.all isDigitC = true) : (padZeros w s).all isDigitC = true := by
  unfold padZeros
  rw [List.all_append, h]
  simp
  right; decide

theorem padZeros_len (w : Nat) (s : Text) (h : s.length ≤ w) : (padZeros w s).length = w := by
  unfold padZeros; simp; omega

/-! ### strings.Split -/

theorem splitOn_ne_nil (sep : Char) (u : Text) : splitOn sep u ≠ [] := by
  cases u with
  | nil => simp [splitOn]
  | cons c cs =>
    unfold splitOn
    split
    · simp
    · split <;> simp

theorem splitOn_nosep (sep : Char) (u : Text) (h : ∀ c ∈ u, c ≠ sep) : splitOn sep u = [u] := by
  induction u with
  | nil => rfl
  | cons c cs ih =>
    have hc : c ≠ sep := h c (by simp)
    have := ih (fun x hx => h x (by simp [hx]))
    unfold splitOn
    simp [hc, this]

theorem splitOn_append (sep : Char) (a m : Text) (h : ∀ c ∈ a, c ≠ sep) :
    splitOn sep (a ++ sep :: m) = a :: splitOn sep m := by
  induction a with
  | nil => simp [splitOn]
  | cons c cs ih =>
    have hc : c ≠ sep := h c (by simp)
    have := ih (fun x hx => h x (by simp [hx]))
    rw [List.cons_append]
    simp only [splitOn, hc, if_false, this]

theorem splitOn_eq_cons (sep : Char) (u h : Text) (t : List Text) (hs : splitOn sep u = h :: t) :
    (t = [] ∧ u = h) ∨ ∃ u', t = splitOn sep u' ∧ u = h ++ sep :: u' := by
  induction u generalizing h t with
  | nil => simp only [splitOn, List.cons.injEq] at hs; exact .inl ⟨hs.2.symm, hs.1⟩
  | cons c cs ih =>
    unfold splitOn at hs
    split at hs
    · rename_i hc
      simp only [List.cons.injEq] at hs
      exact .inr ⟨cs, hs.2.symm, by rw [← hs.1, hc]; rfl⟩
    · split at hs
      · rename_i hsp; exact absurd hsp (splitOn_ne_nil sep cs)
      · rename_i h' t' hsp
        simp only [List.cons.injEq] at hs
        obtain ⟨rfl, rfl⟩ := hs
        rcases ih h' t' hsp with ⟨rfl, rfl⟩ | ⟨u', rfl, rfl⟩
        · exact .inl ⟨rfl, rfl⟩
        · exact .inr ⟨u', rfl, rfl⟩

/-! ### int64; a magnitude with its sign

"Is an int64" is written `-2^63 ≤ v ∧ v < 2^63` in the property theorems, `minInt64 ≤ v ∧ v ≤ maxInt64` where the
model's constants occur (`int64_iff`), and on a magnitude with its sign `k ≤ lim n` (`sg_int64`). -/

theorem int64_iff (v : Int) : (-(2 : Int) ^ 63 ≤ v ∧ v < (2 : Int) ^ 63) ↔ (minInt64 ≤ v ∧ v ≤ maxInt64) := by
  unfold minInt64 maxInt64; omega

theorem wrap64_id (i : Int) (h1 : minInt64 ≤ i) (h2 : i ≤ maxInt64) : wrap64 i = i := by
  unfold wrap64; unfold minInt64 at h1; unfold maxInt64 at h2; omega

theorem wrap64_natCast (k : Nat) (h : k < 2 ^ 63) : wrap64 (k : Int) = k :=
  wrap64_id _ (by unfold minInt64; omega) (by unfold maxInt64; omega)

theorem intPow10 (e : Nat) (h : e ≤ 18) : intPow 10 e = (10 : Int) ^ e := by
  interval_cases e <;> decide

/-- the largest magnitude on either side of zero: 2^63 below, 2^63−1 above -/
def lim (n : Bool) : Nat := if n then 9223372036854775808 else 9223372036854775807

/-- a magnitude with its sign -/
def sg (n : Bool) (k : Nat) : Int := if n then -(k : Int) else (k : Int)

theorem sg_natAbs (v : Int) : sg (decide (v < 0)) v.natAbs = v := by
  unfold sg
  by_cases h : v < 0 <;> simp only [h, decide_true, decide_false, if_true, Bool.false_eq_true, if_false] <;> omega

theorem sg_int64 (n : Bool) (k : Nat) : (minInt64 ≤ sg n k ∧ sg n k ≤ maxInt64) ↔ k ≤ lim n := by
  unfold sg lim minInt64 maxInt64
  cases n <;> simp only [Bool.false_eq_true, if_false, if_true] <;> omega

theorem natAbs_le_lim (v : Int) (hlo : -(2 : Int) ^ 63 ≤ v) (hhi : v < (2 : Int) ^ 63) :
    v.natAbs ≤ lim (decide (v < 0)) :=
  (sg_int64 _ _).mp (by rw [sg_natAbs]; exact (int64_iff v).mp ⟨hlo, hhi⟩)

/-- a text with its optional minus sign put back -/
def sgn (n : Bool) (u : Text) : Text := if n then '-' :: u else u

theorem sgn_append (n : Bool) (u w : Text) : sgn n (u ++ w) = sgn n u ++ w := by cases n <;> rfl

theorem sgn_nodot (n : Bool) (s : Text) (h : ∀ c ∈ s, c ≠ '.') : ∀ c ∈ sgn n s, c ≠ '.' := by
  cases n
  · exact h
  · intro c hc
    simp only [sgn, if_true, List.mem_cons] at hc
    rcases hc with rfl | hc
    · decide
    · exact h c hc

theorem hasPrefixMinus_cons (c : Char) (t : Text) : hasPrefixMinus (c :: t) = (c == '-') := by
  by_cases h : c = '-'
  · subst h; rfl
  · unfold hasPrefixMinus
    split
    · rename_i heq; injection heq with h' _; exact absurd h' h
    · simp [h]

theorem afterSign_cons (c : Char) (t : Text) :
    GoStrings.afterSign (c :: t) = if c == '+' || c == '-' then t else c :: t := by
  by_cases hm : c = '-'
  · subst hm; rfl
  by_cases hp : c = '+'
  · subst hp; rfl
  · unfold GoStrings.afterSign
    split
    · rename_i heq; injection heq with h _; exact absurd h hm
    · rename_i heq; injection heq with h _; exact absurd h hp
    · simp [hm, hp]

theorem stripMinus_eq (s : Text) : stripMinus s = trimPrefixMinus s := by
  cases s with
  | nil => rfl
  | cons c r =>
    by_cases h : c = '-'
    · subst h; rfl
    · simp [stripMinus, trimPrefixMinus, h]

theorem negative_eq (s : Text) : negative s = hasPrefixMinus s := by
  cases s with
  | nil => rfl
  | cons c r =>
    by_cases h : c = '-'
    · subst h; rfl
    · simp [negative, hasPrefixMinus, h]

theorem sgn_trim (s : Text) : sgn (hasPrefixMinus s) (trimPrefixMinus s) = s := by
  cases s with
  | nil => rfl
  | cons c r =>
    by_cases h : c = '-'
    · subst h; rfl
    · simp [hasPrefixMinus, trimPrefixMinus, sgn, h]

theorem trimPrefixMinus_append (x rest : Text) (hne : x ≠ []) :
    trimPrefixMinus (x ++ rest) = trimPrefixMinus x ++ rest := by
  rcases x with _ | ⟨c, t⟩
  · exact absurd rfl hne
  · by_cases hc : c = '-'
    · subst hc; rfl
    · simp [trimPrefixMinus, hc]

theorem sgn_digits (n : Bool) (a x : Text) (ha : isDigits a = true) :
    hasPrefixMinus (sgn n (a ++ x)) = n ∧ trimPrefixMinus (sgn n (a ++ x)) = a ++ x ∧
      GoStrings.afterSign (sgn n (a ++ x)) = a ++ x := by
  rcases a with _ | ⟨c, t⟩
  · exact absurd rfl (isDigits_ne_nil _ ha)
  obtain ⟨h1, h2, -, -⟩ := isDigits_head ha
  cases n
  · simp [sgn, hasPrefixMinus, trimPrefixMinus, afterSign_cons, h1, h2]
  · exact ⟨rfl, rfl, rfl⟩

theorem hasPrefixMinus_digits (s : Text) (h : isDigits s = true) : hasPrefixMinus s = false := by
  simpa [sgn] using (sgn_digits false s [] h).1

theorem trim_sgn (n : Bool) (s : Text) (h : isDigits s = true) : trimPrefixMinus (sgn n s) = s := by
  simpa using (sgn_digits n s [] h).2.1

/-! ### strconv.ParseInt -/

theorem parseInt64_eq (s : Text) :
    parseInt64 s =
      if isDigits (GoStrings.afterSign s) = true then
        if natOfDigits (GoStrings.afterSign s) > lim (hasPrefixMinus s) then .error .range
        else .ok (sg (hasPrefixMinus s) (natOfDigits (GoStrings.afterSign s)))
      else .error .syntax := by
  rcases s with _ | ⟨c, t⟩
  · rfl
  rw [parseInt64, afterSign_cons, hasPrefixMinus_cons]
  generalize (if (c == '+' || c == '-') = true then t else c :: t) = body
  by_cases hd : isDigits body = true
  · -- the model's two range tests, `> 2^63` below zero and `≥ 2^63` above, are `> lim`
    cases c == '-' <;> simp [hd, lim, sg]
    rfl
  · simp [hd]

theorem parseInt64_sgn (n : Bool) (s : Text) (h : isDigits s = true) :
    parseInt64 (sgn n s) = if natOfDigits s > lim n then .error .range else .ok (sg n (natOfDigits s)) := by
  obtain ⟨h1, -, h3⟩ := sgn_digits n s [] h
  rw [List.append_nil] at h1 h3
  rw [parseInt64_eq, h1, h3, if_pos h]

theorem parseInt64_digits (s : Text) (h : isDigits s = true) :
    parseInt64 s = if natOfDigits s ≥ 9223372036854775808 then .error .range else .ok (natOfDigits s : Int) := by
  rw [show s = sgn false s from rfl, parseInt64_sgn false s h]
  simp only [lim, sg, Bool.false_eq_true, if_false]
  rfl

theorem parseInt64_bounds (s : Text) (v : Int) (h : parseInt64 s = .ok v) :
    v ≤ maxInt64 ∧ (hasPrefixMinus s = true → v ≤ 0) ∧ (hasPrefixMinus s = false → 0 ≤ v) := by
  rw [parseInt64_eq] at h
  split at h
  swap
  · cases h
  split at h
  · cases h
  · obtain rfl := Except.ok.inj h
    rename_i hle
    refine ⟨((sg_int64 _ _).mpr (Nat.le_of_not_lt hle)).2, ?_⟩
    cases hasPrefixMinus s <;> simp [sg]

/-! ### the 64-bit parser computes what the unbounded one does -/

theorem range_guard (B v v2 p : Int) (hv2 : v2 ≤ B) (hp : 0 < p) :
    (v > Int.tdiv (B - v2) p) ↔ (v * p + v2 > B) := by
  rw [Int.tdiv_eq_ediv_of_nonneg (by omega)]
  constructor
  · intro h
    by_contra hc
    have : v ≤ (B - v2) / p := (Int.le_ediv_iff_mul_le hp).mpr (by omega)
    omega
  · intro h
    by_contra hc
    have : v * p ≤ B - v2 := (Int.le_ediv_iff_mul_le hp).mp (by omega)
    omega

/-- the guard on the negative side: Go's truncated division of a negative
    numerator rounds towards zero, i.e. upwards -/
theorem range_guard_neg (v v2 p : Int) (hv2 : 0 ≤ v2) (hv2' : v2 ≤ maxInt64) (hp : 0 < p) :
    (v < Int.tdiv (minInt64 + v2) p) ↔ (v * p - v2 < minInt64) := by
  have hk : minInt64 + v2 = -(-minInt64 - v2) := by ring
  have := range_guard (-minInt64) (-v) v2 p (by unfold minInt64; unfold maxInt64 at hv2'; omega) hp
  rw [hk, Int.neg_tdiv]
  rw [neg_mul] at this
  omega

theorem sum_nowrap (v v2 p : Int) (hv : 0 ≤ v) (hv2 : 0 ≤ v2) (hv2' : v2 ≤ maxInt64) (hp : 0 < p)
    (hg : ¬ v > Int.tdiv (maxInt64 - v2) p) : wrap64 (wrap64 (v * p) + v2) = v * p + v2 := by
  have hvp : 0 ≤ v * p := Int.mul_nonneg hv hp.le
  have := (range_guard _ v v2 p hv2' hp).not.mp hg
  rw [wrap64_id (v * p) (by unfold minInt64; omega) (by omega), wrap64_id _ (by unfold minInt64; omega) (by omega)]

theorem diff_nowrap (v v2 p : Int) (hv : v ≤ 0) (hv2 : 0 ≤ v2) (hv2' : v2 ≤ maxInt64) (hp : 0 < p)
    (hg : ¬ v < Int.tdiv (minInt64 + v2) p) : wrap64 (wrap64 (v * p) - v2) = v * p - v2 := by
  have hvp : v * p ≤ 0 := Int.mul_nonpos_of_nonpos_of_nonneg hv hp.le
  have := (range_guard_neg v v2 p hv2 hv2' hp).not.mp hg
  rw [wrap64_id (v * p) (by omega) (by unfold maxInt64; omega), wrap64_id _ (by omega) (by unfold maxInt64; omega)]

theorem guarded_sum (n : Bool) (A M e : Nat) (hM : M < 2 ^ 63) :
    (if n = true then
        if sg n A < Int.tdiv (minInt64 + (M : Int)) (10 ^ e) then Except.error Err.range
        else Except.ok (⟨sg n A * 10 ^ e - (M : Int), e⟩ : Amount)
      else
        if sg n A > Int.tdiv (maxInt64 - (M : Int)) (10 ^ e) then Except.error Err.range
        else Except.ok ⟨sg n A * 10 ^ e + (M : Int), e⟩) =
      if A * 10 ^ e + M > lim n then Except.error Err.range else Except.ok ⟨sg n (A * 10 ^ e + M), e⟩ := by
  have hp : (0 : Int) < 10 ^ e := by positivity
  have hM' : ((M : Nat) : Int) ≤ maxInt64 := by unfold maxInt64; omega
  cases n
  · rw [if_neg (by decide), if_congr (range_guard _ _ _ _ hM' hp) rfl rfl]
    simp only [sg, lim, Bool.false_eq_true, if_false, maxInt64]
    norm_cast
  · rw [if_pos rfl, if_congr (range_guard_neg _ _ _ (Int.natCast_nonneg _) hM' hp) rfl rfl]
    simp only [sg, lim, if_true, minInt64]
    rw [show -((A : Nat) : Int) * 10 ^ e - (M : Nat) = -((A * 10 ^ e + M : Nat) : Int) by push_cast; ring]
    congr 1
    rw [eq_iff_iff]; omega

theorem ite_error_eq_ok {ε α : Type} (c : Prop) [Decidable c] (e : ε) (t : Except ε α) (r : α) :
    (if c then .error e else t) = .ok r ↔ ¬ c ∧ t = .ok r := by
  split <;> simp [*]

theorem hasPrefixMinus_split_head (val : Text) : hasPrefixMinus ((splitOn '.' val)[0]!) = hasPrefixMinus val := by
  cases val with
  | nil => rfl
  | cons c r =>
    by_cases hd : c = '.'
    · subst hd; simp [splitOn, hasPrefixMinus]
    · simp only [splitOn, hd, if_false]
      cases splitOn '.' r <;> exact (hasPrefixMinus_cons c _).trans (hasPrefixMinus_cons c r).symm

/-- `strconv.ParseInt` on a part of the text, its error replaced by `e` -/
def intPart (s : Text) (e : Err) (k : Int → Except Err Amount) : Except Err Amount :=
  match parseInt64 s with
  | .error _ => .error e
  | .ok v => k v

/-- `parseParts` with the arithmetic on unbounded integers -/
def partsZ (n : Bool) (x : List Text) : Except Err Amount :=
  if x.length > 2 then .error .separators else
  match x with
  | [] => .error .major
  | x0 :: rest =>
    intPart x0 .major fun v =>
      if !isDigits (trimPrefixMinus x0) then .error .majorDigits else
      match rest with
      | [] => .ok ⟨v, 0⟩
      | x1 :: _ =>
        intPart x1 .minor fun v2 =>
          if !isDigits x1 then .error .minorDigits else
          let e := x1.length
          if e > maxAmountExp then .error .decimals else
          if n then
            if v < Int.tdiv (minInt64 + v2) (10 ^ e) then .error .range else .ok ⟨v * 10 ^ e - v2, e⟩
          else
            if v > Int.tdiv (maxInt64 - v2) (10 ^ e) then .error .range else .ok ⟨v * 10 ^ e + v2, e⟩

theorem parseParts_eq_partsZ (x0 : Text) (t : List Text) :
    parseParts (hasPrefixMinus x0) (x0 :: t) = partsZ (hasPrefixMinus x0) (x0 :: t) := by
  rcases t with _ | ⟨x1, t⟩
  · rfl
  simp only [parseParts, partsZ, intPart]
  cases h0 : parseInt64 x0 with
  | error e => rfl
  | ok v =>
    cases h1 : parseInt64 x1 with
    | error e => rfl
    | ok v2 =>
      by_cases hd1 : isDigits x1 = true
      swap
      · simp [hd1]
      by_cases hl : x1.length > maxAmountExp
      · simp only [hl, if_true]
      obtain ⟨-, b3, b4⟩ := parseInt64_bounds x0 v h0
      obtain ⟨c2, -, c4⟩ := parseInt64_bounds x1 v2 h1
      have hv2 : 0 ≤ v2 := c4 (hasPrefixMinus_digits x1 hd1)
      have hp : (0 : Int) < 10 ^ x1.length := by positivity
      simp only [hl, if_false, intPow10 _ (Nat.le_of_not_lt hl)]
      rw [wrap64_id (maxInt64 - v2) (by unfold minInt64 maxInt64 at *; omega) (by omega),
        wrap64_id (minInt64 + v2) (by omega) (by unfold minInt64 maxInt64 at *; omega)]
      cases hn : hasPrefixMinus x0
      · by_cases hg : v > Int.tdiv (maxInt64 - v2) (10 ^ x1.length)
        · simp only [hg, if_true, Bool.false_eq_true, if_false]
        · simp only [hg, if_false, Bool.false_eq_true, sum_nowrap v v2 _ (b4 hn) hv2 c2 hp hg]
      · by_cases hg : v < Int.tdiv (minInt64 + v2) (10 ^ x1.length)
        · simp only [hg, if_true]
        · simp only [hg, if_false, if_true, diff_nowrap v v2 _ (b3 hn) hv2 c2 hp hg]

theorem amountFromString_eq_Z (val : Text) :
    amountFromString val = partsZ (hasPrefixMinus val) (splitOn '.' val) := by
  rw [amountFromString, ← hasPrefixMinus_split_head]
  rcases hs : splitOn '.' val with _ | ⟨x0, t⟩
  · exact absurd hs (splitOn_ne_nil _ _)
  · exact parseParts_eq_partsZ x0 t

/-! ### a sign and a decimal text

`AmountFromString` splits the whole text, so the minus sign stays on the major part. -/

/-- digits with an optional decimal part: `a` or `a.m` -/
def dec (a m : Text) : Text := a ++ if m = [] then [] else '.' :: m

/-- the number the digits of `dec a m` form, read without the point -/
def decVal (a m : Text) : Nat := natOfDigits a * 10 ^ m.length + natOfDigits m

/-- `s` is the sign `n` and the decimal text `a` or `a.m` -/
def IsDec (s : Text) (n : Bool) (a m : Text) : Prop :=
  s = sgn n (dec a m) ∧ isDigits a = true ∧ m.all isDigitC = true

/-- the decimals, at most 18 digits, are below `10^18 < 2^63`, so `ParseInt` never trips on them, and the two
    guards of the parser are one test of the sum (`guarded_sum`) -/
theorem IsDec.parse {s : Text} {n : Bool} {a m : Text} (h : IsDec s n a m) (r : Amount) :
    amountFromString s = .ok r ↔ (m.length ≤ 18 ∧ decVal a m ≤ lim n ∧ r = ⟨sg n (decVal a m), m.length⟩) := by
  obtain ⟨rfl, ha, hm⟩ := h
  rw [amountFromString_eq_Z, dec, (sgn_digits n a _ ha).1, sgn_append, decVal]
  have hnd := sgn_nodot n a (isDigits_nodot a ha)
  by_cases h0 : m = []
  · subst h0
    rw [if_pos rfl, List.append_nil, splitOn_nosep '.' _ hnd]
    simp only [partsZ, intPart, List.length_singleton, show ¬ (1 > 2) by decide, if_false, parseInt64_sgn n a ha, trim_sgn n a ha,
      ha, Bool.not_true, Bool.false_eq_true]
    by_cases hr : natOfDigits a > lim n <;> simp [hr, natOfDigits_nil, eq_comm]
    intro _; omega
  · have hmd : isDigits m = true := (isDigits_iff m).mpr ⟨h0, hm⟩
    have hlt := natOfDigits_lt m hm
    rw [if_neg h0, splitOn_append '.' _ m hnd, splitOn_nosep '.' m (isDigits_nodot m hmd)]
    simp only [partsZ, intPart, List.length_cons, List.length_nil, show ¬ (0 + 1 + 1 > 2) by decide, if_false,
      parseInt64_sgn n a ha, parseInt64_digits m hmd, trim_sgn n a ha, ha, hmd, Bool.not_true, Bool.false_eq_true, maxAmountExp]
    by_cases h1 : natOfDigits a > lim n
    · have hle : natOfDigits a ≤ natOfDigits a * 10 ^ m.length := Nat.le_mul_of_pos_right _ (by positivity)
      simp only [h1, if_true, reduceCtorEq, false_iff]; omega
    by_cases h2 : natOfDigits m ≥ 9223372036854775808
    · simp only [h1, h2, if_true, if_false, reduceCtorEq, false_iff]
      intro ⟨h, _⟩
      have : 10 ^ m.length ≤ 10 ^ 18 := Nat.pow_le_pow_right (by decide) h
      omega
    by_cases h3 : m.length > 18
    · simp only [h1, h2, h3, if_true, if_false, reduceCtorEq, false_iff]; omega
    simp only [h1, h2, h3, if_false, guarded_sum n _ _ _ (show natOfDigits m < 2 ^ 63 by omega), ite_error_eq_ok,
      Except.ok.injEq, eq_comm (b := r)]
    exact ⟨fun ⟨h, e⟩ => ⟨by omega, by omega, e⟩, fun ⟨_, h, e⟩ => ⟨by omega, e⟩⟩

/-! ### what the parser accepts is a decimal text -/

theorem parseParts_ok (n : Bool) (x : List Text) (r : Amount) (h : parseParts n x = .ok r) :
    ∃ x0 t, x = x0 :: t ∧ isDigits (trimPrefixMinus x0) = true ∧ (t = [] ∨ ∃ x1, t = [x1] ∧ isDigits x1 = true) := by
  unfold parseParts at h
  by_cases hl : x.length > 2
  · rw [if_pos hl] at h; cases h
  rw [if_neg hl] at h
  rcases x with _ | ⟨x0, t⟩
  · cases h
  refine ⟨x0, t, rfl, ?_⟩
  simp only at h
  cases hp : parseInt64 x0 with
  | error e => rw [hp] at h; cases h
  | ok v =>
    rw [hp] at h
    simp only at h
    by_cases hd : isDigits (trimPrefixMinus x0) = true
    swap
    · simp only [hd, Bool.not_false, if_true] at h; cases h
    refine ⟨hd, ?_⟩
    rcases t with _ | ⟨x1, _ | _⟩
    · exact .inl rfl
    · right
      refine ⟨x1, rfl, ?_⟩
      simp only [hd, Bool.not_true, Bool.false_eq_true, if_false] at h
      cases hp1 : parseInt64 x1 with
      | error e => rw [hp1] at h; cases h
      | ok v2 =>
        rw [hp1] at h
        simp only at h
        by_cases hd1 : isDigits x1 = true
        · exact hd1
        · simp only [hd1, Bool.not_false, if_true] at h; cases h
    · simp at hl

/-! ### bridge to the recogniser and the decimal reading of Spec/C06 -/

theorem digit_fun : digit = isDigitC := by
  funext c
  unfold digit isDigitC
  simp only [Char.le_def, Char.toNat]
  congr 1

theorem digitsValue_eq (s : Text) : digitsValue s = natOfDigits s := rfl

theorem dec_reading (a m : Text) (ha : a.all isDigitC = true) :
    (dec a m).takeWhile digit = a ∧ (dec a m).dropWhile digit = if m = [] then [] else '.' :: m := by
  have ha' := List.all_eq_true.mp ha
  rw [digit_fun, dec, List.takeWhile_append_of_pos ha', List.dropWhile_append_of_pos ha']
  split <;> simp [isDigitC]

theorem dec_decimals (a m : Text) (ha : a.all isDigitC = true) : ((dec a m).dropWhile digit).drop 1 = m := by
  rw [(dec_reading a m ha).2]; split <;> simp [*]

theorem isAmountBody_dec (a m : Text) (ha : isDigits a = true) (hm : m.all isDigitC = true) :
    isAmountBody (dec a m) = true := by
  unfold isAmountBody
  simp only [dec_reading a m (isDigits_all a ha)]
  have := isDigits_ne_nil a ha
  by_cases h0 : m = []
  · simp [h0, this]
  · simp [h0, this, hm, digit_fun]

theorem isAmountBody_shape (u : Text) (h : isAmountBody u = true) :
    ∃ a m, IsDec u false a m := by
  unfold isAmountBody at h
  rw [digit_fun] at h
  simp only [Bool.and_eq_true, Bool.not_eq_true', List.isEmpty_eq_false_iff] at h
  obtain ⟨hne, hr⟩ := h
  have hu := (List.takeWhile_append_dropWhile (p := isDigitC) (l := u)).symm
  have ha : isDigits (u.takeWhile isDigitC) = true := (isDigits_iff _).mpr ⟨hne, by simp [List.all_takeWhile]⟩
  rcases hd : u.dropWhile isDigitC with _ | ⟨c, m⟩
  · exact ⟨_, [], by rw [hd] at hu; exact hu, ha, rfl⟩
  · rw [hd] at hr hu
    simp only [Bool.and_eq_true, beq_iff_eq, Bool.not_eq_true', List.isEmpty_eq_false_iff] at hr
    obtain ⟨⟨rfl, hm0⟩, hm⟩ := hr
    exact ⟨_, m, by rw [dec, if_neg hm0]; exact hu, ha, hm⟩

theorem amountFromString_ok_shape (s : Text) (r : Amount) (h : amountFromString s = .ok r) :
    ∃ a m, IsDec (trimPrefixMinus s) false a m := by
  obtain ⟨x0, t, hs, hd, ht⟩ := parseParts_ok _ _ _ h
  have hne : x0 ≠ [] := fun e => isDigits_ne_nil _ hd (by rw [e]; rfl)
  rcases splitOn_eq_cons _ _ _ _ hs with ⟨-, rfl⟩ | ⟨u', rfl, rfl⟩
  · exact ⟨_, [], by rw [dec, if_pos rfl, List.append_nil]; rfl, hd, rfl⟩
  · rcases ht with ht | ⟨x1, ht, hd1⟩
    · exact absurd ht (splitOn_ne_nil _ _)
    · rcases splitOn_eq_cons _ _ _ _ ht with ⟨-, rfl⟩ | ⟨u'', h2, -⟩
      · exact ⟨_, u', by rw [trimPrefixMinus_append x0 _ hne, dec, if_neg (isDigits_ne_nil _ hd1)]; rfl, hd,
          isDigits_all _ hd1⟩
      · exact absurd h2.symm (splitOn_ne_nil _ _)

theorem isDec_of (s : Text) (h : (∃ r, amountFromString s = .ok r) ∨ isAmountText s = true) :
    ∃ a m, IsDec s (hasPrefixMinus s) a m := by
  obtain ⟨a, m, hu, ha, hm⟩ : ∃ a m, IsDec (trimPrefixMinus s) false a m :=
    h.elim (fun ⟨r, h⟩ => amountFromString_ok_shape s r h)
      (fun h => isAmountBody_shape _ (by rwa [isAmountText, stripMinus_eq] at h))
  exact ⟨a, m, by rw [← show trimPrefixMinus s = dec a m from hu, sgn_trim], ha, hm⟩

theorem IsDec.reading {s : Text} {n : Bool} {a m : Text} (h : IsDec s n a m) :
    isAmountText s = true ∧ decimals s = m.length ∧ signedUnscaled s = sg n (decVal a m) ∧
      (fits64 s = true ↔ m.length ≤ 18 ∧ decVal a m ≤ lim n) := by
  obtain ⟨rfl, ha, hm⟩ := h
  have ha' := isDigits_all a ha
  have hn : negative (sgn n (dec a m)) = n := by rw [negative_eq, dec, (sgn_digits n a _ ha).1]
  have hs : stripMinus (sgn n (dec a m)) = dec a m := by rw [stripMinus_eq, dec, (sgn_digits n a _ ha).2.1]
  have hd : decimals (sgn n (dec a m)) = m.length := by rw [decimals, fracDigits, hs, dec_decimals a m ha']
  have hu : unscaled (sgn n (dec a m)) = decVal a m := by
    rw [unscaled, fracDigits, intDigits, hs, dec_decimals a m ha', (dec_reading a m ha').1]; rfl
  refine ⟨by rw [isAmountText, hs]; exact isAmountBody_dec a m ha hm, hd, by rw [signedUnscaled, hn, hu]; rfl, ?_⟩
  rw [fits64, signedUnscaled, hn, hu, hd]
  simp only [Bool.and_eq_true, decide_eq_true_eq, lim]
  cases n <;> simp only [Bool.false_eq_true, if_false, if_true] <;> omega

/-- what is accepted, and as what: exactly the fitting members, read as the digits
    with the sign of the text at the written number of decimals -/
theorem amountFromString_ok_iff (s : Text) (r : Amount) :
    amountFromString s = .ok r ↔
      (isAmountText s = true ∧ fits64 s = true ∧ r = ⟨signedUnscaled s, decimals s⟩) := by
  by_cases h : (∃ r, amountFromString s = .ok r) ∨ isAmountText s = true
  · obtain ⟨a, m, hd⟩ := isDec_of s h
    obtain ⟨h1, h2, h3, h4⟩ := hd.reading
    rw [h1, h2, h3, h4, hd.parse]
    simp only [true_and, and_assoc]
  · exact ⟨fun hr => absurd (.inl ⟨r, hr⟩) h, fun hr => absurd (.inr hr.1) h⟩

/-! ### the printer: the written text of an amount is a sign and a decimal text -/

theorem fmtInt_natCast (k : Nat) : fmtInt (k : Int) = natToDigits k := by
  rw [fmtInt, if_neg (Int.not_lt.mpr (Int.natCast_nonneg k)), Int.natAbs_natCast]

theorem fmtIntPad0_natCast (w k : Nat) : fmtIntPad0 w (k : Int) = padZeros w (natToDigits k) := by
  rw [fmtIntPad0, if_neg (Int.not_lt.mpr (Int.natCast_nonneg k)), Int.natAbs_natCast]

/-- `amountToString` with the arithmetic on unbounded integers -/
def toStringZ (a : Amount) : Text :=
  if a.exp = 0 then fmtInt a.value
  else if a.exp > 1000 then ['N', 'A']
  else
    let p : Int := 10 ^ a.exp
    (if a.value < 0 then ['-'] else []) ++ fmtInt (if a.value < 0 then -(Int.tdiv a.value p) else Int.tdiv a.value p) ++
      '.' :: fmtIntPad0 a.exp (if a.value < 0 then -(Int.tmod a.value p) else Int.tmod a.value p)

theorem tdiv_tmod_natAbs (v : Int) (p : Nat) :
    (if v < 0 then -(v.tdiv p) else v.tdiv p) = ((v.natAbs / p : Nat) : Int) ∧
    (if v < 0 then -(v.tmod p) else v.tmod p) = ((v.natAbs % p : Nat) : Int) := by
  split
  · obtain ⟨n, rfl⟩ : ∃ n : Nat, v = -(n : Int) := ⟨v.natAbs, by omega⟩
    rw [Int.neg_tdiv, Int.neg_tmod, neg_neg, neg_neg, Int.natAbs_neg, Int.natAbs_natCast]
    exact ⟨(Int.ofNat_tdiv n p).symm, (Int.ofNat_tmod n p).symm⟩
  · obtain ⟨n, rfl⟩ : ∃ n : Nat, v = (n : Int) := ⟨v.natAbs, by omega⟩
    exact ⟨(Int.ofNat_tdiv n p).symm, (Int.ofNat_tmod n p).symm⟩

/-- changing the sign of the two parts of a negative value cannot overflow: the quotient by at least 10 is
    small, the remainder smaller -/
theorem amountToString_eq_Z (a : Amount) (he : a.exp ≤ 18 ∨ 1000 < a.exp)
    (hlo : -(2 : Int) ^ 63 ≤ a.value) (hhi : a.value < (2 : Int) ^ 63) : amountToString a = toStringZ a := by
  obtain ⟨v, e⟩ := a
  obtain ⟨hlo, hhi⟩ := (int64_iff v).mp ⟨hlo, hhi⟩
  unfold amountToString toStringZ
  by_cases h0 : e = 0
  · simp only [h0, if_true]
  by_cases h1 : e > 1000
  · simp only [h0, h1, if_true, if_false]
  have he' : e ≤ 18 := by simp only at he; omega
  simp only [h0, h1, if_false, intPow10 e he', decide_eq_true_eq]
  by_cases hneg : v < 0
  swap
  · simp only [hneg, if_false]
  obtain ⟨hq, hr⟩ := tdiv_tmod_natAbs v (10 ^ e)
  have hp10 : 10 ≤ 10 ^ e := Nat.le_self_pow h0 10
  have hp18 : 10 ^ e ≤ 10 ^ 18 := Nat.pow_le_pow_right (by decide) he'
  have hqle : v.natAbs / 10 ^ e ≤ v.natAbs / 10 := Nat.div_le_div_left hp10 (by decide)
  have hrlt : v.natAbs % 10 ^ e < 10 ^ e := Nat.mod_lt _ (by omega)
  simp only [hneg, if_true, Nat.cast_pow, Nat.cast_ofNat] at hq hr ⊢
  unfold minInt64 at hlo
  rw [hq, hr, wrap64_natCast _ (by omega), wrap64_natCast _ (by omega)]

theorem toStringZ_dec (v : Int) (e : Nat) (he : e ≤ 1000) :
    ∃ A M, IsDec (toStringZ ⟨v, e⟩) (decide (v < 0)) A M ∧ M.length = e ∧ decVal A M = v.natAbs := by
  by_cases h0 : e = 0
  · subst h0
    refine ⟨natToDigits v.natAbs, [], ⟨?_, natToDigits_isDigits _, rfl⟩, rfl, by simp [decVal, natToDigits_val, natOfDigits_nil]⟩
    unfold toStringZ fmtInt sgn dec
    by_cases h : v < 0 <;> simp [h]
  · obtain ⟨hq, hr⟩ := tdiv_tmod_natAbs v (10 ^ e)
    have hlen : (natToDigits (v.natAbs % 10 ^ e)).length ≤ e := by
      have := natToDigits_len (v.natAbs % 10 ^ e) (e - 1)
        (by rw [Nat.sub_add_cancel (by omega)]; exact Nat.mod_lt _ (by positivity))
      omega
    refine ⟨natToDigits (v.natAbs / 10 ^ e), padZeros e (natToDigits (v.natAbs % 10 ^ e)),
      ⟨?_, natToDigits_isDigits _, padZeros_all _ _ (natToDigits_all _)⟩, padZeros_len _ _ hlen, ?_⟩
    · have hM : padZeros e (natToDigits (v.natAbs % 10 ^ e)) ≠ [] := by
        intro hc; have := padZeros_len e _ hlen; rw [hc] at this; exact h0 this.symm
      unfold toStringZ
      simp only [Nat.cast_pow, Nat.cast_ofNat] at hq hr
      simp only [h0, if_false, show ¬ e > 1000 by omega, hq, hr]
      rw [fmtInt_natCast, fmtIntPad0_natCast, dec, if_neg hM]
      by_cases h : v < 0 <;> simp [sgn, h]
    · rw [decVal, natToDigits_val, padZeros_val, natToDigits_val, padZeros_len _ _ hlen, Nat.mul_comm]
      exact Nat.div_add_mod _ _

theorem amountToString_dec (v : Int) (e : Nat) (he : e ≤ 18) (hlo : -(2 : Int) ^ 63 ≤ v) (hhi : v < (2 : Int) ^ 63) :
    ∃ A M, IsDec (amountToString ⟨v, e⟩) (decide (v < 0)) A M ∧ M.length = e ∧ decVal A M = v.natAbs := by
  rw [amountToString_eq_Z _ (.inl he) hlo hhi]; exact toStringZ_dec v e (by omega)

/-! ### the JSON string decoder on the spellings of Spec/C06 -/

theorem hexVal_hexDigit (k : Nat) (h : k < 16) : hexVal? (hexDigit k) = some k := by
  interval_cases k <;> decide

theorem getu4_uEscape (c : Char) (hc : c.toNat < 128) (rest : Text) :
    getu4 (uEscape c ++ rest) = some c.toNat := by
  have h1 := hexVal_hexDigit (c.toNat / 16) (by omega)
  have h2 := hexVal_hexDigit (c.toNat % 16) (by omega)
  have h0 : hexVal? '0' = some 0 := by decide
  show getu4 ('\\' :: 'u' :: '0' :: '0' :: hexDigit (c.toNat / 16) :: hexDigit (c.toNat % 16) :: rest) = _
  unfold getu4
  simp only [h0, h1, h2]
  congr 1
  omega

theorem utf8Encode_ascii (c : Char) (hc : c.toNat < 128) : utf8Encode c.toNat = [c] := by
  unfold utf8Encode
  have : c.toNat < 0x80 := hc
  simp only [this, if_true, Char.ofNat_toNat]

theorem jsonPlain_spec (c : Char) (h : jsonPlain c = true) :
    c ≠ '"' ∧ c ≠ '\\' ∧ ¬ c.toNat < 0x20 ∧ c.toNat < 0x80 := by
  unfold jsonPlain at h
  simp only [Bool.and_eq_true, decide_eq_true_eq, bne_iff_ne, ne_eq] at h
  obtain ⟨⟨⟨h1, h2⟩, h3⟩, h4⟩ := h
  exact ⟨h3, h4, by omega, h2⟩

theorem jsonStringBody_plain (f : Nat) (c : Char) (rest : Text) (h : Spec.C06.jsonPlain c = true) :
    jsonStringBody (f + 1) (c :: rest) = (jsonStringBody f rest).map (c :: ·) := by
  obtain ⟨h1, h2, h3, h4⟩ := jsonPlain_spec c h
  rw [jsonStringBody.eq_def]
  simp only [beq_iff_eq, h1, h2, if_false, h3, h4, if_true]

theorem jsonStringBody_escaped (f : Nat) (c : Char) (rest : Text) (hc : c.toNat < 128) :
    jsonStringBody (f + 1) (uEscape c ++ rest) = (jsonStringBody f rest).map (c :: ·) := by
  have hg := getu4_uEscape c hc rest
  have hshape : uEscape c ++ rest =
      '\\' :: 'u' :: '0' :: '0' :: hexDigit (c.toNat / 16) :: hexDigit (c.toNat % 16) :: rest := rfl
  rw [hshape] at hg ⊢
  rw [jsonStringBody.eq_def]
  have hq : ('\\' == '"') = false := by decide
  have hb : ('\\' == '\\') = true := by decide
  have hu : ('u' == 'u') = true := by decide
  simp only [hq, hb, hu, Bool.false_eq_true, if_false, if_true, hg]
  have hs : ¬ (0xD800 ≤ c.toNat ∧ c.toNat < 0xE000) := by omega
  simp only [Bool.and_eq_true, decide_eq_true_eq, hs, if_false]
  rw [utf8Encode_ascii c hc]
  simp [List.drop]

theorem jsonStringBody_close (f : Nat) : jsonStringBody (f + 1) ['"'] = some [] := by
  rw [jsonStringBody.eq_def]
  simp

theorem spell_length (mask : List Bool) (s : Text) : s.length ≤ (spell mask s).length := by
  induction s generalizing mask with
  | nil => exact Nat.le_refl 0
  | cons c cs ih =>
    rw [spell, List.length_append, List.length_cons]
    exact Nat.add_comm _ _ ▸ Nat.add_le_add (by split <;> exact Nat.succ_le_succ (Nat.zero_le _)) (ih mask.tail)

theorem jsonStringBody_spell (s : Text) (hs : ∀ c ∈ s, jsonPlain c = true) :
    ∀ (mask : List Bool) (f : Nat), s.length ≤ f →
      jsonStringBody (f + 1) (spell mask s ++ ['"']) = some s := by
  induction s with
  | nil => exact fun _ f _ => jsonStringBody_close f
  | cons c cs ih =>
    intro mask f hf
    obtain ⟨f, rfl⟩ : ∃ k, f = k + 1 := ⟨f - 1, (Nat.sub_add_cancel (Nat.le_trans (Nat.succ_le_succ (Nat.zero_le _)) hf)).symm⟩
    have hc := hs c List.mem_cons_self
    have ih' := ih (fun d hd => hs d (List.mem_cons_of_mem _ hd)) mask.tail f (Nat.le_of_succ_le_succ hf)
    rw [spell]
    split
    · rw [List.append_assoc, jsonStringBody_escaped _ c _ (jsonPlain_spec c hc).2.2.2, ih']; rfl
    · rw [List.append_assoc, List.singleton_append, jsonStringBody_plain _ c _ hc, ih']; rfl

theorem jsonDecodeString_spelling (mask : List Bool) (s : Text) (hs : ∀ c ∈ s, jsonPlain c = true) :
    jsonDecodeString (jsonSpelling mask s) = some s := by
  unfold jsonSpelling jsonDecodeString
  refine jsonStringBody_spell s hs mask _ ?_
  rw [List.length_append]
  exact Nat.le_trans (spell_length mask s) (Nat.le_add_right _ _)

theorem jsonText_spelling (mask : List Bool) (s : Text) (hs : ∀ c ∈ s, jsonPlain c = true) :
    jsonText (jsonSpelling mask s) = .ok (s, false) := by
  unfold jsonText
  rw [jsonDecodeString_spelling mask s hs]
  simp [jsonSpelling]

theorem jsonText_bare (s : Text) (h : s.head? ≠ some '"') : jsonText s = .ok (s, s == nullText) := by
  unfold jsonText
  have : (s.head? == some '"') = false := by simpa using h
  simp [this]

theorem isDigitC_plain (c : Char) (h : isDigitC c = true) : jsonPlain c = true := by
  unfold isDigitC at h
  simp only [Bool.and_eq_true, decide_eq_true_eq] at h
  unfold jsonPlain
  have h1 : c ≠ '"' := by intro e; subst e; revert h; decide
  have h2 : c ≠ '\\' := by intro e; subst e; revert h; decide
  simp only [Bool.and_eq_true, decide_eq_true_eq, bne_iff_ne, ne_eq]
  exact ⟨⟨⟨by omega, by omega⟩, h1⟩, h2⟩

theorem isAmountText_plain (s : Text) (h : isAmountText s = true) : ∀ c ∈ s, jsonPlain c = true := by
  obtain ⟨a, m, hs, ha, hm⟩ := isDec_of s (.inr h)
  have plain : ∀ t : Text, t.all isDigitC = true → ∀ c ∈ t, jsonPlain c = true :=
    fun t ht c hc => isDigitC_plain c (List.all_eq_true.mp ht c hc)
  have body : ∀ c ∈ dec a m, jsonPlain c = true := by
    intro c hc
    rcases List.mem_append.mp hc with hc | hc
    · exact plain a (isDigits_all a ha) c hc
    · split at hc
      · cases hc
      · rcases List.mem_cons.mp hc with rfl | hc
        · decide
        · exact plain m hm c hc
  intro c hc
  rw [hs, sgn] at hc
  split at hc
  · rcases List.mem_cons.mp hc with rfl | hc
    · decide
    · exact body c hc
  · exact body c hc

theorem isPercentageText_iff (s : Text) :
    isPercentageText s = true ↔ (s.getLast? = some '%' ∧ isAmountText s.dropLast = true) := by
  unfold isPercentageText
  cases h : s.getLast? with
  | none => simp
  | some c =>
    by_cases hc : c = '%'
    · subst hc; simp
    · simp only [Option.some.injEq, hc, false_and, iff_false]
      split
      · rename_i heq; simp at heq; exact absurd heq hc
      · simp

theorem isPercentageText_plain (s : Text) (h : isPercentageText s = true) : ∀ c ∈ s, jsonPlain c = true := by
  obtain ⟨h1, h2⟩ := (isPercentageText_iff s).mp h
  intro c hc
  rw [← List.dropLast_append_getLast? (l := s) '%' (by simpa using h1)] at hc
  rcases List.mem_append.mp hc with hc | hc
  · exact isAmountText_plain _ h2 c hc
  · obtain rfl := List.mem_singleton.mp hc
    decide

end GoblVerif.Codec
