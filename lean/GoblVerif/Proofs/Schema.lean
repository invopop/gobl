/-
  Facts about the definitions of Model/Schema.lean that hold for all arguments: what `dedup` keeps,
  and the digit test of the `date` format.  Core Lean only.
-/
import GoblVerif.Model.Schema

namespace GoblVerif.Schema

theorem mem_of_mem_dedup {x : NStr} : ∀ {l : List NStr}, x ∈ dedup l → x ∈ l
  | _ :: l, h => by
    unfold dedup at h
    split at h
    · exact List.mem_cons_of_mem _ (mem_of_mem_dedup h)
    · exact List.mem_cons.mpr ((List.mem_cons.mp h).imp_right mem_of_mem_dedup)

theorem isDigit_iff {c : Nat} : isDigit c = true ↔ 48 ≤ c ∧ c ≤ 57 := by
  simp [isDigit]

theorem isDigit_low (x : Nat) : isDigit (48 + x % 10) = true := isDigit_iff.mpr (by omega)

theorem digitVal_add (x : Nat) : digitVal (48 + x) = x := by simp [digitVal]

end GoblVerif.Schema
