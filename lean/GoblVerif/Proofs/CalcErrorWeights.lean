/-
  Error bounds (C01): the weights compared.  Every weight is at most the
  weight of the amount due; the rational weights (actual percentages) are at
  most the integer ones (every percentage bounded by 100 %); for prices that
  do not include tax the weights with an included category are those without.
  At the end every presented total at once (`ForTotals`), within half a minor
  unit plus any `N` half working units from the largest weight up
  (`presented_within`).
-/
import GoblVerif.Proofs.CalcErrorTotals

namespace GoblVerif
open GoblVerif.Spec GoblVerif.Calc
namespace Calc
namespace Err

variable {ret : String → Bool}

theorem cWQ_le (cb : Combo) (h : ComboOk ret cb) : cWQ cb ≤ cW cb := by
  unfold cWQ cW
  cases hp : cb.percent with
  | none => simp only; positivity
  | some p =>
    have h1 := h.percent hp
    cases hs : cb.surcharge with
    | none => simpa [pctA_eq] using h1
    | some s =>
      have h2 := h.surcharge hs
      simp only [pctA_eq, Option.isSome_some, if_true]
      push_cast
      linarith

theorem comboWQ_le (taxes : List Combo) (h : ∀ cb ∈ taxes, ComboOk ret cb) : comboWQ taxes ≤ comboW taxes := by
  unfold comboWQ comboW
  rw [cast_sum]
  exact List.sum_le_sum (fun cb hcb => cWQ_le cb (h cb hcb))

theorem kNQ_le (inc : Option String) (taxes : List Combo) (h : ∀ cb ∈ taxes, ComboOk ret cb) :
    kNQ inc taxes ≤ kN inc taxes := by
  unfold kNQ kN
  cases inc with
  | none => simp
  | some k =>
    simp only
    refine le_trans (sum_le_length _ _ 1 (fun cb hcb => ?_)) (by simp)
    cases hp : cb.percent with
    | none => simp
    | some p => simpa [pctA_eq] using (h cb (List.mem_filter.mp hcb).1).percent hp

theorem adjWQ_le {c : ℕ} (xs : List DocAdj) (hx : ∀ x ∈ xs, DocAdjOk c x) (s : ℕ) :
    adjWQ s xs ≤ adjW s xs.length := by
  unfold adjWQ adjW
  push_cast
  exact sum_le_length xs _ _ (fun x hxm => adjRowWQ_le (hx x hxm) s)

theorem rowsWLQ_le (L : List Combo → ℚ) (L' : List Combo → ℕ) (inc : Option String) (d : Doc) (hd : DocTI ret d)
    (hL : ∀ taxes, (∀ cb ∈ taxes, ComboOk ret cb) → 0 ≤ L taxes ∧ L taxes ≤ L' taxes) :
    rowsWLQ L inc d ≤ rowsWL L' inc d := by
  unfold rowsWLQ rowsWL
  push_cast
  rw [cast_sum, cast_sum, cast_sum]
  have hadj : ∀ xs : List DocAdj, (∀ x ∈ xs, DocAdjOk d.c x) → (∀ x ∈ xs, ∀ cb ∈ x.taxes, ComboOk ret cb) →
      (xs.map (fun x => (adjRowWQ (sumW d.lines) x + (incB inc x.taxes : ℚ)) * L x.taxes)).sum ≤
      (xs.map (fun x => (((1 + sumW d.lines + incB inc x.taxes) * L' x.taxes : ℕ) : ℚ))).sum := by
    intro xs h1 h2
    refine List.sum_le_sum (fun x hx => ?_)
    obtain ⟨l0, l1⟩ := hL x.taxes (h2 x hx)
    have := adjRowWQ_le (h1 x hx) (sumW d.lines)
    push_cast
    exact mul_le_mul (by linarith) l1 l0 (by positivity)
  refine add_le_add (add_le_add (List.sum_le_sum (fun l hl => ?_)) (hadj _ hd.base.discounts hd.discTaxes))
    (hadj _ hd.base.charges hd.chTaxes)
  obtain ⟨l0, l1⟩ := hL l.taxes (hd.lineTaxes l hl)
  push_cast
  exact mul_le_mul_of_nonneg_left l1 (by positivity)

/-- every percentage bounded by 100 %: numbers of rounding points, prices that may include a category -/
def weightsI (d : Doc) (G Gk : ℕ) : Weights where
  sum := sumW d.lines
  discount := adjW (sumW d.lines) d.discounts.length
  charge := adjW (sumW d.lines) d.charges.length
  taxIncluded := incWI d Gk
  total := totalWI d Gk
  tax := taxWI d G
  totalWithTax := twtWI d G Gk
  payable := twtWI d G Gk
  advances := advWI d G Gk
  due := dueWI d G Gk

/-- the same for prices that do not include tax -/
def weightsN (d : Doc) (G : ℕ) : Weights where
  sum := sumW d.lines
  discount := adjW (sumW d.lines) d.discounts.length
  charge := adjW (sumW d.lines) d.charges.length
  taxIncluded := 0
  total := totalW d
  tax := taxW d G
  totalWithTax := twtW d G
  payable := twtW d G
  advances := advW d G
  due := dueW d G

/-- one weight for all ten -/
def Weights.all (n : ℚ) : Weights := ⟨n, n, n, n, n, n, n, n, n, n⟩

/-- the weight of the amount due is the largest -/
theorem weightsQ_le_due (d : Doc) (G Gk : ℕ) {N : ℚ} (hN : dueWQ d G Gk ≤ N) : weightsQ d G Gk ≤ Weights.all N := by
  have a1 := adjWQ_nonneg (sumW d.lines) d.discounts
  have a2 := adjWQ_nonneg (sumW d.lines) d.charges
  have a3 := incWQ_nonneg d Gk
  have a4 := taxWQ_nonneg d G
  have a5 : (0 : ℚ) ≤ (sumW d.lines : ℚ) := by positivity
  have a8 := advWQ_nonneg d G Gk
  unfold dueWQ twtWQ totalWQ total2WQ at hN
  constructor <;> simp only [weightsQ, Weights.all, dueWQ, twtWQ, totalWQ, total2WQ] <;> linarith

theorem total2WQ_le (d : Doc) (hd : DocA d) : total2WQ d ≤ totalW d := by
  have b1 := adjWQ_le d.discounts hd.discounts (sumW d.lines)
  have b2 := adjWQ_le d.charges hd.charges (sumW d.lines)
  unfold total2WQ totalW
  unfold adjW at b1 b2
  push_cast at b1 b2 ⊢
  linarith

theorem incWQ_le (d : Doc) (hd : DocTI ret d) (Gk : ℕ) : incWQ d Gk ≤ incWI d Gk := by
  have := rowsWLQ_le (kNQ d.includes) (kN d.includes) d.includes d hd
    (fun t h => ⟨kNQ_nonneg d.includes t, kNQ_le d.includes t h⟩)
  unfold incWQ incWI; push_cast; linarith

theorem taxWQ_le (d : Doc) (hd : DocTI ret d) (G : ℕ) : taxWQ d G ≤ taxWI d G := by
  have := rowsWLQ_le comboWQ comboW d.includes d hd (fun t h => ⟨comboWQ_nonneg t, comboWQ_le t h⟩)
  unfold taxWQ taxWI; push_cast; linarith

theorem twtWQ_le (d : Doc) (hd : DocTI ret d) (G Gk : ℕ) : twtWQ d G Gk ≤ twtWI d G Gk := by
  have := total2WQ_le d hd.base; have := incWQ_le d hd Gk; have := taxWQ_le d hd G
  unfold twtWQ twtWI totalWQ totalWI; push_cast; linarith

theorem weightsQ_le_I (d : Doc) (hd : DocCI ret d) (G Gk : ℕ) : weightsQ d G Gk ≤ weightsI d G Gk := by
  have b0 := total2WQ_le d hd.tax.base
  have b1 := incWQ_le d hd.tax Gk
  have b2 := taxWQ_le d hd.tax G
  have b3 := twtWQ_le d hd.tax G Gk
  have b4 : advWQ d G Gk ≤ advWI d G Gk := by
    unfold advWQ advWI
    push_cast
    refine sum_le_length d.advances _ _ (fun a ha => ?_)
    have := advRowWQ_le (hd.advances a ha) _ (twtWQ_nonneg d G Gk)
    linarith
  refine ⟨le_rfl, adjWQ_le _ hd.tax.base.discounts _, adjWQ_le _ hd.tax.base.charges _, b1, ?_, b2, b3, b3, b4, ?_⟩
  · show totalWQ d Gk ≤ (totalWI d Gk : ℚ)
    unfold totalWQ totalWI; push_cast; linarith
  · show dueWQ d G Gk ≤ (dueWI d G Gk : ℚ)
    unfold dueWQ dueWI; push_cast; linarith

theorem weightsI_none (d : Doc) (h : d.includes = none) (G : ℕ) : weightsI d G 0 = weightsN d G := by
  have h1 : taxWI d G = taxW d G := by
    simp [taxWI, taxW, rowsWL, linesTaxW, adjTaxW, h, incB, Nat.add_assoc]
  have h2 : incWI d 0 = 0 := by simp [incWI, rowsWL, h, kN]
  simp [weightsI, weightsN, totalWI, twtWI, advWI, dueWI, twtW, advW, dueW, h1, h2]

theorem incGroupsT_none (t : Totals) : incGroupsT none t = 0 := by
  unfold incGroupsT incGroupsOf
  cases t.taxes <;> rfl

theorem weightsQ_le_N (d : Doc) (hd : DocC ret d) (t : Totals) :
    weightsQ d (groupsT t) (incGroupsT d.includes t) ≤ weightsN d (groupsT t) := by
  rw [hd.tax.inc, incGroupsT_none]; exact weightsI_none d hd.tax.inc _ ▸ weightsQ_le_I d hd.toCI _ 0

/-- `P` holds of every presented total (of those that are there), its exact value and its weight -/
structure ForTotals (P : ℚ → ℚ → ℚ → Prop) (t : Totals) (e : Spec.C01.TotalsQ) (W : Weights) : Prop where
  sum : P t.sum.toRat e.sum W.sum
  total : P t.total.toRat e.total W.total
  tax : P t.tax.toRat e.tax W.tax
  totalWithTax : P t.totalWithTax.toRat e.totalWithTax W.totalWithTax
  payable : P t.payable.toRat e.payable W.payable
  taxIncluded : ∀ x, t.taxIncluded = some x → P x.toRat e.taxIncluded W.taxIncluded
  discount : ∀ x, t.discount = some x → P x.toRat e.discount W.discount
  charge : ∀ x, t.charge = some x → P x.toRat e.charge W.charge
  advances : ∀ x, t.advances = some x → P x.toRat e.advances W.advances
  due : ∀ x, t.due = some x → P x.toRat e.due W.due

namespace ForTotals
variable {P : ℚ → ℚ → ℚ → Prop} {t : Totals} {e : Spec.C01.TotalsQ} {W : Weights}

/-- as the statements of Props/C01.lean spell it out -/
theorem and (H : ForTotals P t e W) :
    P t.sum.toRat e.sum W.sum ∧ P t.total.toRat e.total W.total ∧ P t.tax.toRat e.tax W.tax ∧
    P t.totalWithTax.toRat e.totalWithTax W.totalWithTax ∧ P t.payable.toRat e.payable W.payable ∧
    (∀ x, t.taxIncluded = some x → P x.toRat e.taxIncluded W.taxIncluded) ∧
    (∀ x, t.discount = some x → P x.toRat e.discount W.discount) ∧ (∀ x, t.charge = some x → P x.toRat e.charge W.charge) ∧
    (∀ x, t.advances = some x → P x.toRat e.advances W.advances) ∧ (∀ x, t.due = some x → P x.toRat e.due W.due) :=
  ⟨H.sum, H.total, H.tax, H.totalWithTax, H.payable, H.taxIncluded, H.discount, H.charge, H.advances, H.due⟩

/-- the statements about prices that do not include tax leave `tax_included` out -/
theorem andWithoutTaxIncluded (H : ForTotals P t e W) :
    P t.sum.toRat e.sum W.sum ∧ P t.total.toRat e.total W.total ∧ P t.tax.toRat e.tax W.tax ∧
    P t.totalWithTax.toRat e.totalWithTax W.totalWithTax ∧ P t.payable.toRat e.payable W.payable ∧
    (∀ x, t.discount = some x → P x.toRat e.discount W.discount) ∧ (∀ x, t.charge = some x → P x.toRat e.charge W.charge) ∧
    (∀ x, t.advances = some x → P x.toRat e.advances W.advances) ∧ (∀ x, t.due = some x → P x.toRat e.due W.due) :=
  ⟨H.sum, H.total, H.tax, H.totalWithTax, H.payable, H.discount, H.charge, H.advances, H.due⟩

theorem uniform {Q : ℚ → ℚ → Prop} {N : ℚ} (hW : W ≤ Weights.all N) (h : ∀ a q n, n ≤ N → P a q n → Q a q)
    (H : ForTotals P t e W) : ForTotals (fun a q _ => Q a q) t e W :=
  ⟨h _ _ _ hW.sum H.sum, h _ _ _ hW.total H.total, h _ _ _ hW.tax H.tax, h _ _ _ hW.totalWithTax H.totalWithTax,
    h _ _ _ hW.payable H.payable, fun x hx => h _ _ _ hW.taxIncluded (H.taxIncluded x hx),
    fun x hx => h _ _ _ hW.discount (H.discount x hx), fun x hx => h _ _ _ hW.charge (H.charge x hx),
    fun x hx => h _ _ _ hW.advances (H.advances x hx), fun x hx => h _ _ _ hW.due (H.due x hx)⟩

end ForTotals

theorem Working.presented {d : Doc} {w : Totals} {W : Weights} (h : Working d w W) :
    ForTotals (Within d.c) (roundTotals exactOps d.c w) (Spec.C01.exactQ d) W :=
  have ho := fun (o : Option Amount) (q n : ℚ) (ho : |optQ o - q| ≤ n * halfUlp (d.c + 2)) =>
    presented_some d.c o q n (fun y hy => by simpa [hy, optQ] using ho)
  ⟨presented_le _ _ _ _ h.sum, presented_le _ _ _ _ h.total, presented_le _ _ _ _ h.tax,
    presented_le _ _ _ _ h.totalWithTax, presented_le _ _ _ _ h.payable, ho _ _ _ h.taxIncluded,
    ho _ _ _ h.discount, ho _ _ _ h.charge, ho _ _ _ h.advances, presented_some d.c _ _ _ h.due⟩

theorem presented_each (ret : String → Bool) (d : Doc) (out : Out) (t : Totals) (hd : DocCI ret d)
    (hcalc : calculate exactOps d = .ok out) (ht : out.totals = some t) :
    ForTotals (Within d.c) t (Spec.C01.exactQ d) (weightsQ d (groupsT t) (incGroupsT d.includes t)) := by
  obtain ⟨w, rfl, h⟩ := calc_working ret d out _ hd hcalc ht
  exact h.presented

/-- for any `N` from the tight weight of the amount due (the largest, `weightsQ_le_due`) up: the explicit bound of
a class (`Props.C01.decided_class_bound*`) is this at `N = dueWQ`, `dueWI`, `dueW` -/
theorem presented_within (ret : String → Bool) (d : Doc) (out : Out) (t : Totals) (hd : DocCI ret d)
    (hcalc : calculate exactOps d = .ok out) (ht : out.totals = some t) (N : ℚ)
    (hN : dueWQ d (groupsT t) (incGroupsT d.includes t) ≤ N) :
    ForTotals (fun a q _ => Within d.c a q N) t (Spec.C01.exactQ d) (weightsQ d (groupsT t) (incGroupsT d.includes t)) :=
  (presented_each ret d out t hd hcalc ht).uniform (weightsQ_le_due d _ _ hN) fun _ _ _ => Within.mono

theorem presented_lt_unit (ret : String → Bool) (d : Doc) (out : Out) (t : Totals) (hd : DocCI ret d)
    (hcalc : calculate exactOps d = .ok out) (ht : out.totals = some t) (N : ℚ)
    (hN : dueWQ d (groupsT t) (incGroupsT d.includes t) ≤ N) (h100 : N < 100) :
    ForTotals (fun a q _ => |a - q| < 1 / ((pow10 d.c : ℤ) : ℚ)) t (Spec.C01.exactQ d)
      (weightsQ d (groupsT t) (incGroupsT d.includes t)) :=
  (presented_each ret d out t hd hcalc ht).uniform (weightsQ_le_due d _ _ hN)
    fun _ _ _ h H => H.lt_unit h h100

end Err
end Calc
end GoblVerif
