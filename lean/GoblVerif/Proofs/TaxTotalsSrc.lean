/-
  TaxTotalsSrc (proofs): helper lemmas for the `namespace Src` parts of
  Props/C20.lean and Props/C02.lean, which relate the definitions that go2lean
  regenerates from /repo/tax/totals.go (Generated/TaxTotalsSrc.lean) to the
  hand-written models (Model/Merge.lean with the faithful `num` operations,
  Model/Calc.lean over its rounding primitives).

  `f_*` / `c_*` say what the fields of the class `TaxTotals.NumOps` that the translated functions call are under
  the two instances (`faithfulOps`, `calcOps o`).  `Clone_eq`, `Negate_eq` (with the faithful operations) and the
  closed forms `round_eq`, `calcBase_eq`, `calcFinalSum_eq` (over ANY reading of the primitives) read loops that
  write through the range variable (Proofs/GoSemCursor.lean); the faithful reading of the closed forms is `Merge.calc*`
  (`Calculate_body_faithful`), their `calcOps o` reading is in Proofs/TaxTotalsCalc.lean.  `Merge_eq` and
  `rateTotalFor_write` read search loops with a found pointer (Proofs/GoSemList.lean): `mergeRate`, `mergeCategory`
  are `updFirst`, and the categories `rateTotalFor` leaves, also after a write of `g` through the pointer it returns,
  are `locate c zero g`, two nested `updFirst`.
-/
import GoblVerif.Generated.TaxTotalsSrc
import GoblVerif.Proofs.GoSemCursor
import GoblVerif.Proofs.Merge

namespace GoblVerif.Proofs.TaxTotalsSrc
open GoblVerif GoblVerif.Merge GoblVerif.TaxTotals GoblVerif.Generated GoblVerif.GoSem

/-! ## the two readings of the primitives -/

section
variable (p q : Pct) (a b : Amount) (e : Nat)
theorem f_add : @NumOps.add faithfulOps a b = a.add b := rfl
theorem f_sub : @NumOps.sub faithfulOps a b = a.sub b := rfl
theorem f_negate : @NumOps.negate faithfulOps a = a.negate := rfl
theorem f_rescale : @NumOps.rescale faithfulOps a e = a.rescale e := rfl
theorem f_matchPrecision : @NumOps.matchPrecision faithfulOps a b = a.matchPrecision b := rfl
theorem f_isZero : @NumOps.isZero faithfulOps a = (a.value == 0) := rfl
theorem f_pctOf : @NumOps.pctOf faithfulOps p a = p.of a := rfl
theorem f_pctEquals : @NumOps.pctEquals faithfulOps p q = p.equals q := rfl

variable (o : Calc.Ops)
theorem c_add : @NumOps.add (calcOps o) a b = Calc.add o a b := rfl
theorem c_sub : @NumOps.sub (calcOps o) a b = Calc.sub o a b := rfl
theorem c_negate : @NumOps.negate (calcOps o) a = Calc.neg a := rfl
theorem c_rescale : @NumOps.rescale (calcOps o) a e = o.rescale a e := rfl
theorem c_matchPrecision : @NumOps.matchPrecision (calcOps o) a b = Calc.up a b.exp := rfl
theorem c_isZero : @NumOps.isZero (calcOps o) a = (a.value == 0) := rfl
theorem c_pctOf : @NumOps.pctOf (calcOps o) p a = Calc.pctOf o p a := rfl
theorem c_pctEquals : @NumOps.pctEquals (calcOps o) p q = Calc.pctEq p q := rfl
end

/-! ## functions without a loop, and `Category` (a search loop) -/

theorem clone_eq (rt : RateTotal) : TaxTotalsSrc.RateTotal_clone rt = some rt := by
  unfold TaxTotalsSrc.RateTotal_clone
  rcases rt with ⟨k, c, e, b, p, s, a⟩
  cases s <;> rfl

/-- Go's exported `(*RateTotal).Matches(other *RateTotal)`, used by `Merge`: row against row -/
theorem Matches_eq (rt rt2 : RateTotal) : @TaxTotalsSrc.RateTotal_Matches faithfulOps rt rt2 = rt.matches rt2 := by
  rcases rt with ⟨k, c, e, b, p, s, a⟩
  rcases rt2 with ⟨k2, c2, e2, b2, p2, s2, a2⟩
  unfold TaxTotalsSrc.RateTotal_Matches RateTotal.matches
  dsimp +instances only [Id.run, f_pctEquals]
  cases extEquals e e2
  · rfl
  by_cases hc : c = c2
  · subst hc
    simp only [if_true, beq_self_eq_true]
    cases p <;> cases p2 <;> try rfl
    rename_i p p2
    dsimp +instances only [Option.get!_some]
    cases p.equals p2
    · rfl
    cases s <;> cases s2 <;> try rfl
    rename_i s s2
    dsimp +instances only [Option.get!_some]
    cases s.percent.equals s2.percent <;> rfl
  · simp [hc]; rfl

/-- the row `newRateTotal` makes -/
def newRT (c : TaxTotals.Combo) (zero : Amount) : RateTotal :=
  { key := c.rate, country := c.country, ext := c.ext, base := zero, percent := c.percent,
    surcharge := c.surcharge.map (fun s => { percent := s, amount := zero }), amount := zero }

theorem newRateTotal_eq (c : TaxTotals.Combo) (zero : Amount) :
    TaxTotalsSrc.newRateTotal c zero = some (newRT c zero) := by
  unfold TaxTotalsSrc.newRateTotal
  rcases c with ⟨cat, cn2, r, p2, s2, e2, ret⟩
  cases p2 <;> cases s2 <;> rfl

theorem newCategoryTotal_eq (c : TaxTotals.Combo) (zero : Amount) :
    TaxTotalsSrc.newCategoryTotal c zero = some
      { code := c.category, retained := c.retained, rates := [], amount := zero, surcharge := none, amountP := zero } := by
  rfl

theorem mrp_faithful (rr : String) (a b : Amount) :
    @TaxTotalsSrc.matchRoundingPrecision faithfulOps rr a b = Merge.matchRoundingPrecision (rr == "currency") a b := by
  unfold TaxTotalsSrc.matchRoundingPrecision Merge.matchRoundingPrecision
  by_cases h : rr = "currency" <;> simp [Id.run, id_pure, h, f_matchPrecision]

/-- the rounding rule behind a rule key, as far as `matchRoundingPrecision` tells them apart.  Model/CalcSrc.lean has
    a second `ruleOf`, for /repo/bill: it agrees on "currency" and "precise" and sends every other key to `.other`. -/
def ruleOf (rr : String) : Calc.Rule := if rr = "currency" then .currency else .precise

theorem mrp_calc (o : Calc.Ops) (rr : String) (a b : Amount) :
    @TaxTotalsSrc.matchRoundingPrecision (calcOps o) rr a b = Calc.mrp (ruleOf rr) a b := by
  unfold TaxTotalsSrc.matchRoundingPrecision Calc.mrp ruleOf
  by_cases h : rr = "currency" <;> simp [Id.run, id_pure, h, c_matchPrecision]

theorem preciseAmount_eq (o : Calc.Ops) (ct : Merge.CategoryTotal) :
    @TaxTotalsSrc.CategoryTotal_PreciseAmount (calcOps o) ct = (if ct.amountP.value != 0 then ct.amountP else ct.amount) := by
  unfold TaxTotalsSrc.CategoryTotal_PreciseAmount
  by_cases h : ct.amountP.value = 0 <;> simp [Id.run, id_pure, h, c_isZero]

theorem preciseSum_eq (o : Calc.Ops) (t : Merge.Total) :
    @TaxTotalsSrc.Total_PreciseSum (calcOps o) t = (if t.sumP.value != 0 then t.sumP else t.sum) := by
  unfold TaxTotalsSrc.Total_PreciseSum
  by_cases h : t.sumP.value = 0 <;> simp [Id.run, id_pure, h, c_isZero]

theorem category_eq (t : Total) (code : String) :
    TaxTotalsSrc.Total_Category t code = t.categories.find? (fun ct => ct.code == code) := by
  unfold TaxTotalsSrc.Total_Category
  simp only [forIn_list_id, pure_bind]
  simp only [Id.run, id_pure]
  rw [forList_return (·.code = code) some _ (fun _ => rfl)]
  simp only [Bool.beq_eq_decide_eq]
  cases t.categories.find? (fun ct => decide (ct.code = code)) <;> rfl

/-! ## the records of Model/Calc.lean -/

/-- a rate group of Model/Merge.lean as one of Model/Calc.lean; `enc` is the canonical text of an extension map -/
def toCalcRT (enc : List (String × String) → String) (rt : Merge.RateTotal) : Calc.RateTotal :=
  { key := rt.key, country := rt.country, ext := enc rt.ext, base := rt.base, percent := rt.percent,
    surcharge := rt.surcharge.map (fun s => (s.percent, s.amount)), amount := rt.amount }

def toCalcCat (enc : List (String × String) → String) (ct : Merge.CategoryTotal) : Calc.CatTotal :=
  { code := ct.code, retained := ct.retained, rates := ct.rates.map (toCalcRT enc), amount := ct.amount,
    surcharge := ct.surcharge, precise := ct.amountP }

def toCalcTotal (enc : List (String × String) → String) (t : Merge.Total) : Calc.TaxTotal :=
  { cats := t.categories.map (toCalcCat enc), sum := t.sum, preciseSum := t.sumP }

def toCalcCombo (enc : List (String × String) → String) (c : TaxTotals.Combo) : Calc.Combo :=
  { cat := c.category, country := c.country, key := c.rate, percent := c.percent, surcharge := c.surcharge,
    ext := enc c.ext, retained := c.retained }

/-- Go's unexported `(*RateTotal).matches(c *Combo)`, used by `rateTotalFor`: row against the combo of a line -/
theorem matches_calc (o : Calc.Ops) (enc : List (String × String) → String)
    (rt : Merge.RateTotal) (c : TaxTotals.Combo) (henc : enc rt.ext = enc c.ext → rt.ext = c.ext) :
    @TaxTotalsSrc.RateTotal_matches (calcOps o) rt c = Calc.rtMatches (toCalcRT enc rt) (toCalcCombo enc c) := by
  rcases rt with ⟨k, cn, e, b, p, s, a⟩
  rcases c with ⟨cat, cn2, r, p2, s2, e2, ret⟩
  have he : (enc e != enc e2) = !(extEquals e e2) := by
    unfold extEquals
    by_cases h : e = e2
    · subst h; simp
    · have h1 : (enc e != enc e2) = true := bne_iff_ne.mpr fun h' => h (henc h')
      have h2 : (e == e2) = false := beq_eq_false_iff_ne.mpr h
      rw [h1, h2]; rfl
  unfold TaxTotalsSrc.RateTotal_matches Calc.rtMatches toCalcRT toCalcCombo
  dsimp +instances only [Id.run, c_pctEquals]
  rw [he]
  cases extEquals e e2
  · rfl
  by_cases hc : cn = cn2
  · subst hc
    simp only [bne_self_eq_false, Bool.not_true, Bool.false_eq_true, if_false, not_true_eq_false, ne_eq]
    cases p <;> cases p2 <;> try rfl
    cases s <;> cases s2 <;> try rfl
    rename_i sp sq
    dsimp +instances only [Option.get!_some, Option.map_some]
    cases Calc.pctEq sp.percent sq <;> rfl
  · simp [hc]; rfl

/-! ## nil summaries -/

theorem Clone_none : TaxTotalsSrc.Total_Clone none = none := by
  unfold TaxTotalsSrc.Total_Clone; simp [Id.run, id_pure]

theorem Negate_none [NumOps] : TaxTotalsSrc.Total_Negate none = none := by
  unfold TaxTotalsSrc.Total_Negate; simp [Id.run, id_pure]

/-! ## `Clone`, `Negate` for summaries of any shape -/

/-- what the translation emits after every write through a cursor into `n.Categories` -/
abbrev putCat (i : Nat) (n : Total) (c : CategoryTotal) : Total := ⟨n.categories.set i c, n.sum, n.sumP⟩

theorem putCat_putCat (i : Nat) (n : Total) (a b : CategoryTotal) : putCat i (putCat i n a) b = putCat i n b := by
  simp [putCat, List.set_set]

theorem Clone_eq (t : Total) : TaxTotalsSrc.Total_Clone (some t) = some t := by
  unfold TaxTotalsSrc.Total_Clone
  simp only [forIn_list_id, pure_bind]
  simp only [Id.run, id_pure, ite_yield_id, forList_fold, clone_eq, Int.toNat_natCast, Option.get!_some,
    Option.isNone_some, Bool.false_eq_true, if_false]
  rw [foldl_fill (fun cats => (⟨cats, default, default⟩ : Total)) _ id ?h t.categories _ (by simp)]
  case h =>
    intro acc ⟨cd, ret, rs, am, su, ap⟩ i hi
    simp only [getBang_set, hi, List.set_set]
    cases su <;>
    · simp only [Option.isSome_none, Option.isSome_some, Bool.false_eq_true, if_false, if_true, Option.get!_some]
      rw [foldl_fill (fun rs' => (⟨acc.set i ⟨cd, ret, rs', am, _, ap⟩, default, default⟩ : Total)) _ id
        (by intro rs' y j hj; simp [hi, List.set_set]) rs _ (by simp)]
      simp
  simp

theorem Negate_eq (t : Total) : @TaxTotalsSrc.Total_Negate faithfulOps (some t) = some t.negate := by
  unfold TaxTotalsSrc.Total_Negate
  rw [Clone_eq]
  simp only [forIn_list_id, pure_bind]
  simp only [Id.run, id_pure, List.set_set, ite_yield_id, forList_fold, Option.get!_some,
    Option.isNone_some, Bool.false_eq_true, if_false, f_negate]
  rw [foldl_cursor_via (fun cats => (⟨cats, t.sum, t.sumP⟩ : Total)) _ CategoryTotal.negate ?h t.categories]
  case h =>
    intro acc x i
    rcases x with ⟨cd, ret, rs, am, su, ap⟩
    cases su <;>
    · simp only [Option.isSome_none, Option.isSome_some, Bool.false_eq_true, if_false, if_true, Option.get!_some]
      rw [(foldl_inner_cursor (N := Total) (C := CategoryTotal)
        (putCat i) (putCat_putCat i)
        (fun c p => { c with rates := c.rates.set p.2 p.1.negate }) _ ?h2
        (fun rs' => ⟨cd, ret, rs', am.negate, _, ap.negate⟩) RateTotal.negate (by intro acc x j; rfl) rs ⟨acc, t.sum, t.sumP⟩).1]
      case h2 =>
        intro n c p
        rcases p with ⟨⟨k, cn, e, b, pc, su, a⟩, j⟩
        cases su <;> simp [RateTotal.negate]
      simp [CategoryTotal.negate]
  simp [Total.negate, Total.clone]

/-- a summary with one category that has one rate group -/
def oneRow (cd : String) (ret : Bool) (r : RateTotal) (am : Amount) (su : Option Amount) (ap s sp : Amount) : Total :=
  ⟨[⟨cd, ret, [r], am, su, ap⟩], s, sp⟩

theorem Clone_empty (s sp : Amount) : TaxTotalsSrc.Total_Clone (some ⟨[], s, sp⟩) = some ⟨[], s, sp⟩ :=
  Clone_eq _

theorem Negate_oneRow (cd : String) (ret : Bool) (r : RateTotal) (am : Amount) (su : Option Amount) (ap s sp : Amount) :
    @TaxTotalsSrc.Total_Negate faithfulOps (some (oneRow cd ret r am su ap s sp)) = some (oneRow cd ret r am su ap s sp).negate :=
  Negate_eq _

/-! ## `Merge` for summaries of any shape: search loops with a found pointer -/

theorem append_rates_fold (n : Total) (c : CategoryTotal) (l : List RateTotal) :
    List.foldl (fun (s : Total × Option CategoryTotal) (x : RateTotal) =>
      (s.fst, some ({ s.snd.get! with rates := s.snd.get!.rates ++ [x] } : CategoryTotal))) (n, some c) l
    = (n, some { c with rates := c.rates ++ l }) := by
  induction l generalizing c with
  | nil => simp
  | cons a l ih => simp [ih]

/-- one round of the loop over the second operand's rates in the `else` branch of `Merge`, on the
    state (result so far, found category): the category's rates take the rate in (`mergeRate`), and the
    category is written back at its place `j` -/
def mergeRateStep (j : Nat) (s : Total × Option CategoryTotal) (rt : RateTotal) : Total × Option CategoryTotal :=
  (putCat j s.1 { s.2.get! with rates := mergeRate s.2.get!.rates rt },
    some { s.2.get! with rates := mergeRate s.2.get!.rates rt })

theorem mergeRateStep_fold (j : Nat) (n : Total) (c : CategoryTotal) (l : List RateTotal) :
    (l.foldl (mergeRateStep j) (putCat j n c, some c)).1 = putCat j n { c with rates := mergeRates c.rates l } := by
  refine ((foldl_shadow (N := Total) (C := Option CategoryTotal)
    (fun n oc => putCat j n oc.get!) (fun n a b => putCat_putCat j n _ _)
    (fun oc rt => some { oc.get! with rates := mergeRate oc.get!.rates rt }) (mergeRateStep j)
    (fun _ _ _ => rfl) l n (some c)).2.2).trans ?_
  rw [List.foldl_hom (fun rs => some ({ c with rates := rs } : CategoryTotal)) (g₁ := mergeRate) (fun _ _ => rfl)]
  rfl

/-- Every `if p_at != nil` write-back doubles the branches of the normalised term.  So the translation is executed
    step by step: a loop is rewritten where it stands (`forIn_foldl`, `forIn_found`, the body's reading left as a
    side goal), and the write-backs are evaluated by `dsimp` only after the search that sets the pointer has been
    replaced by its result. -/
theorem Merge_eq (t t2 : Total) : @TaxTotalsSrc.Total_Merge faithfulOps (some t) t2 = some (t.merge t2) := by
  unfold TaxTotalsSrc.Total_Merge
  rw [Clone_eq]
  extract_lets -underBinder nt
  rw [forIn_foldl _ _ _ (fun (nt : Total) ct => { nt with categories := mergeCategory nt.categories ct }) ?h]
  case h =>
    intro ⟨cd, ret, rs, am, su, ap⟩ nt
    extract_lets -underBinder nt ct catTotal catTotal_at
    rw [show catTotal = none from rfl, show catTotal_at = none from rfl,
      forIn_found (fun (m : CategoryTotal) => m.code = ct.code) (·.code == ct.code) (fun _ => beq_iff_eq) _ (fun _ _ => rfl)]
    rcases find?_cases (·.code == ct.code) nt.categories with ⟨hf, -, hu⟩ | ⟨pre, m, post, hl, -, -, hf, hi, hu⟩
    · rw [hf, pure_bind]
      dsimp only [Option.isNone_none, Option.get!_some]
      rw [if_pos rfl, mergeCategory_eq, upsert, hu]
      have hr : ∀ c0 : CategoryTotal, forIn ct.rates (nt, some c0) (fun it7 (s : Total × Option CategoryTotal) =>
          (pure (ForInStep.yield (s.fst, some { s.snd.get! with rates := s.snd.get!.rates ++ [(TaxTotalsSrc.RateTotal_clone it7).get!] })) : Id _))
          = pure (nt, some { c0 with rates := c0.rates ++ ct.rates }) := fun c0 => by
        rw [forIn_foldl _ _ _ (fun s x => (s.fst, some { s.snd.get! with rates := s.snd.get!.rates ++ [x] }))
          (fun x s => by rw [clone_eq]; rfl), append_rates_fold]
      rw [hr, hr]
      cases su <;> rfl
    · rw [hf, hi, Nat.zero_add, pure_bind]
      dsimp +instances only [Option.isNone_some, Option.get!_some]
      rw [if_neg (by decide), ite_bind_forIn, ite_bind_forIn, forIn_foldl _ _ _ (mergeRateStep pre.length) ?hb]
      case hb =>
        intro rt s
        rw [forIn_found (fun (m : RateTotal) => m.matches rt = true) (·.matches rt) (fun _ => Iff.rfl) _
          (fun _ _ => by rw [Matches_eq])]
        rcases find?_cases (·.matches rt) s.snd.get!.rates with ⟨hf, -, hu⟩ | ⟨rpre, rm, rpost, hl, -, -, hf, hi, hu⟩
        · rw [hf, pure_bind]
          dsimp only [Option.isNone_none]
          rw [if_pos rfl, clone_eq, mergeRateStep, mergeRate_eq, upsert, hu]; rfl
        · rw [hf, hi, pure_bind]
          dsimp +instances only [Option.isNone_some, Option.get!_some]
          rw [if_neg (by decide), mergeRateStep, mergeRate_eq, upsert, hu]
          simp only [List.set_set, hl, Nat.zero_add]
          rcases rt with ⟨k1, c1, e1, b1, p1, rsu, a1⟩
          rcases rm with ⟨k2, c2, e2, b2, p2, msu', a2⟩
          cases rsu <;> cases msu' <;> simp [RateTotal.absorb, f_add]
      rw [pure_bind]
      rcases m with ⟨mcd, mret, mrs, mam, msu, map⟩
      cases su <;> cases msu <;>
      · simp only [Option.isSome_none, Option.isSome_some, Bool.false_eq_true, if_false, if_true, Option.get!_some,
          List.set_set, ct]
        rw [mergeRateStep_fold, putCat, mergeCategory_eq, upsert, hu, hl]
        simp [CategoryTotal.absorb, f_add, nt]
  rw [pure_bind, show nt = ⟨t.categories, t.sum, t.sumP⟩ from rfl,
    List.foldl_hom (fun cats => (⟨cats, t.sum, t.sumP⟩ : Total)) (g₁ := mergeCategory) (fun _ _ => rfl)]
  rfl

/-! ## `round`, `calculateBaseCategoryTotal`, `calculateFinalSum`, `rateTotalFor`: what they compute, over ANY reading of the primitives -/

/-- `Total.round` on one rate group, over any reading of the primitives -/
def roundRateG [NumOps] (e : Nat) (rt : RateTotal) : RateTotal :=
  { rt with
    amount := NumOps.rescale rt.amount e
    base := NumOps.rescale rt.base e
    surcharge := rt.surcharge.map fun s => { s with amount := NumOps.rescale s.amount e } }

/-- `Total.round` on one category -/
def roundCatG [NumOps] (e : Nat) (ct : CategoryTotal) : CategoryTotal :=
  { ct with
    rates := ct.rates.map (roundRateG e)
    amountP := ct.amount
    amount := NumOps.rescale ct.amount e
    surcharge := ct.surcharge.map (NumOps.rescale · e) }

theorem round_eq [NumOps] (t : Total) (zero : Amount) :
    TaxTotalsSrc.Total_round t zero =
      ((), ⟨t.categories.map (roundCatG zero.exp), NumOps.rescale t.sum zero.exp, t.sum⟩) := by
  unfold TaxTotalsSrc.Total_round
  simp only [forIn_list_id, pure_bind]
  simp only [Id.run, id_pure, List.set_set, ite_yield_id, forList_fold]
  rw [foldl_cursor_via (fun cats => (⟨cats, t.sum, t.sumP⟩ : Total)) _ (roundCatG zero.exp) ?h t.categories]
  case h =>
    intro acc x i
    dsimp only
    generalize hR : List.foldl _ (_, x) x.rates.zipIdx = R
    have h23 : R.2 = { x with rates := x.rates.map (roundRateG zero.exp) } ∧
        ∀ d, putCat i R.1 d = putCat i ⟨acc, t.sum, t.sumP⟩ d := by
      rw [← hR]
      exact (foldl_inner_cursor (N := Total) (C := CategoryTotal)
        (putCat i) (putCat_putCat i)
        (fun c p => { c with rates := c.rates.set p.2 (roundRateG zero.exp p.1) }) _
        (by
          intro n c p
          rcases p with ⟨⟨k, cn, e, b, pc, su, a⟩, j⟩
          cases su <;> simp [roundRateG])
        (fun rs' => { x with rates := rs' }) (roundRateG zero.exp) (by intro acc x j; rfl) x.rates ⟨acc, t.sum, t.sumP⟩).2
    simp only [h23.1, h23.2]
    rcases x with ⟨cd, ret, rs, am, su, ap⟩
    cases su <;> simp [roundCatG]

/-- the rate part of `calculateBaseCategoryTotal`, over any reading of the primitives -/
def rateAmountsG [NumOps] (zero : Amount) (rt : RateTotal) : RateTotal :=
  match rt.percent with
  | none => { rt with amount := zero }
  | some p =>
    { rt with
      amount := NumOps.pctOf p rt.base
      surcharge := rt.surcharge.map fun s => { s with amount := NumOps.pctOf s.percent rt.base } }

/-- what one rate group adds to (category amount, category surcharge) in `calculateBaseCategoryTotal` -/
def catAccG [NumOps] (zero : Amount) (rr : String) (s : Amount × Option Amount) (rt : RateTotal) : Amount × Option Amount :=
  match rt.percent with
  | none => s
  | some p =>
    (NumOps.add (TaxTotalsSrc.matchRoundingPrecision rr s.1 (NumOps.pctOf p rt.base)) (NumOps.pctOf p rt.base),
     match rt.surcharge with
     | none => s.2
     | some su =>
       some (NumOps.add (TaxTotalsSrc.matchRoundingPrecision rr (s.2.getD zero) (NumOps.pctOf su.percent rt.base))
         (NumOps.pctOf su.percent rt.base)))

/-- `calculateBaseCategoryTotal` on a category, over any reading of the primitives -/
def calcCatG [NumOps] (zero : Amount) (rr : String) (ct : CategoryTotal) : CategoryTotal :=
  { ct with
    rates := ct.rates.map (rateAmountsG zero)
    amount := (ct.rates.foldl (catAccG zero rr) (zero, none)).1
    surcharge := (ct.rates.foldl (catAccG zero rr) (zero, none)).2 }

theorem calcBase_eq [NumOps] (t : Total) (ct : CategoryTotal) (zero : Amount) (rr : String) :
    TaxTotalsSrc.Total_calculateBaseCategoryTotal t ct zero rr = ((), calcCatG zero rr ct) := by
  unfold TaxTotalsSrc.Total_calculateBaseCategoryTotal
  simp only [forIn_list_id, pure_bind]
  simp only [Id.run, id_pure, List.set_set, ite_yield_id, forList_fold]
  rw [foldl_cursor_acc' (σ := Amount × Option Amount)
    (fun rs s => (⟨ct.code, ct.retained, rs, s.1, s.2, ct.amountP⟩ : CategoryTotal)) _
    (fun _ => rateAmountsG zero) (catAccG zero rr) ?h ct.rates (zero, none)]
  case h =>
    intro acc s x i
    rcases x with ⟨k, cn, e, b, pc, su, a⟩
    rcases s with ⟨s1, s2⟩
    cases pc <;> cases su <;> cases s2 <;> rfl
  rw [mapAcc_const]; rfl

/-- what one (calculated) category adds to the sum in `calculateFinalSum` -/
def sumAccG [NumOps] (rr : String) (s : Amount) (ct : CategoryTotal) : Amount :=
  if ct.retained = true then
    match ct.surcharge with
    | some x => NumOps.sub (NumOps.sub (TaxTotalsSrc.matchRoundingPrecision rr s ct.amount) ct.amount) x
    | none => NumOps.sub (TaxTotalsSrc.matchRoundingPrecision rr s ct.amount) ct.amount
  else
    match ct.surcharge with
    | some x => NumOps.add (NumOps.add (TaxTotalsSrc.matchRoundingPrecision rr s ct.amount) ct.amount) x
    | none => NumOps.add (TaxTotalsSrc.matchRoundingPrecision rr s ct.amount) ct.amount

theorem calcFinalSum_eq [NumOps] (t : Total) (zero : Amount) (rr : String) :
    TaxTotalsSrc.Total_calculateFinalSum t zero rr =
      ((), ⟨t.categories.map (calcCatG zero rr), (t.categories.map (calcCatG zero rr)).foldl (sumAccG rr) zero, t.sumP⟩) := by
  unfold TaxTotalsSrc.Total_calculateFinalSum
  simp only [forIn_list_id, pure_bind]
  simp only [Id.run, id_pure, ite_yield_id, forList_fold, calcBase_eq]
  rw [foldl_cursor_acc' (σ := Amount)
    (fun cats s => (⟨cats, s, t.sumP⟩ : Total)) _
    (fun _ => calcCatG zero rr) (fun s ct => sumAccG rr s (calcCatG zero rr ct)) ?h t.categories zero]
  case h =>
    intro acc s x i
    generalize calcCatG zero rr x = y
    rcases y with ⟨cd, ret, rs, am, su, ap⟩
    cases ret <;> cases su <;> rfl
  rw [mapAcc_const, List.foldl_map]

/-- the category `rateTotalFor` appends when none has the combo's code -/
def newCT (c : TaxTotals.Combo) (zero : Amount) : CategoryTotal :=
  ⟨c.category, c.retained, [newRT c zero], zero, none, zero⟩

/-- the categories after `rateTotalFor` and a write of `g` through the pointer it returns (`id`: `rateTotalFor` alone) -/
def locate [NumOps] (c : TaxTotals.Combo) (zero : Amount) (g : RateTotal → RateTotal) : List CategoryTotal → List CategoryTotal :=
  updFirst (fun ct => ct.code = c.category)
    (fun ct => { ct with rates := updFirst (TaxTotalsSrc.RateTotal_matches · c) g [g (newRT c zero)] ct.rates })
    [{ newCT c zero with rates := [g (newRT c zero)] }]

/-- the row a pointer to which `rateTotalFor` returns -/
def findRow [NumOps] (c : TaxTotals.Combo) (cats : List CategoryTotal) : Option RateTotal :=
  (cats.find? (fun ct => ct.code = c.category)).bind (fun ct => ct.rates.find? (fun rt => TaxTotalsSrc.RateTotal_matches rt c))

/-- write `v` at the index path `(i, j)`: what the translation emits after a write through the returned pointer -/
def setAt (i j : Nat) (v : RateTotal) (cats : List CategoryTotal) : List CategoryTotal :=
  cats.set i { (cats[i]!) with rates := (cats[i]!).rates.set j v }

theorem setAt_setAt (i j : Nat) (v w : RateTotal) (cats : List CategoryTotal) :
    setAt i j w (setAt i j v cats) = setAt i j w cats := by
  unfold setAt
  by_cases h : i < cats.length
  · simp [h, List.set_set]
  · have h' : cats.length ≤ i := Nat.le_of_not_lt h
    simp [List.set_eq_of_length_le h']

/-- `rateTotalFor`, the index path its twin reports (the twin has the same body), the row at that path and a write
    to it, by ONE reading of the two search loops.  `hnew`: the appended row is the one the combo `matches`. -/
theorem rateTotalFor_write [NumOps] (t : Total) (c : TaxTotals.Combo) (zero : Amount)
    (hnew : TaxTotalsSrc.RateTotal_matches (newRT c zero) c = true) :
    ∃ i j row, TaxTotalsSrc.Total_rateTotalFor_at t c zero = (some i, some j) ∧
      TaxTotalsSrc.Total_rateTotalFor t c zero = (some row, ⟨locate c zero id t.categories, t.sum, t.sumP⟩) ∧
      findRow c (locate c zero id t.categories) = some row ∧
      ∀ g, setAt i j (g row) (locate c zero id t.categories) = locate c zero g t.categories := by
  unfold TaxTotalsSrc.Total_rateTotalFor TaxTotalsSrc.Total_rateTotalFor_at locate findRow
  simp only [forIn_list_id, pure_bind]
  simp only [Id.run, id_pure, newRateTotal_eq, newCategoryTotal_eq, Option.get!_some]
  rw [forList_found (fun m : CategoryTotal => m.code = c.category) _ (fun _ => decide_eq_true_iff) _ (fun _ => rfl)]
  rcases find?_cases (fun m : CategoryTotal => decide (m.code = c.category)) t.categories with
    ⟨hf, hno, hu⟩ | ⟨pre, m, post, hl, hpre, hm, hf, hi, hu⟩
  · simp only [hf, hu, Option.isNone_none, if_true, List.zipIdx_nil, forList]
    refine ⟨_, _, newRT c zero, rfl, by simp [newRT, newCT], ?_, fun g => by simp [setAt, newRT, newCT]⟩
    rw [List.find?_append, List.find?_eq_none.mpr hno]
    simp [newCT, hnew]
  · simp only [hf, hi, hu, Option.isNone_some, Bool.false_eq_true, if_false, Option.get!_some, Nat.zero_add]
    rw [find?_found hpre (by simpa using hm),
      forList_found (fun r : RateTotal => TaxTotalsSrc.RateTotal_matches r c = true) _ (fun _ => Iff.rfl) _ (fun _ => rfl)]
    rcases find?_cases (TaxTotalsSrc.RateTotal_matches · c) m.rates with
      ⟨rf, rno, ru⟩ | ⟨rpre, rm, rpost, rl, rpreh, rmh, rf, ri, ru⟩
    · simp only [rf, ru, Option.isNone_none, if_true]
      exact ⟨_, _, newRT c zero, rfl, by simp [newRT, hl], by simp [List.find?_eq_none.mpr rno, hnew],
        fun g => by simp [setAt, newRT]⟩
    · simp only [rf, ri, ru, Option.isNone_some, Bool.false_eq_true, if_false]
      exact ⟨_, _, rm, rfl, by simp [← rl, ← hl], by simp [find?_found rpreh rmh], fun g => by simp [setAt]⟩

theorem rateTotalFor_eq [NumOps] (t : Total) (c : TaxTotals.Combo) (zero : Amount)
    (hnew : TaxTotalsSrc.RateTotal_matches (newRT c zero) c = true) :
    ∃ row, TaxTotalsSrc.Total_rateTotalFor t c zero = (some row, ⟨locate c zero id t.categories, t.sum, t.sumP⟩) :=
  let ⟨_, _, row, _, h, _⟩ := rateTotalFor_write t c zero hnew
  ⟨row, h⟩

/-! ## the closed forms read with the faithful operations = Model/Merge.lean -/

theorem roundCatG_faithful (e : Nat) : @roundCatG faithfulOps e = Merge.roundCategory e := rfl

theorem calcRate_fold (rr : String) (zero : Amount) (l : List RateTotal) (done : List RateTotal) (a : Amount) (s : Option Amount) :
    l.foldl (Merge.calcRate (rr == "currency") zero) (done, a, s) =
      (done ++ l.map (@rateAmountsG faithfulOps zero),
        (l.foldl (@catAccG faithfulOps zero rr) (a, s)).1, (l.foldl (@catAccG faithfulOps zero rr) (a, s)).2) := by
  induction l generalizing done a s with
  | nil => simp
  | cons x l ih =>
    rcases x with ⟨k, cn, e, b, pc, su, am⟩
    cases pc <;> cases su <;>
      simp [Merge.calcRate, ih, rateAmountsG, catAccG, mrp_faithful, f_add, f_pctOf]

theorem calcCatG_faithful (zero : Amount) (rr : String) (ct : CategoryTotal) :
    @calcCatG faithfulOps zero rr ct = Merge.calcCategory (rr == "currency") zero ct := by
  unfold Merge.calcCategory calcCatG
  rw [calcRate_fold]; simp

theorem sumStep_fold (rr : String) (zero : Amount) (l : List CategoryTotal) (done : List CategoryTotal) (a : Amount) :
    l.foldl (Merge.calcSumStep (rr == "currency") zero) (done, a) =
      (done ++ l.map (@calcCatG faithfulOps zero rr), (l.map (@calcCatG faithfulOps zero rr)).foldl (@sumAccG faithfulOps rr) a) := by
  induction l generalizing done a with
  | nil => simp
  | cons x l ih =>
    simp only [List.foldl_cons, List.map_cons, Merge.calcSumStep, ← calcCatG_faithful, ih]
    generalize @calcCatG faithfulOps zero rr x = y
    rcases y with ⟨cd, ret, rs, am, su, ap⟩
    cases ret <;> cases su <;> simp [sumAccG, mrp_faithful, f_add, f_sub]

/-- `calculateFinalSum` followed by `round` (the body of `Total.Calculate` after the nil test and the
    zero of the currency), read with the faithful operations, is `Total.calculate` of Model/Merge.lean -/
theorem Calculate_body_faithful (t : Total) (e : Nat) (rr : String) :
    (@TaxTotalsSrc.Total_round faithfulOps (@TaxTotalsSrc.Total_calculateFinalSum faithfulOps t ⟨0, e⟩ rr).2 ⟨0, e⟩).2 =
      t.calculate e (rr == "currency") := by
  rw [@calcFinalSum_eq faithfulOps, @round_eq faithfulOps]
  unfold Merge.Total.calculate
  simp only [sumStep_fold, roundCatG_faithful, f_rescale, List.nil_append]

end GoblVerif.Proofs.TaxTotalsSrc
