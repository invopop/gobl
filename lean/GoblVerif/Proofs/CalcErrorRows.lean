/-
  Error bounds against the rational no-rounding pipeline `Spec.C01.exactQ`
  (C01), row by row: document and line discounts and charges, lines, what
  `pre` hands to the tax summary, advances and due dates; each stage a
  composition of the closure lemmas of Proofs/CalcError.lean.

  Everything is counted in units of `halfUlp (c + 2)` (half a unit of the
  working precision: currency + 2 decimals); the weights (`Spec/C01.lean`)
  count the rounding points that can contribute.  A row that is a percentage
  carries the error of what it is a percentage of multiplied by |percentage|
  (the rational weights `adjRowWQ`, `advRowWQ`); bounding every percentage by
  100 % gives the integer weights (`adjRowWQ_le`, `advRowWQ_le`).
-/
import GoblVerif.Proofs.CalcErrorTax

namespace GoblVerif
open GoblVerif.Spec GoblVerif.Calc
namespace Calc
/- this file declares into `GoblVerif.Calc.Err` (the names are generic; other `Calc` proof files share the
   parent namespace), except the closed-form vocabulary `SimpleLine`, `lineExact`, `PctOnly`, `pctQ`, whose
   names in `GoblVerif.Calc` the statements of Props/C01.lean use -/
namespace Err

/-! ## document discounts and charges -/

/-- a document-level discount / charge of the covered class: a non-zero percentage of at most
100 % of the document sum or of an explicit base (base with at most currency + 2 decimals), or a
fixed amount (no percentage, or a zero one) with at most currency + 2 decimals -/
def DocAdjOk (c : ℕ) (x : DocAdj) : Prop :=
  (∃ p, x.percent = some p ∧ pctIsZero p = false ∧ |p.amount.toRat| ≤ 1 ∧
    (x.base = none ∨ ∃ b, x.base = some b ∧ b.exp ≤ c + 2)) ∨
  ((x.percent = none ∨ ∃ p, x.percent = some p ∧ pctIsZero p = true) ∧ x.amount.exp ≤ c + 2)

/-! ### the three kinds of document discount / charge: what is stored, its exact value, its weight -/

/-- `Spec/C01.lean` writes out what the model calls `pctIsZero` -/
theorem beq_zero_eq_pctIsZero (p : Pct) : (p.amount.value == 0) = pctIsZero p := rfl

/-- what `docAdj` stores for the row `x`, its exact value on the exact sum, and its weight -/
structure DocAdjIs (x : DocAdj) (stored : ℕ → Amount → Amount) (exact : ℚ → ℚ) (weight : ℕ → ℚ) : Prop where
  amount : ∀ c sum, (docAdj exactOps .precise c sum x).amount = stored c sum
  exact : ∀ S, Spec.C01.docAdjQ S x = exact S
  weight : ∀ W, adjRowWQ W x = weight W

theorem docAdj_fixed {x : DocAdj} (h : x.percent = none ∨ ∃ p, x.percent = some p ∧ pctIsZero p = true) :
    DocAdjIs x (fun c _ => up x.amount c) (fun _ => x.amount.toRat) (fun _ => 0) := by
  rcases h with hp | ⟨p, hp, hz⟩
  · constructor <;> simp [docAdj, Spec.C01.docAdjQ, adjRowWQ, adjL, adjR, hp, applyRule]
  · constructor <;> simp [docAdj, Spec.C01.docAdjQ, adjRowWQ, adjL, adjR, hp, hz, beq_zero_eq_pctIsZero, applyRule]

theorem docAdj_ofSum {x : DocAdj} {p : Pct} (hp : x.percent = some p) (hz : pctIsZero p = false) (hb : x.base = none) :
    DocAdjIs x (fun c sum => up (sum.mulX p.amount) c) (· * p.amount.toRat) (fun W => 1 + |p.amount.toRat| * W) := by
  constructor <;> simp [docAdj, Spec.C01.docAdjQ, adjRowWQ, adjL, adjR, hp, hz, hb, beq_zero_eq_pctIsZero, applyRule,
    pctOf, Spec.C01.pq, pctA_eq]

theorem docAdj_ofBase {x : DocAdj} {p : Pct} {b : Amount} (hp : x.percent = some p) (hz : pctIsZero p = false)
    (hb : x.base = some b) :
    DocAdjIs x (fun c _ => up ((up (up b (c + E)) c).mulX p.amount) c) (fun _ => b.toRat * p.amount.toRat) (fun _ => 1) := by
  constructor <;> simp [docAdj, Spec.C01.docAdjQ, adjRowWQ, adjL, adjR, hp, hz, hb, beq_zero_eq_pctIsZero, applyRule,
    pctOf, Spec.C01.pq]

theorem adjRowWQ_nonneg (s : ℕ) (x : DocAdj) : 0 ≤ adjRowWQ s x := by
  unfold adjRowWQ adjR adjL
  cases x.percent with
  | none => simp
  | some p =>
    have := pctA_nonneg p
    cases pctIsZero p <;> cases x.base <;> simp <;> positivity

theorem adjRowWQ_le {c : ℕ} {x : DocAdj} (hx : DocAdjOk c x) (s : ℕ) : adjRowWQ s x ≤ 1 + s := by
  rcases hx with ⟨p, hp, hz, hle, hb | ⟨b, hb, _⟩⟩ | ⟨hp, _⟩
  · rw [(docAdj_ofSum hp hz hb).weight]
    have := mul_le_of_le_one_left (Nat.cast_nonneg (α := ℚ) s) hle
    linarith
  · rw [(docAdj_ofBase hp hz hb).weight]; simp
  · rw [(docAdj_fixed hp).weight]; positivity

theorem docAdj_approx {c M : ℕ} {sum : Amount} {S : ℚ} {W : ℕ} (x : DocAdj) (hx : DocAdjOk c x)
    (hs : Approx c M sum S W) (hf : c + 2 ≤ sum.exp) :
    Approx c M (docAdj exactOps .precise c sum x).amount (Spec.C01.docAdjQ S x) (adjRowWQ W x) := by
  have hM : c + 2 ≤ M := hf.trans hs.exp_le
  rcases hx with ⟨p, hp, hz, _, hb | ⟨b, hb, hbe⟩⟩ | ⟨hp, he⟩
  · have h := docAdj_ofSum hp hz hb
    rw [h.amount, h.exact, h.weight]
    exact (hs.mul hf _).up (by omega)
  · have h := docAdj_ofBase hp hz hb
    rw [h.amount, h.exact, h.weight]
    exact ((((Approx.exact (hbe.trans hM)).up (by unfold E; omega)).up (by omega)).mul (by rw [up_exp, up_exp]; unfold E; omega) _).up
      (by omega) |>.mono (by simp)
  · have h := docAdj_fixed hp
    rw [h.amount, h.exact, h.weight]
    exact (Approx.exact (he.trans hM)).up (by omega)

theorem adjSum_approx {c M : ℕ} {sum : Amount} {S : ℚ} {W : ℕ} (xs : List DocAdj) (hx : ∀ x ∈ xs, DocAdjOk c x)
    (hs : Approx c M sum S W) (hf : c + 2 ≤ sum.exp) :
    ApproxO c M (adjSum exactOps c (xs.map (docAdj exactOps .precise c sum))) (xs.map (Spec.C01.docAdjQ S)).sum
      (adjWQ W xs) := by
  rw [adjSum_eq, List.map_map]
  exact Approx.optSum (by have := hs.exp_le; omega) _ _ _ xs (fun x hxm => docAdj_approx x (hx x hxm) hs hf)

/-! ## line discounts and charges: document ones without a base of their own (`asDoc`) -/

/-- the covered class of line discounts / charges: no rate × quantity, and either a non-zero
percentage of magnitude at most 100 % of the line sum or of an explicit base (base with at most
currency + 2 decimals), or a fixed amount (no percentage, or a zero one) written with at most
currency + 2 decimals (not finer than the working precision) -/
def AdjOk (c : ℕ) (d : LineAdj) : Prop :=
  d.rate = none ∧
  ((∃ p, d.percent = some p ∧ pctIsZero p = false ∧ |p.amount.toRat| ≤ 1 ∧
      (d.base = none ∨ ∃ b, d.base = some b ∧ b.exp ≤ c + 2)) ∨
   ((d.percent = none ∨ ∃ p, d.percent = some p ∧ pctIsZero p = true) ∧ d.amount.exp ≤ c + 2))

/-- the amount `calculateLineDiscounts` stores for one row -/
def adjAmt (c : ℕ) (sum : Amount) (d : LineAdj) : Amount := (discountRow exactOps .precise c sum d).amount

/-- a line discount / charge read as a document one -/
def asDoc (d : LineAdj) : DocAdj := ⟨d.percent, d.base, d.amount, []⟩

theorem AdjOk_iff {c : ℕ} {d : LineAdj} : AdjOk c d ↔ d.rate = none ∧ DocAdjOk c (asDoc d) := Iff.rfl

theorem adjAmt_asDoc (c : ℕ) (sum : Amount) (d : LineAdj) :
    adjAmt c sum d = (docAdj exactOps .precise c sum (asDoc d)).amount := by
  unfold adjAmt discountRow adjUp adjPct docAdj asDoc
  cases d.percent with
  | none => rfl
  | some p =>
    cases hz : pctIsZero p with
    | true => simp [hz, applyRule]
    | false =>
      cases d.base with
      | none => simp [hz, applyRule]
      | some b => simp [hz, applyRule, up_up_le b c (c + E) (by omega)]

theorem adjQ_asDoc (s q : ℚ) (isCharge : Bool) (d : LineAdj) (h : d.rate = none) :
    Spec.C01.adjQ s q isCharge d = Spec.C01.docAdjQ s (asDoc d) := by
  cases isCharge <;> simp [Spec.C01.adjQ, Spec.C01.docAdjQ, asDoc, h]

theorem lineAdj_approx {c M : ℕ} {S : Amount} {s : ℚ} (q : ℚ) (isCharge : Bool) (d : LineAdj) (hd : AdjOk c d)
    (hS : Approx c M S s (1 : ℕ)) (hf : c + 2 ≤ S.exp) :
    Approx c M (adjAmt c S d) (Spec.C01.adjQ s q isCharge d) 2 := by
  obtain ⟨hr, hd⟩ := AdjOk_iff.mp hd
  rw [adjAmt_asDoc, adjQ_asDoc s q isCharge d hr]
  have hle := adjRowWQ_le hd 1
  exact (docAdj_approx (asDoc d) hd hS hf).mono (by norm_num at hle ⊢; exact hle)

/-- the amount `calculateLineCharges` stores for one row -/
def chAmt (c : ℕ) (qty sum : Amount) (d : LineAdj) : Amount := (chargeRow exactOps .precise c qty sum d).amount

theorem chAmt_eq (c : ℕ) (qty sum : Amount) (d : LineAdj) (h : d.rate = none) :
    chAmt c qty sum d = adjAmt c sum d := by
  unfold chAmt adjAmt chargeRow discountRow adjRate
  rw [adjPct_rate, h]

/-! ## lines -/

/-- a line priced in the document currency without breakdown whose discounts and charges are all
of the covered class -/
def AdjLine (c : ℕ) (l : Line) : Prop :=
  ∃ it p, l.item = some it ∧ it.cur = "" ∧ it.price = some p ∧ l.breakdown = [] ∧
    (∀ d ∈ l.discounts, AdjOk c d) ∧ (∀ d ∈ l.charges, AdjOk c d)

/-- the total `t` of the calculated line `l'` against the exact total `q` of the line `l` -/
structure LineTotal (cur : String) (rates : List XRate) (c : ℕ) (l l' : Line) (t : Amount) (q : ℚ) : Prop where
  total : l'.total = some t
  taxes : l'.taxes = l.taxes
  fine : c + 2 ≤ t.exp
  exact : Spec.C01.lineTotalQ cur rates l = some q
  err : |t.toRat - q| ≤ (lineW l : ℚ) * halfUlp (c + 2)

/-- what `calcLine` guarantees for a line of the class, against the exact line total -/
def LineRel (cur : String) (rates : List XRate) (c : ℕ) (l l' : Line) : Prop :=
  ∃ t q, LineTotal cur rates c l l' t q

theorem lineTotalQ_plain (cur : String) (rates : List XRate) {l : Line} {it : Item} {p : Amount}
    (hit : l.item = some it) (hcur : it.cur = "") (hp : it.price = some p) (hbd : l.breakdown = []) :
    Spec.C01.lineTotalQ cur rates l = some (p.toRat * l.qty.toRat -
      (l.discounts.map (Spec.C01.adjQ (p.toRat * l.qty.toRat) l.qty.toRat false)).sum +
      (l.charges.map (Spec.C01.adjQ (p.toRat * l.qty.toRat) l.qty.toRat true)).sum) := by
  simp [Spec.C01.lineTotalQ, Spec.C01.rowTotalQ, Spec.C01.priceQ, hit, hbd, hp, hcur]

theorem AdjLine.lineTotalQ {c : ℕ} {l : Line} (h : AdjLine c l) (cur : String) (rates : List XRate) :
    ∃ q, Spec.C01.lineTotalQ cur rates l = some q := by
  obtain ⟨it, p, hit, hcur, hp, hbd, _, _⟩ := h
  exact ⟨_, lineTotalQ_plain cur rates hit hcur hp hbd⟩

theorem calcLine_plain (cur : String) (c : ℕ) (rates : List XRate) (l l' : Line) (it : Item) (p : Amount)
    (hit : l.item = some it) (hcur : it.cur = "") (hp : it.price = some p) (hbd : l.breakdown = [])
    (h : calcLine exactOps cur c rates .precise l = .ok l') :
    ∃ S, (up (up p it.sub) (c + E)).mulX l.qty = S ∧ l'.taxes = l.taxes ∧ l'.sum = some S ∧
      l'.total = some (lineCharges exactOps .precise c l.qty S l.charges
        (lineDiscounts exactOps .precise c S l.discounts S).2).2 := by
  have hS : applyRule exactOps .precise c (exactOps.mul (up (up p it.sub) (c + E)) l.qty) =
      (up (up p it.sub) (c + E)).mulX l.qty :=
    up_self _ c (by simp only [exact_mul, mulX_exp, up_exp, E]; omega)
  have hown : lineItem exactOps cur c l [] it = it := lineItem_own _ _ _ _ (by simp [hbd])
  rw [calcLine_of_price (bd := []) (p0 := p) hit (by rw [hbd]; rfl) (by rw [hown, hp]) (by simp [hown, hcur])] at h
  cases h
  refine ⟨_, rfl, rfl, ?_, ?_⟩ <;> simp only [hown, lineOut, figures, BEq.rfl, if_true, hS]

/-- the whole of `LineRel`, not the total alone -/
theorem adjLine_total (cur : String) (c : ℕ) (rates : List XRate) (l l' : Line) (hs : AdjLine c l)
    (h : calcLine exactOps cur c rates .precise l = .ok l') : LineRel cur rates c l l' := by
  obtain ⟨it, p, hit, hcur, hp, hbd, hd, hc⟩ := hs
  obtain ⟨S, hSdef, htax, _, ht⟩ := calcLine_plain cur c rates l l' it p hit hcur hp hbd h
  have hSe : c + 2 ≤ S.exp := by simp only [← hSdef, mulX_exp, up_exp, E]; omega
  -- the line sum: one rounding of price × quantity
  have hS : Top c S.exp S (p.toRat * l.qty.toRat) (1 : ℕ) := by
    have := (Approx.exact (c := c) (le_refl (up (up p it.sub) (c + E)).exp)).mul
      (by simp only [up_exp, E]; omega) l.qty
    rw [hSdef] at this
    exact ⟨rfl, by simpa [up_toRat, ← hSdef] using this.err⟩
  -- discounts and charges: each its own rounding and the error of the sum
  have hD := hS.foldl_sub (adjAmt c S) (Spec.C01.adjQ (p.toRat * l.qty.toRat) l.qty.toRat false) (fun _ => 2) l.discounts
    (fun d hdm => lineAdj_approx _ _ d (hd d hdm) hS.approx hSe)
  have hC := hD.foldl_add (chAmt c l.qty S) (Spec.C01.adjQ (p.toRat * l.qty.toRat) l.qty.toRat true) (fun _ => 2) l.charges
    (fun d hdm => by rw [chAmt_eq _ _ _ _ (hc d hdm).1]; exact lineAdj_approx _ _ d (hc d hdm) hS.approx hSe)
  rw [lineCharges_eq, lineDiscounts_eq, List.map_map, List.map_map] at ht
  refine ⟨_, _, ht, htax, hC.exp_eq ▸ hSe, lineTotalQ_plain cur rates hit hcur hp hbd, (hC.mono (le_of_eq ?_)).err⟩
  simp [lineW]; ring

/-- a line without a total would count 0 on either side (`sum_map_getD`) -/
theorem lines_sum_err (cur : String) (c : ℕ) (rates : List XRate) (ls ls' : List Line)
    (h : List.Forall₂ (LineRel cur rates c) ls ls') :
    |((ls'.filterMap (·.total)).map Amount.toRat).sum - (ls.filterMap (Spec.C01.lineTotalQ cur rates)).sum| ≤
      (sumW ls : ℚ) * halfUlp (c + 2) := by
  rw [← sum_map_getD, ← List.map_id (ls.filterMap _), ← sum_map_getD, sumW, cast_sum]
  refine sum_err₂ h.flip _ _ _ _ fun l' l _ hl => ?_
  obtain ⟨t, q, h⟩ := hl
  simpa [h.total, h.exact] using h.err

theorem lines_sum_fine (cur : String) (c : ℕ) (rates : List XRate) (ls ls' : List Line)
    (h : List.Forall₂ (LineRel cur rates c) ls ls') (hne : ls ≠ []) :
    c + 2 ≤ (lineSum exactOps c ls').exp := by
  cases h with
  | nil => exact absurd rfl hne
  | @cons l l' ls0 ls'' hl _ =>
    obtain ⟨t, q, h⟩ := hl
    exact h.fine.trans (lineSum_exp_ge_total (List.mem_cons_self ..) h.total)

/-! ## `Spec.C01.exactQ` unfolded -/

theorem exactQ_sum (d : Doc) :
    (Spec.C01.exactQ d).sum = (d.lines.filterMap (Spec.C01.lineTotalQ d.cur d.rates)).sum := by
  simp [Spec.C01.exactQ, List.filterMap_map, Function.comp_def]

theorem exactQ_discount (d : Doc) :
    (Spec.C01.exactQ d).discount = (d.discounts.map (Spec.C01.docAdjQ (Spec.C01.exactQ d).sum)).sum := by
  simp [Spec.C01.exactQ, List.map_map, Function.comp_def]

theorem exactQ_charge (d : Doc) :
    (Spec.C01.exactQ d).charge = (d.charges.map (Spec.C01.docAdjQ (Spec.C01.exactQ d).sum)).sum := by
  simp [Spec.C01.exactQ, List.map_map, Function.comp_def]

theorem exactQ_inc_none (d : Doc) (h : d.includes = none) : (Spec.C01.exactQ d).taxIncluded = 0 := by
  simp only [Spec.C01.exactQ, h, Spec.C01.rowTaxQ, List.map_map, Function.comp_def]
  simp [Function.comp_def]

theorem exactQ_total (d : Doc) :
    (Spec.C01.exactQ d).total = (Spec.C01.exactQ d).sum - (Spec.C01.exactQ d).discount
      + (Spec.C01.exactQ d).charge - (Spec.C01.exactQ d).taxIncluded := rfl

/-! ## what `pre` hands on -/

/-- precise rule, at least one line, every line of the class `AdjLine`, every document discount
and charge of the class `DocAdjOk` -/
structure DocA (d : Doc) : Prop where
  rule : d.rule = .precise
  ne : d.lines ≠ []
  lines : ∀ l ∈ d.lines, AdjLine d.c l
  discounts : ∀ x ∈ d.discounts, DocAdjOk d.c x
  charges : ∀ x ∈ d.charges, DocAdjOk d.c x

theorem pre_sum_spec (d : Doc) (p : Pre) (hr : d.rule = .precise) (hlines : ∀ l ∈ d.lines, AdjLine d.c l)
    (h : pre exactOps d = .ok p) :
    List.Forall₂ (LineRel d.cur d.rates d.c) d.lines p.lines ∧
    |p.sum.toRat - (Spec.C01.exactQ d).sum| ≤ (sumW d.lines : ℚ) * halfUlp (d.c + 2) := by
  obtain ⟨lines, hl, rfl⟩ := pre_ok_iff.mp h
  rw [hr, calcLines_ok_iff] at hl
  have hrel := forall₂_imp_mem hl fun l l' hm _ hl' => adjLine_total d.cur d.c d.rates l l' (hlines l hm) hl'
  refine ⟨hrel, ?_⟩
  rw [show (preOf exactOps d lines).sum = lineSum exactOps d.c lines from rfl, lineSum_toRat, exactQ_sum]
  exact lines_sum_err d.cur d.c d.rates _ _ hrel

/-- what `pre` has computed for a document of the class `DocA`; `p.sum.exp` is the precision no working
amount of the document exceeds -/
structure PreA (d : Doc) (p : Pre) : Prop where
  rel : List.Forall₂ (LineRel d.cur d.rates d.c) d.lines p.lines
  sum_eq : p.sum = lineSum exactOps d.c p.lines
  sum_exp : d.c + 2 ≤ p.sum.exp
  sum : Top d.c p.sum.exp p.sum (Spec.C01.exactQ d).sum (sumW d.lines)
  discounts_eq : p.discounts = d.discounts.map (docAdj exactOps .precise d.c p.sum)
  charges_eq : p.charges = d.charges.map (docAdj exactOps .precise d.c p.sum)
  rows_eq : p.rows = taxRows p.lines p.discounts p.charges
  dsum : ApproxO d.c p.sum.exp p.dsum (Spec.C01.exactQ d).discount (adjWQ (sumW d.lines) d.discounts)
  csum : ApproxO d.c p.sum.exp p.csum (Spec.C01.exactQ d).charge (adjWQ (sumW d.lines) d.charges)
  total2 : Top d.c p.sum.exp p.total2
    ((Spec.C01.exactQ d).sum - (Spec.C01.exactQ d).discount + (Spec.C01.exactQ d).charge) (total2WQ d)

theorem pre_approx (d : Doc) (p : Pre) (hd : DocA d) (h : pre exactOps d = .ok p) : PreA d p := by
  obtain ⟨hrel, hS⟩ := pre_sum_spec d p hd.rule hd.lines h
  obtain ⟨lines, -, rfl⟩ := pre_ok_iff.mp h
  have hdis : (preOf exactOps d lines).discounts =
      d.discounts.map (docAdj exactOps .precise d.c (preOf exactOps d lines).sum) := by rw [← hd.rule]; rfl
  have hch : (preOf exactOps d lines).charges =
      d.charges.map (docAdj exactOps .precise d.c (preOf exactOps d lines).sum) := by rw [← hd.rule]; rfl
  have hsexp : d.c + 2 ≤ (preOf exactOps d lines).sum.exp := lines_sum_fine d.cur d.c d.rates _ _ hrel hd.ne
  have hs : Top d.c (preOf exactOps d lines).sum.exp (preOf exactOps d lines).sum (Spec.C01.exactQ d).sum (sumW d.lines) :=
    ⟨rfl, hS⟩
  have hdq := adjSum_approx d.discounts hd.discounts hs.approx hsexp
  have hcq := adjSum_approx d.charges hd.charges hs.approx hsexp
  rw [← hdis, ← exactQ_discount] at hdq
  rw [← hch, ← exactQ_charge] at hcq
  exact ⟨hrel, rfl, hsexp, hs, hdis, hch, rfl, hdq, hcq, (hs.subO hdq).addO hcq⟩

/-! ### as plain inequalities, what `Top.subO` / `addO` and `Approx.mul` carry in `PreA.total2` -/

theorem total2_bound (sumR S P Q D C n kd kc h : ℚ) (hS : |sumR - S| ≤ n * h) (hD : |D - sumR * P| ≤ kd * h)
    (hC : |C - sumR * Q| ≤ kc * h) (hP : |P| ≤ kd) (hQ : |Q| ≤ kc) (hh : 0 ≤ h) (hn : 0 ≤ n) :
    |sumR - D + C - S * (1 - P + Q)| ≤ (n * (1 + kd + kc) + kd + kc) * h := by
  have hkd : 0 ≤ kd := le_trans (abs_nonneg _) hP
  have hkc : 0 ≤ kc := le_trans (abs_nonneg _) hQ
  have hfac : |1 - P + Q| ≤ 1 + kd + kc := by
    have a1 := abs_add_le (1 - P) Q
    have a2 := abs_sub (1 : ℚ) P
    simp only [abs_one] at a2
    linarith
  have e : sumR - D + C - S * (1 - P + Q) = (sumR - S) * (1 - P + Q) - (D - sumR * P) + (C - sumR * Q) := by ring
  rw [e]
  have b1 : |(sumR - S) * (1 - P + Q)| ≤ (n * h) * (1 + kd + kc) := by
    rw [abs_mul]
    exact mul_le_mul hS hfac (abs_nonneg _) (by positivity)
  have t1 := abs_add_le ((sumR - S) * (1 - P + Q) - (D - sumR * P)) (C - sumR * Q)
  have t2 := abs_sub ((sumR - S) * (1 - P + Q)) (D - sumR * P)
  linarith

theorem adjTotal_err (sumR S P D kd W h : ℚ) (hS : |sumR - S| ≤ W * h) (hD : |D - sumR * P| ≤ kd * h)
    (hP : |P| ≤ kd) (hh : 0 ≤ h) (hW : 0 ≤ W) : |D - S * P| ≤ kd * (1 + W) * h := by
  have e : D - S * P = (D - sumR * P) + (sumR - S) * P := by ring
  rw [e]
  refine le_trans (abs_add_le _ _) ?_
  have : |(sumR - S) * P| ≤ (W * h) * kd := by
    rw [abs_mul]
    exact mul_le_mul hS hP (abs_nonneg _) (by positivity)
  linarith

/-! ## advances and due dates -/

/-- an advance of the covered class: a percentage of the total with tax of at most 100 %, or a
fixed amount with at most currency + 2 decimals -/
def AdvOk (c : ℕ) (a : Advance) : Prop :=
  (∃ p, a.percent = some p ∧ |p.amount.toRat| ≤ 1) ∨ (a.percent = none ∧ a.amount.exp ≤ c + 2)

/-- the exact amount of one advance, as `Spec.C01.exactQ` has it -/
def advQ (T : ℚ) (a : Advance) : ℚ :=
  match a.percent with
  | some p => T * Spec.C01.pq p
  | none => a.amount.toRat

theorem exactQ_advances (d : Doc) :
    (Spec.C01.exactQ d).advances =
      if d.hasPayment then (d.advances.map (advQ (Spec.C01.exactQ d).totalWithTax)).sum else 0 := rfl

theorem advRowWQ_nonneg (T : ℚ) (hT : 0 ≤ T) (a : Advance) : 0 ≤ advRowWQ T a := by
  unfold advRowWQ
  cases a.percent with
  | none => simp
  | some p => simp only; have := pctA_nonneg p; positivity

theorem advRowWQ_le {c : ℕ} {a : Advance} (ha : AdvOk c a) (T : ℚ) (hT : 0 ≤ T) : advRowWQ T a ≤ 1 + T := by
  unfold advRowWQ
  rcases ha with ⟨p, hp, hle⟩ | ⟨hp, _⟩
  · rw [hp]; simp only; rw [pctA_eq]; have := mul_le_of_le_one_left hT hle; linarith
  · rw [hp]; simp only; linarith

theorem calcAdvance_approx {c M : ℕ} {twt : Amount} {T W : ℚ} (a : Advance) (ha : AdvOk c a)
    (ht : Approx c M twt T W) (hf : c + 2 ≤ twt.exp) :
    Approx c M (calcAdvance exactOps c twt a).amount (advQ T a) (advRowWQ W a) := by
  have hM : c + 2 ≤ M := hf.trans ht.exp_le
  rcases ha with ⟨p, hp, _⟩ | ⟨hp, he⟩
  · have hval : (calcAdvance exactOps c twt a).amount = twt.mulX p.amount := by
      simp only [calcAdvance, hp, pctOf, exact_mul]
      exact up_self _ c (by rw [mulX_exp]; omega)
    simpa only [hval, advQ, advRowWQ, hp, Spec.C01.pq, pctA_eq] using ht.mul hf p.amount
  · have hval : (calcAdvance exactOps c twt a).amount = up a.amount c := by simp only [calcAdvance, hp]
    simpa only [hval, advQ, advRowWQ, hp] using (Approx.exact (c := c) (he.trans hM)).up (show c ≤ M by omega)

/-- a due date of the covered class: a non-zero percentage of the payable amount of at most 100 %,
or a fixed amount -/
def DueOk (x : Due) : Prop :=
  (∃ p, x.percent = some p ∧ pctIsZero p = false ∧ |p.amount.toRat| ≤ 1) ∨
  (x.percent = none ∨ ∃ p, x.percent = some p ∧ pctIsZero p = true)

/-- the exact amount of a due date -/
def dueQ (P : ℚ) (x : Due) : ℚ :=
  match x.percent with
  | some p => if p.amount.value == 0 then x.amount.toRat else P * p.amount.toRat
  | none => x.amount.toRat

/-- the conclusion is that of `Props.C01.calc_payment_rows_spec`, not an `Approx`: a fixed due amount is presented
as it is written, and nothing in `DueOk` bounds the precision it is written at -/
theorem calcDue_ok {c M : ℕ} {payable : Amount} {P W : ℚ} (x : Due) (hx : DueOk x) (hp : Approx c M payable P W)
    (hW : 0 ≤ W) (hf : c + 2 ≤ payable.exp) :
    ∃ w : Amount, Spec.C01.presents c (calcDue exactOps c payable x).amount w.toRat ∧
      |w.toRat - dueQ P x| ≤ (1 + W) * halfUlp (c + 2) := by
  rcases hx with ⟨p, hpc, hz, hle⟩ | hpc
  · refine ⟨payable.mulX p.amount, ?_, ?_⟩
    · rw [show (calcDue exactOps c payable x).amount = (payable.mulX p.amount).rescaleX c by simp [calcDue, hpc, hz, pctOf]]
      exact presents_rescale c _
    · simp only [dueQ, hpc, beq_zero_eq_pctIsZero, hz, Bool.false_eq_true, if_false]
      exact ((hp.mul hf p.amount).mono (by have := mul_le_of_le_one_left hW hle; linarith)).err
  · refine ⟨x.amount, ?_, ?_⟩
    · rw [show (calcDue exactOps c payable x).amount = x.amount.rescaleX c by
        rcases hpc with hpc | ⟨p, hpc, hz⟩
        · simp [calcDue, hpc]
        · simp [calcDue, hpc, hz]]
      exact presents_rescale c _
    · rw [show dueQ P x = x.amount.toRat by
        rcases hpc with hpc | ⟨p, hpc, hz⟩
        · simp [dueQ, hpc]
        · simp [dueQ, hpc, beq_zero_eq_pctIsZero, hz], sub_self, abs_zero]
      exact mul_nonneg (by linarith) (halfUlp_nonneg _)

/-! ## closed forms: simple lines, discounts and charges that are percentages of the sum -/

/-- a line priced in the document currency without breakdown, discounts or charges -/
def _root_.GoblVerif.Calc.SimpleLine (l : Line) : Prop :=
  ∃ it p, l.item = some it ∧ it.cur = "" ∧ it.price = some p ∧ l.breakdown = [] ∧ l.discounts = [] ∧ l.charges = []

/-- price × quantity in exact arithmetic -/
def _root_.GoblVerif.Calc.lineExact (l : Line) : ℚ :=
  match l.item with
  | some it => match it.price with
    | some p => p.toRat * l.qty.toRat
    | none => 0
  | none => 0

/-- a document discount/charge that is a percentage of the document sum, at most 100 % in magnitude -/
def _root_.GoblVerif.Calc.PctOnly (x : DocAdj) : Prop :=
  ∃ p, x.percent = some p ∧ pctIsZero p = false ∧ x.base = none ∧ |p.amount.toRat| ≤ 1

/-- its percentage as a rational -/
def _root_.GoblVerif.Calc.pctQ (x : DocAdj) : ℚ :=
  match x.percent with
  | some p => p.amount.toRat
  | none => 0

/-- (`PctOnly` lives in `GoblVerif.Calc`, this lemma in `GoblVerif.Calc.Err`) -/
theorem PctOnly.ok {x : DocAdj} (c : ℕ) (h : PctOnly x) : DocAdjOk c x := by
  obtain ⟨p, hp, hz, hb, hle⟩ := h
  exact Or.inl ⟨p, hp, hz, hle, Or.inl hb⟩

theorem docAdjQ_pct (s : ℚ) (x : DocAdj) (hx : PctOnly x) : Spec.C01.docAdjQ s x = s * pctQ x := by
  obtain ⟨p, hp, hz, hb, _⟩ := hx
  rw [(docAdj_ofSum hp hz hb).exact]
  simp [pctQ, hp]

theorem docAdjQ_sum_pct (s : ℚ) (xs : List DocAdj) (hx : ∀ x ∈ xs, PctOnly x) :
    (xs.map (Spec.C01.docAdjQ s)).sum = s * (xs.map pctQ).sum := by
  induction xs with
  | nil => simp
  | cons x xs ih =>
    simp only [List.map_cons, List.sum_cons]
    rw [ih (fun y hy => hx y (by simp [hy])), docAdjQ_pct s x (hx x (by simp))]
    ring

theorem simple_adj {l : Line} (c : ℕ) (h : SimpleLine l) : AdjLine c l := by
  obtain ⟨it, p, hit, hcur, hp, hbd, hd, hc⟩ := h
  exact ⟨it, p, hit, hcur, hp, hbd, by simp [hd], by simp [hc]⟩

theorem simple_lineW {l : Line} (h : SimpleLine l) : lineW l = 1 := by
  obtain ⟨_, _, _, _, _, _, hd, hc⟩ := h
  simp [lineW, hd, hc]

theorem simple_lineTotalQ {l : Line} (cur : String) (rates : List XRate) (h : SimpleLine l) :
    Spec.C01.lineTotalQ cur rates l = some (lineExact l) := by
  obtain ⟨it, p, hit, hcur, hp, hbd, hd, hc⟩ := h
  simp [lineTotalQ_plain cur rates hit hcur hp hbd, lineExact, hit, hp, hd, hc]

theorem simple_sumW (ls : List Line) (h : ∀ l ∈ ls, SimpleLine l) : sumW ls = ls.length := by
  induction ls with
  | nil => rfl
  | cons l ls ih =>
    have := ih (fun x hx => h x (by simp [hx]))
    simp only [sumW, List.map_cons, List.sum_cons, simple_lineW (h l (by simp)), List.length_cons] at this ⊢
    omega

theorem simple_exact_sum (d : Doc) (h : ∀ l ∈ d.lines, SimpleLine l) :
    (Spec.C01.exactQ d).sum = (d.lines.map lineExact).sum := by
  rw [exactQ_sum]
  congr 1
  generalize d.lines = ls at h
  induction ls with
  | nil => rfl
  | cons l ls ih =>
    rw [List.filterMap_cons, simple_lineTotalQ _ _ (h l (by simp)), List.map_cons, ih (fun x hx => h x (by simp [hx]))]

/-! ## presentation: what is shown against what was worked with -/

theorem presents_roundTotals (c : ℕ) (w : Totals) :
    Spec.C01.presents c (roundTotals exactOps c w).sum w.sum.toRat ∧
    Spec.C01.presents c (roundTotals exactOps c w).total w.total.toRat ∧
    Spec.C01.presents c (roundTotals exactOps c w).tax w.tax.toRat ∧
    Spec.C01.presents c (roundTotals exactOps c w).totalWithTax w.totalWithTax.toRat ∧
    Spec.C01.presents c (roundTotals exactOps c w).payable w.payable.toRat ∧
    (∀ x, (roundTotals exactOps c w).taxIncluded = some x → ∃ y, w.taxIncluded = some y ∧ Spec.C01.presents c x y.toRat) ∧
    (∀ x, (roundTotals exactOps c w).discount = some x → ∃ y, w.discount = some y ∧ Spec.C01.presents c x y.toRat) ∧
    (∀ x, (roundTotals exactOps c w).charge = some x → ∃ y, w.charge = some y ∧ Spec.C01.presents c x y.toRat) ∧
    (∀ x, (roundTotals exactOps c w).advances = some x → ∃ y, w.advances = some y ∧ Spec.C01.presents c x y.toRat) ∧
    (∀ x, (roundTotals exactOps c w).due = some x → ∃ y, w.due = some y ∧ Spec.C01.presents c x y.toRat) := by
  have hopt : ∀ (o : Option Amount) (x : Amount), o.map (exactOps.rescale · c) = some x →
      ∃ y, o = some y ∧ Spec.C01.presents c x y.toRat := by
    intro o x hx
    simp only [Option.map_eq_some_iff] at hx
    obtain ⟨y, hy, rfl⟩ := hx
    exact ⟨y, hy, presents_rescale c y⟩
  exact ⟨presents_rescale _ _, presents_rescale _ _, presents_rescale _ _, presents_rescale _ _,
    presents_rescale _ _, hopt _, hopt _, hopt _, hopt _, hopt _⟩

/-- `a` shows the working amount `w`: unchanged, or rounded half away from zero once to fewer decimals -/
def Shows (a w : Amount) : Prop := a = w ∨ ∃ e, e < w.exp ∧ Spec.C01.presents e a w.toRat

theorem down_shows (w : Amount) (e : ℕ) : Shows (down exactOps w e) w := by
  unfold down
  split
  · rename_i h
    exact Or.inr ⟨e, h, presents_rescale e w⟩
  · exact Or.inl rfl

theorem roundLine_total (l : Line) (w : Amount) (h : l.total = some w) :
    ∃ a, (roundLine exactOps l).total = some a ∧ Shows a w := by
  unfold roundLine
  split
  · exact ⟨w, h, Or.inl rfl⟩
  · split
    · exact ⟨w, h, Or.inl rfl⟩
    · rename_i p _
      exact ⟨down exactOps w p.exp, by simp [h], down_shows w p.exp⟩

theorem roundDocAdj_shows (c : ℕ) (x : DocAdj) : Shows (roundDocAdj exactOps c x).amount x.amount := by
  unfold roundDocAdj
  exact down_shows _ _

/-! ## the classes of rows, decided -/

theorem pctLe1_sound (p : Pct) (h : pctLe1 p = true) : |p.amount.toRat| ≤ 1 := by
  unfold pctLe1 at h
  have hn : p.amount.value.natAbs ≤ 10 ^ p.amount.exp := of_decide_eq_true h
  have hp := p10q_pos p.amount.exp
  unfold Amount.toRat
  rw [abs_div, abs_of_pos hp, div_le_one hp]
  have h1 : |p.amount.value| ≤ pow10 p.amount.exp := by
    unfold pow10
    have h2 : ((p.amount.value.natAbs : ℕ) : ℤ) ≤ ((10 ^ p.amount.exp : ℕ) : ℤ) := by exact_mod_cast hn
    rw [Int.natCast_natAbs] at h2
    push_cast at h2
    exact h2
  rw [← Int.cast_abs]
  exact_mod_cast h1

theorem docAdjOkB_sound (c : ℕ) (x : DocAdj) (h : docAdjOkB c x = true) : DocAdjOk c x := by
  unfold docAdjOkB at h
  cases hp : x.percent with
  | none =>
    simp only [hp] at h
    exact Or.inr ⟨Or.inl hp, of_decide_eq_true h⟩
  | some p =>
    simp only [hp] at h
    by_cases hz : pctIsZero p = true
    · simp only [hz, if_true] at h
      exact Or.inr ⟨Or.inr ⟨p, hp, hz⟩, of_decide_eq_true h⟩
    · have hz' : pctIsZero p = false := by simpa using hz
      simp only [hz', Bool.false_eq_true, if_false, Bool.and_eq_true] at h
      refine Or.inl ⟨p, hp, hz', pctLe1_sound p h.1, ?_⟩
      cases hb : x.base with
      | none => exact Or.inl rfl
      | some b =>
        have h2 := h.2
        simp only [hb] at h2
        exact Or.inr ⟨b, rfl, of_decide_eq_true h2⟩

theorem adjOkB_sound (c : ℕ) (d : LineAdj) (h : adjOkB c d = true) : AdjOk c d := by
  have h' : (d.rate.isNone && docAdjOkB c (asDoc d)) = true := h
  rw [Bool.and_eq_true] at h'
  exact AdjOk_iff.mpr ⟨by simpa using h'.1, docAdjOkB_sound c _ h'.2⟩

theorem adjLineB_sound (c : ℕ) (l : Line) (h : adjLineB c l = true) : AdjLine c l := by
  unfold adjLineB at h
  cases hit : l.item with
  | none => simp [hit] at h
  | some it =>
    simp only [hit, Bool.and_eq_true, List.all_eq_true] at h
    obtain ⟨⟨⟨⟨h1, h2⟩, h3⟩, h4⟩, h5⟩ := h
    obtain ⟨p, hp⟩ := Option.isSome_iff_exists.mp h2
    exact ⟨it, p, hit, by simpa using h1, hp, by simpa using h3,
      fun d hd => adjOkB_sound c d (h4 d hd), fun d hd => adjOkB_sound c d (h5 d hd)⟩

theorem comboOkB_sound (ret : String → Bool) (cb : Combo) (h : comboOkB ret cb = true) : ComboOk ret cb := by
  unfold comboOkB at h
  simp only [Bool.and_eq_true] at h
  obtain ⟨⟨h1, h2⟩, h3⟩ := h
  refine ⟨by simpa using h1, ?_, ?_⟩
  · intro p hp; simp only [hp] at h2; exact pctLe1_sound p h2
  · intro sp hs; simp only [hs] at h3; exact pctLe1_sound sp h3

theorem advOkB_sound (c : ℕ) (a : Advance) (h : advOkB c a = true) : AdvOk c a := by
  unfold advOkB at h
  cases hp : a.percent with
  | none => simp only [hp] at h; exact Or.inr ⟨hp, of_decide_eq_true h⟩
  | some p => simp only [hp] at h; exact Or.inl ⟨p, hp, pctLe1_sound p h⟩

theorem mem_allCombos (d : Doc) :
    (∀ l ∈ d.lines, ∀ cb ∈ l.taxes, cb ∈ allCombos d) ∧ (∀ x ∈ d.discounts, ∀ cb ∈ x.taxes, cb ∈ allCombos d) ∧
    (∀ x ∈ d.charges, ∀ cb ∈ x.taxes, cb ∈ allCombos d) := by
  simp only [allCombos, List.mem_append, List.mem_flatMap]
  exact ⟨fun l hl cb hcb => Or.inl (Or.inl ⟨l, hl, hcb⟩), fun x hx cb hcb => Or.inl (Or.inr ⟨x, hx, hcb⟩),
    fun x hx cb hcb => Or.inr ⟨x, hx, hcb⟩⟩

end Err
end Calc
end GoblVerif
