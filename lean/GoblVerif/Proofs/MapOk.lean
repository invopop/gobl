/-
  A function that may fail, along a list: `mapOk f` returns at the first error (`List.mapM` in `Except`,
  written out so that it unfolds by `rfl`).  `calculateLines`, the breakdown loop and `removeIncludedTaxes`
  (Proofs/CalcBasics.lean) are this function; it succeeds iff every step does (`mapOk_ok_iff`).
-/
import Mathlib.Data.List.Forall2

namespace GoblVerif

theorem Except.map_eq_ok {ε α β : Type} {f : α → β} {x : Except ε α} {b : β} : x.map f = .ok b ↔ ∃ a, x = .ok a ∧ b = f a := by
  cases x <;> simp [Except.map, eq_comm]

theorem Except.bind_eq_ok {ε α β : Type} {f : α → Except ε β} {x : Except ε α} {b : β} :
    x.bind f = .ok b ↔ ∃ a, x = .ok a ∧ f a = .ok b := by
  cases x <;> simp [Except.bind]

def mapOk {ε α β : Type} (f : α → Except ε β) : List α → Except ε (List β)
  | [] => .ok []
  | x :: xs =>
    match f x with
    | .error e => .error e
    | .ok y =>
      match mapOk f xs with
      | .error e => .error e
      | .ok ys => .ok (y :: ys)

section
variable {α β ε : Type}

theorem mapOk_map {f : α → Except ε β} {γ : Type} (g : γ → α) (l : List γ) :
    mapOk f (l.map g) = mapOk (fun x => f (g x)) l := by
  induction l with
  | nil => rfl
  | cons x xs ih => simp only [List.map_cons, mapOk, ih]

theorem mapOk_ok_iff (f : α → Except ε β) (xs : List α) (ys : List β) :
    mapOk f xs = .ok ys ↔ List.Forall₂ (fun x y => f x = .ok y) xs ys := by
  induction xs generalizing ys with
  | nil => cases ys <;> simp [mapOk]
  | cons x xs ih =>
    unfold mapOk
    cases ys with
    | nil => cases f x <;> [skip; cases mapOk f xs] <;> simp
    | cons y ys =>
      rw [List.forall₂_cons, ← ih]
      cases f x <;> [skip; cases mapOk f xs] <;> simp

theorem mapOk_map_comm (f : α → Except ε β) (g : α → α) (h : β → β) (xs : List α)
    (hf : ∀ x ∈ xs, f (g x) = (f x).map h) : mapOk f (xs.map g) = (mapOk f xs).map (·.map h) := by
  induction xs with
  | nil => rfl
  | cons x xs ih =>
    rw [List.map_cons, mapOk, mapOk, hf x (by simp), ih fun y hy => hf y (by simp [hy])]
    cases f x <;> [skip; cases mapOk f xs] <;> rfl

theorem mapOk_ok_of_forall (f : α → Except ε β) (xs : List α) (h : ∀ x ∈ xs, ∃ y, f x = .ok y) :
    ∃ ys, mapOk f xs = .ok ys := by
  induction xs with
  | nil => exact ⟨[], rfl⟩
  | cons x xs ih =>
    obtain ⟨y, hy⟩ := h x (by simp)
    obtain ⟨ys, hys⟩ := ih fun z hz => h z (by simp [hz])
    exact ⟨y :: ys, by rw [mapOk, hy, hys]⟩

theorem forall₂_of_mem_right {R : α → β → Prop} {xs : List α} {ys : List β} (h : List.Forall₂ R xs ys)
    {y : β} (hy : y ∈ ys) : ∃ x ∈ xs, R x y := by
  induction h with
  | nil => simp at hy
  | cons hxy _ ih =>
    rcases List.mem_cons.mp hy with rfl | hy
    · exact ⟨_, by simp, hxy⟩
    · obtain ⟨x, hx, hr⟩ := ih hy
      exact ⟨x, by simp [hx], hr⟩

theorem forall₂_of_mem_left {R : α → β → Prop} {xs : List α} {ys : List β} (h : List.Forall₂ R xs ys)
    {x : α} (hx : x ∈ xs) : ∃ y ∈ ys, R x y := by
  obtain ⟨x', hx', hr⟩ := forall₂_of_mem_right h.flip hx
  exact ⟨x', hx', hr⟩

theorem mapOk_refix {f : α → Except ε α} {g : α → α} {xs ys : List α} (h : mapOk f xs = .ok ys)
    (hg : ∀ x ∈ xs, ∀ y, f x = .ok y → f (g y) = .ok y) : mapOk f (ys.map g) = .ok ys := by
  replace h := (mapOk_ok_iff f xs ys).mp h
  rw [mapOk_ok_iff]
  induction h with
  | nil => exact .nil
  | cons hxy _ ih => exact .cons (hg _ (by simp) _ hxy) (ih fun x hx => hg x (by simp [hx]))

theorem mapOk_eq_map {f : α → Except ε β} {l : List α} {out : List β} {g : α → β} (h : mapOk f l = .ok out)
    (hg : ∀ x ∈ l, ∀ y, f x = .ok y → y = g x) : out = l.map g := by
  replace h := (mapOk_ok_iff f l out).mp h
  induction h with
  | nil => rfl
  | cons hxy _ ih => rw [List.map_cons, ← hg _ (by simp) _ hxy, ← ih (fun z hz => hg z (by simp [hz]))]

end

end GoblVerif
