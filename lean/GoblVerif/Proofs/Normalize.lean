/-
  The normaliser model (Model/Normalize.lean) for the laws of Props/C13.lean.  ASCII case mapping (`toUpper_toNat`;
  a clean text is left alone by the cleaning steps, `clean_fixed`).  `strings.TrimPrefix` returns its argument or
  strictly shortens it (`trimPrefix_cases`); a pass of the loop of `tax.NormalizeIdentity` is a fold of such steps
  over the codes (`trimPass_eq_foldl`), so it changes nothing iff no step does (`trimPass_fixed_iff`), the loop keeps
  whatever every step keeps (`trimLoop_inv`) and ends in a text that a further pass leaves alone (`trimLoop_stable`).
  On these: `normalizeIdentity_clean/_stable/_fixed`, the digits are kept, for two-letter codes the result is
  `Spec.TaxId.stripCodes`.  Then the regime normalisers: CH (`chSuffixStar_iff`, `chStripSuffix_*`), MX
  (`mxNormalize_fixed`), FR (`frExtend_*`), and one equation per regime for `Norm.normalize`.
-/
import GoblVerif.Model.Normalize
import GoblVerif.Proofs.TaxIdDigits

namespace GoblVerif.TaxId
open GoblVerif.TaxId.Norm
open GoblVerif.Spec.TaxId (stripCodes endsWith chSuffixes)

theorem toUpper_toNat (c : Char) :
    c.toUpper.toNat = if 97 ≤ c.toNat ∧ c.toNat ≤ 122 then c.toNat - 32 else c.toNat := by
  have hv : c.toNat = c.val.toNat := rfl
  simp only [Char.toUpper, hv, UInt32.le_iff_toNat_le, Char.reduceVal, UInt32.reduceToNat]
  split
  · show (c.val + ('A'.val - 'a'.val)).toNat = _
    rw [UInt32.toNat_add, show ('A'.val - 'a'.val).toNat = 4294967264 by decide]
    omega
  · rfl
theorem toLower_toNat (c : Char) :
    c.toLower.toNat = if 65 ≤ c.toNat ∧ c.toNat ≤ 90 then c.toNat + 32 else c.toNat := by
  have hv : c.toNat = c.val.toNat := rfl
  simp only [Char.toLower, hv, UInt32.le_iff_toNat_le, Char.reduceVal, UInt32.reduceToNat]
  split
  · show (c.val + ('a'.val - 'A'.val)).toNat = _
    rw [UInt32.toNat_add, show ('a'.val - 'A'.val).toNat = 32 by decide]
    omega
  · rfl
theorem toUpper_of_isAZ09 (c : Char) (h : isAZ09 c = true) : c.toUpper = c := by
  rw [← Char.toNat_inj, toUpper_toNat]
  simp [isAZ09, isDig, isUp] at h
  split <;> omega

theorem isDig_toUpper (c : Char) : isDig c.toUpper = isDig c := by
  rw [Bool.eq_iff_iff]
  simp only [isDig, toUpper_toNat, decide_eq_true_eq]
  split <;> omega

theorem toUpper_toLower (c : Char) : c.toLower.toUpper = c.toUpper := by
  rw [← Char.toNat_inj, toUpper_toNat, toUpper_toNat, toLower_toNat]
  repeat' split
  all_goals omega

theorem toUpper_toUpper (c : Char) : c.toUpper.toUpper = c.toUpper := by
  rw [← Char.toNat_inj, toUpper_toNat, toUpper_toNat]
  repeat' split
  all_goals omega

theorem clean_fixed (r : Str) (h : r.all isAZ09 = true) : stripBad (upper r) = r := by
  induction r with
  | nil => rfl
  | cons c cs ih =>
    simp only [List.all_cons, Bool.and_eq_true] at h
    simp only [upper, stripBad, List.map_cons, toUpper_of_isAZ09 c h.1, List.filter_cons, h.1, if_true]
    congr 1
    exact ih h.2

theorem stripBad_clean (s : Str) : (stripBad s).all isAZ09 = true := by
  simp [stripBad]

theorem trimPrefix_cases (p s : Str) :
    (trimPrefix p s = s ∧ (p = [] ∨ p.isPrefixOf s = false)) ∨ (trimPrefix p s).length < s.length := by
  unfold trimPrefix
  split
  · rename_i hp
    obtain ⟨t, rfl⟩ := List.isPrefixOf_iff_prefix.mp hp
    cases p with
    | nil => exact Or.inl ⟨rfl, Or.inl rfl⟩
    | cons c p => exact Or.inr (by simp; omega)
  · rename_i hp
    exact Or.inl ⟨rfl, Or.inr (Bool.eq_false_iff.mpr hp)⟩

theorem trimPrefix_eq_or_lt (p s : Str) : trimPrefix p s = s ∨ (trimPrefix p s).length < s.length :=
  (trimPrefix_cases p s).imp_left And.left

theorem trimPrefix_length_le (p s : Str) : (trimPrefix p s).length ≤ s.length :=
  (trimPrefix_eq_or_lt p s).elim (fun h => Nat.le_of_eq (congrArg _ h)) Nat.le_of_lt

theorem trimPrefix_eq_self_iff (p s : Str) : trimPrefix p s = s ↔ (p = [] ∨ p.isPrefixOf s = false) := by
  refine ⟨fun h => ?_, fun h => ?_⟩
  · rcases trimPrefix_cases p s with h' | hlt
    · exact h'.2
    · rw [h] at hlt; exact absurd hlt (Nat.lt_irrefl _)
  · rcases h with rfl | h <;> simp [trimPrefix, *]

theorem trimPrefix_fixed_of_prefix (p r m : Str) (hr : r <+: m) (h : trimPrefix p m = m) : trimPrefix p r = r := by
  rw [trimPrefix_eq_self_iff] at h ⊢
  rcases h with h | h
  · exact Or.inl h
  · right
    cases hp : p.isPrefixOf r with
    | false => rfl
    | true =>
      have : p <+: m := (List.isPrefixOf_iff_prefix.mp hp).trans hr
      rw [List.isPrefixOf_iff_prefix.mpr this] at h
      exact absurd h (by simp)

theorem trimPrefix_clean (p s : Str) (h : s.all isAZ09 = true) : (trimPrefix p s).all isAZ09 = true := by
  unfold trimPrefix
  split
  · exact all_drop h _
  · exact h

theorem take_clean (s : Str) (n : Nat) (h : s.all isAZ09 = true) : (s.take n).all isAZ09 = true := all_take h n

theorem trimPass_eq_foldl (country : Str) (alts : List Str) (s : Str) :
    trimPass country alts s = (country :: alts).foldl (fun c p => trimPrefix p c) s := rfl

theorem foldl_trim_inv (P : Str → Prop) (ps : List Str) (h : ∀ p ∈ ps, ∀ s, P s → P (trimPrefix p s)) (s : Str) (hs : P s) :
    P (ps.foldl (fun c p => trimPrefix p c) s) := by
  induction ps generalizing s with
  | nil => exact hs
  | cons p ps ih => exact ih (fun q hq => h q (List.mem_cons_of_mem _ hq)) _ (h p (List.mem_cons_self ..) s hs)

theorem foldl_trim_length_le (ps : List Str) (s : Str) : (ps.foldl (fun c p => trimPrefix p c) s).length ≤ s.length :=
  foldl_trim_inv (·.length ≤ s.length) ps (fun p _ t ht => Nat.le_trans (trimPrefix_length_le p t) ht) s (Nat.le_refl _)

/-- a step that changes anything shortens for good, so later steps cannot restore `s` -/
theorem foldl_trim_fixed_iff (ps : List Str) (s : Str) :
    ps.foldl (fun c p => trimPrefix p c) s = s ↔ ∀ p ∈ ps, trimPrefix p s = s := by
  induction ps with
  | nil => simp
  | cons p ps ih =>
    rw [List.foldl_cons, List.forall_mem_cons]
    rcases trimPrefix_eq_or_lt p s with hp | hp
    · rw [hp, ih]; exact ⟨fun h => ⟨rfl, h⟩, And.right⟩
    · have := foldl_trim_length_le ps (trimPrefix p s)
      exact ⟨fun h => by rw [h] at this; omega, fun h => by rw [h.1] at hp; omega⟩

theorem foldl_trim_lt_of_ne (ps : List Str) (s : Str) (h : ps.foldl (fun c p => trimPrefix p c) s ≠ s) :
    (ps.foldl (fun c p => trimPrefix p c) s).length < s.length := by
  induction ps generalizing s with
  | nil => exact absurd rfl h
  | cons q qs ih =>
    rw [List.foldl_cons] at h ⊢
    have h2 := foldl_trim_length_le qs (trimPrefix q s)
    rcases trimPrefix_eq_or_lt q s with hq | hq
    · rw [hq] at h ⊢; exact ih s h
    · omega

theorem foldl_trim_fixed (alts : List Str) (r : Str) (h : ∀ a ∈ alts, a.isPrefixOf r = false) :
    alts.foldl (fun c a => trimPrefix a c) r = r :=
  (foldl_trim_fixed_iff alts r).mpr fun a ha => by simp [trimPrefix, h a ha]

theorem trimPass_length_le (country : Str) (alts : List Str) (s : Str) :
    (trimPass country alts s).length ≤ s.length :=
  foldl_trim_length_le (country :: alts) s

theorem trimPass_fixed_iff (country : Str) (alts : List Str) (r : Str) :
    trimPass country alts r = r ↔ ∀ p ∈ country :: alts, trimPrefix p r = r :=
  foldl_trim_fixed_iff (country :: alts) r

theorem trimLoop_inv (P : Str → Prop) (country : Str) (alts : List Str)
    (h : ∀ p ∈ country :: alts, ∀ s, P s → P (trimPrefix p s)) (fuel : Nat) (s : Str) (hs : P s) :
    P (trimLoop country alts fuel s) := by
  induction fuel generalizing s with
  | zero => exact hs
  | succ f ih =>
    simp only [trimLoop]
    split
    · exact hs
    · exact ih _ (foldl_trim_inv P _ h s hs)

/-- the fuel `length + 1` always reaches the `break`: the result of the loop is left alone by a further pass -/
theorem trimLoop_stable (country : Str) (alts : List Str) (fuel : Nat) (s : Str) (h : s.length < fuel) :
    trimPass country alts (trimLoop country alts fuel s) = trimLoop country alts fuel s := by
  induction fuel generalizing s with
  | zero => omega
  | succ f ih =>
    simp only [trimLoop]
    split
    · rename_i he; simpa using he
    · rename_i he
      have hne : trimPass country alts s ≠ s := by simpa using he
      exact ih _ (by have := foldl_trim_lt_of_ne (country :: alts) s hne; rw [← trimPass_eq_foldl] at this; omega)

theorem trimLoop_of_fixed (country : Str) (alts : List Str) (fuel : Nat) (r : Str)
    (h : trimPass country alts r = r) : trimLoop country alts fuel r = r := by
  cases fuel with
  | zero => rfl
  | succ f => simp [trimLoop, h]

theorem normalizeIdentity_clean (country : Str) (alts : List Str) (code : Str) :
    (normalizeIdentity country alts code).all isAZ09 = true :=
  trimLoop_inv (·.all isAZ09 = true) country alts (fun p _ s => trimPrefix_clean p s) _ _ (stripBad_clean _)

theorem normalizeIdentity_stable (country : Str) (alts : List Str) (code : Str) :
    trimPass country alts (normalizeIdentity country alts code) = normalizeIdentity country alts code :=
  trimLoop_stable country alts _ _ (Nat.lt_succ_self _)

theorem normalizeIdentity_trimPrefix_fixed (country : Str) (alts : List Str) (code : Str) :
    ∀ p ∈ country :: alts, trimPrefix p (normalizeIdentity country alts code) = normalizeIdentity country alts code :=
  (trimPass_fixed_iff ..).mp (normalizeIdentity_stable country alts code)

theorem normalizeIdentity_fixed (country : Str) (alts : List Str) (r : Str) (hc : r.all isAZ09 = true)
    (h : trimPass country alts r = r) : normalizeIdentity country alts r = r := by
  unfold normalizeIdentity
  rw [clean_fixed r hc]
  exact trimLoop_of_fixed country alts _ r h

theorem filter_isDig_upper (s : Str) : (upper s).filter isDig = s.filter isDig := by
  induction s with
  | nil => rfl
  | cons c cs ih =>
    simp only [upper, List.map_cons, List.filter_cons, isDig_toUpper] at ih ⊢
    cases h : isDig c with
    | false => simpa using ih
    | true =>
      have : c.toUpper = c := toUpper_of_isAZ09 c (by simp [isAZ09, h])
      simp [this, ih]

theorem filter_isDig_stripBad (s : Str) : (stripBad s).filter isDig = s.filter isDig := by
  simp only [stripBad, List.filter_filter]
  congr 1
  funext c
  cases h : isDig c <;> simp [isAZ09, h]

theorem filter_isDig_trimPrefix (p s : Str) (hp : p.filter isDig = []) :
    (trimPrefix p s).filter isDig = s.filter isDig := by
  unfold trimPrefix
  split
  · rename_i h
    obtain ⟨t, rfl⟩ := List.isPrefixOf_iff_prefix.mp h
    simp [hp]
  · rfl

theorem keepsDigits_of_eq (a b : Str) (h : b.filter isDig = a.filter isDig) :
    Spec.TaxId.keepsDigits a b = true ∧ Spec.TaxId.keepsDigitsSuffix a b = true := by
  simp [Spec.TaxId.keepsDigits, Spec.TaxId.keepsDigitsSuffix, Spec.TaxId.digitsOf, h]

theorem stripCodes_trimPrefix (codes : List Str) (p : Str) (hp : p ∈ codes) (hl : p.length = 2) (s : Str) :
    stripCodes codes (trimPrefix p s) = stripCodes codes s := by
  match p, hl with
  | [a, b], _ =>
    unfold trimPrefix
    split
    · rename_i h
      obtain ⟨rest, rfl⟩ := List.isPrefixOf_iff_prefix.mp h
      simp [stripCodes, hp]
    · rfl

theorem stripCodes_of_fixed (codes : List Str) (r : Str) (h : ∀ p ∈ codes, trimPrefix p r = r) :
    stripCodes codes r = r := by
  match r with
  | [] => rfl
  | [_] => rfl
  | a :: b :: rest =>
    simp only [stripCodes]
    split
    · rename_i hc
      have hm : [a, b] ∈ codes := by simpa using hc
      have := h _ hm
      simp [trimPrefix] at this
      have := congrArg List.length this
      simp at this
      omega
    · rfl

theorem chSuffixStar_cons {x : Str} (hx : x ∈ chSuffixes) (r : Str) : chSuffixStar (x ++ r) = chSuffixStar r := by
  simp only [chSuffixes, List.mem_cons, List.not_mem_nil, or_false] at hx
  rcases hx with rfl | rfl | rfl <;> simp [chSuffixStar]

theorem chSuffixStar_iff (t : Str) :
    chSuffixStar t = true ↔ ∃ parts : List Str, (∀ x ∈ parts, x ∈ chSuffixes) ∧ t = parts.flatten := by
  constructor
  · intro h
    fun_induction chSuffixStar t with
    | case1 => exact ⟨[], by simp, rfl⟩
    | case2 r ih => obtain ⟨ps, h1, h2⟩ := ih h; exact ⟨['M','W','S','T'] :: ps, by simpa [chSuffixes] using h1, by simp [h2]⟩
    | case3 r ih => obtain ⟨ps, h1, h2⟩ := ih h; exact ⟨['T','V','A'] :: ps, by simpa [chSuffixes] using h1, by simp [h2]⟩
    | case4 r ih => obtain ⟨ps, h1, h2⟩ := ih h; exact ⟨['I','V','A'] :: ps, by simpa [chSuffixes] using h1, by simp [h2]⟩
    | case5 => simp at h
  · rintro ⟨parts, hp, rfl⟩
    induction parts with
    | nil => rfl
    | cons x ps ih =>
      rw [List.flatten_cons, chSuffixStar_cons (hp x (List.mem_cons_self ..))]
      exact ih fun y hy => hp y (List.mem_cons_of_mem _ hy)

theorem chSuffixStar_append (a b : Str) (ha : chSuffixStar a = true) (hb : chSuffixStar b = true) :
    chSuffixStar (a ++ b) = true := by
  obtain ⟨pa, h1, rfl⟩ := (chSuffixStar_iff a).mp ha
  obtain ⟨pb, h2, rfl⟩ := (chSuffixStar_iff b).mp hb
  exact (chSuffixStar_iff _).mpr ⟨pa ++ pb, by simpa [or_imp, forall_and] using ⟨h1, h2⟩, by simp⟩

theorem chStripSuffix_split (s : Str) : ∃ t, s = chStripSuffix s ++ t ∧ chSuffixStar t = true := by
  induction s with
  | nil => exact ⟨[], rfl, rfl⟩
  | cons c cs ih =>
    simp only [chStripSuffix]
    split
    · rename_i h
      simp only [chSuffixPlus, Bool.and_eq_true] at h
      exact ⟨c :: cs, rfl, h.2⟩
    · obtain ⟨t, h1, h2⟩ := ih
      exact ⟨t, by simp [← h1], h2⟩

theorem chStripSuffix_prefix (s : Str) : chStripSuffix s <+: s := by
  obtain ⟨t, h, _⟩ := chStripSuffix_split s
  exact ⟨t, h.symm⟩

theorem chSuffixPlus_append (a b : Str) (ha : chSuffixPlus a = true) (hb : chSuffixStar b = true) :
    chSuffixPlus (a ++ b) = true := by
  simp only [chSuffixPlus, Bool.and_eq_true] at ha ⊢
  refine ⟨?_, chSuffixStar_append a b ha.2 hb⟩
  cases a with
  | nil => simp at ha
  | cons x xs => simp

theorem chStripSuffix_idem (s : Str) : chStripSuffix (chStripSuffix s) = chStripSuffix s := by
  induction s with
  | nil => rfl
  | cons c cs ih =>
    simp only [chStripSuffix]
    split
    · rfl
    · rename_i hn
      simp only [chStripSuffix]
      split
      · rename_i hp
        exfalso
        obtain ⟨t, h1, h2⟩ := chStripSuffix_split cs
        have := chSuffixPlus_append _ t hp h2
        simp only [List.cons_append, ← h1] at this
        exact hn this
      · rw [ih]

theorem chStripSuffix_length_append (u t : Str) (ht : chSuffixPlus t = true) :
    (chStripSuffix (u ++ t)).length ≤ u.length := by
  induction u with
  | nil =>
    cases t with
    | nil => simp [chSuffixPlus] at ht
    | cons c cs => simp [chStripSuffix, ht]
  | cons c us ih =>
    simp only [List.cons_append, chStripSuffix]
    split
    · simp
    · simp only [List.length_cons]; omega

theorem endsWith_split (suf s : Str) (h : endsWith suf s = true) : ∃ t, s = t ++ suf := by
  unfold endsWith at h
  obtain ⟨u, hu⟩ := List.isPrefixOf_iff_prefix.mp h
  refine ⟨u.reverse, ?_⟩
  have := congrArg List.reverse hu
  simpa using this.symm

theorem chStripSuffix_no_suffix (s x : Str) (hx : x ∈ chSuffixes) : endsWith x (chStripSuffix s) = false := by
  cases h : endsWith x (chStripSuffix s) with
  | false => rfl
  | true =>
    exfalso
    obtain ⟨u, hu⟩ := endsWith_split _ _ h
    have hp : chSuffixPlus x = true := by
      simp only [chSuffixes, List.mem_cons, List.not_mem_nil, or_false] at hx
      rcases hx with rfl | rfl | rfl <;> decide
    have h1 := chStripSuffix_length_append u x hp
    rw [← hu, chStripSuffix_idem, hu] at h1
    have : 0 < x.length := List.length_pos_iff.mpr (by rintro rfl; simp [chSuffixPlus] at hp)
    simp only [List.length_append] at h1
    omega

theorem chStripSuffix_clean (s : Str) (h : s.all isAZ09 = true) : (chStripSuffix s).all isAZ09 = true := by
  rw [List.all_eq_true] at h ⊢
  intro x hx
  exact h x ((chStripSuffix_prefix s).subset hx)

theorem chSuffixStar_no_digits (t : Str) (h : chSuffixStar t = true) : t.filter isDig = [] := by
  obtain ⟨parts, hp, rfl⟩ := (chSuffixStar_iff t).mp h
  clear h
  have hx : ∀ x ∈ chSuffixes, x.filter isDig = [] := by decide
  induction parts with
  | nil => rfl
  | cons x ps ih =>
    rw [List.flatten_cons, List.filter_append, hx x (hp x (List.mem_cons_self ..)), List.nil_append]
    exact ih fun y hy => hp y (List.mem_cons_of_mem _ hy)

theorem filter_isDig_chStripSuffix (s : Str) : (chStripSuffix s).filter isDig = s.filter isDig := by
  obtain ⟨t, h1, h2⟩ := chStripSuffix_split s
  conv => rhs; rw [h1]
  simp [chSuffixStar_no_digits t h2]

/-- the class `[A-ZÑ\&0-9]` that the MX normaliser keeps -/
def mxKept (c : Char) : Bool := isUp c || c == 'Ñ' || c == '&' || isDig c

theorem mxUpper_isDig (c : Char) : isDig (mxUpper c) = isDig c := by
  unfold mxUpper
  split
  · rename_i h; simp at h; subst h; decide
  · exact isDig_toUpper c

theorem mxUpper_of_kept (c : Char) (h : mxKept c = true) : mxUpper c = c := by
  unfold mxUpper
  split
  · rename_i h'; simp at h'; subst h'; simp [mxKept, isUp, isDig] at h
  · simp only [mxKept, Bool.or_eq_true, beq_iff_eq] at h
    rcases h with ((h | rfl) | rfl) | h
    · exact toUpper_of_isAZ09 c (isAZ09_of_isUp h)
    · decide
    · decide
    · exact toUpper_of_isAZ09 c (isAZ09_of_isDig h)

theorem mxNormalize_fixed (r : Str) (hr : r.all mxKept = true) : mxNormalize r = r := by
  induction r with
  | nil => rfl
  | cons c cs ih =>
    simp only [List.all_cons, Bool.and_eq_true] at hr
    have := ih hr.2
    have hk : (isUp c || c == 'Ñ' || c == '&' || isDig c) = true := hr.1
    simp only [mxNormalize, List.map_cons, List.filter_cons, mxUpper_of_kept c hr.1, hk, if_true] at this ⊢
    rw [this]

theorem filter_isDig_map_mxUpper (s : Str) : (s.map mxUpper).filter isDig = s.filter isDig := by
  induction s with
  | nil => rfl
  | cons c cs ih =>
    simp only [List.map_cons, List.filter_cons, mxUpper_isDig]
    cases h : isDig c with
    | true => simp [mxUpper_of_kept c (by simp [mxKept, h]), ih]
    | false => simpa using ih

theorem filter_isDig_mxNormalize (s : Str) : (mxNormalize s).filter isDig = s.filter isDig := by
  rw [← filter_isDig_map_mxUpper s]
  simp only [mxNormalize, List.filter_filter]
  congr 1
  funext a
  cases isDig a <;> simp

theorem vatCheck_clean (s : Str) : (FR.calculateVATCheckDigit s).all isAZ09 = true := by
  simp only [FR.calculateVATCheckDigit, List.all_cons, List.all_nil, Bool.and_true]
  rw [isAZ09_of_isDig (isDig_digitChar (by omega)), isAZ09_of_isDig (isDig_digitChar (by omega))]; rfl

theorem vatCheck_length (s : Str) : (FR.calculateVATCheckDigit s).length = 2 := rfl

theorem frExtend_clean (s : Str) (h : s.all isAZ09 = true) : (frExtend s).all isAZ09 = true := by
  unfold frExtend
  repeat' split
  · simp [List.all_append, vatCheck_clean s, h]
  · exact h
  · exact h

theorem frExtend_idem (s : Str) : frExtend (frExtend s) = frExtend s := by
  unfold frExtend
  split
  · split
    · rename_i hl _
      have : ((FR.calculateVATCheckDigit s ++ s).length == 9) = false := by
        simp [vatCheck_length s] at hl ⊢; omega
      rw [this]; rfl
    · simp [*]
  · simp [*]

theorem frExtend_digits (s : Str) : ∃ k, (frExtend s).filter isDig = k ++ s.filter isDig := by
  unfold frExtend
  split
  · split
    · exact ⟨_, List.filter_append ..⟩
    · exact ⟨[], rfl⟩
  · exact ⟨[], rfl⟩

/-- a country code without digits is not a prefix of a text that begins with a digit; so FR's
    extension of a SIREN does not bring a country prefix back -/
theorem trimPrefix_frExtend (country s : Str) (hcd : country.filter isDig = []) (h : trimPrefix country s = s) :
    trimPrefix country (frExtend s) = frExtend s := by
  unfold frExtend
  split
  · split
    · cases country with
      | nil => rfl
      | cons c cs =>
        have hk : isDig (digitChar ((atoi0 s * 100 + 12) % 97 / 10)) = true := isDig_digitChar (by omega)
        have hne : (c == digitChar ((atoi0 s * 100 + 12) % 97 / 10)) = false := by
          rw [beq_eq_false_iff_ne]; rintro rfl; simp [hk] at hcd
        simp [trimPrefix, FR.calculateVATCheckDigit, List.isPrefixOf, hne]
    · exact h
  · exact h

theorem normalize_MX (c s : Str) : normalize "MX" c s = (c, mxNormalize s) := rfl
theorem normalize_CH (c s : Str) : normalize "CH" c s = (c, chStripSuffix (normalizeIdentity c [] s)) := rfl
theorem normalize_FR (c s : Str) :
    normalize "FR" c s = (c, if s.isEmpty then s else frExtend (normalizeIdentity c [] s)) := rfl
theorem normalize_EL (c s : Str) : normalize "EL" c s = (['E','L'], normalizeIdentity ['E','L'] (altsOf "EL") s) := rfl
theorem normalize_IN (c s : Str) : normalize "IN" c s = (['I','N'], normalizeIdentity c (altsOf "IN") s) := rfl
theorem normalize_GB (c s : Str) : normalize "GB" c s = (c, normalizeIdentity c (altsOf "GB") s) := rfl

theorem normalize_cases (cc : String) (c s : Str) :
    cc = "MX" ∨ cc = "CH" ∨ cc = "FR" ∨ cc = "EL" ∨ cc = "IN" ∨ cc = "GB" ∨ normalize cc c s = (c, normalizeIdentity c [] s) := by
  unfold normalize
  simp only [Bool.not_true, Bool.false_eq_true, if_false]
  split <;> simp

end GoblVerif.TaxId
