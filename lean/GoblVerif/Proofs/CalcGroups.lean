/-
  Rate groups by key.  A group is identified by (extensions, country,
  percentage | exempt, surcharge percentage) with percentages compared by
  value; every combo of every row contributes its row's total to the one group
  with its key.  Two statements about `calculateBaseRateTotals` carry the file:
  whatever is read off the groups linearly in their bases is the same reading of the (combo, row total) pairs
  (`baseRateTotals_wBases`; a selection of keys, one group, a category are choices of the weight), and the
  invariant of the accumulation (`baseRateTotals_summaryInv`).

  The keys are written twice: `Key`, `comboKey`, `rtKey` here and `GroupKey`, `keyOfCombo`, `keyOfRate` in
  Spec/C02.lean are the same by `rfl` (`keyOfCombo_eq`, `keyOfRate_eq`), and `contrib r c t` is
  `(contributed r c t).toRat` (`contrib_eq`).  Statements of Props/C02 and Props/C17 fix the first spelling, the oracle
  `Spec.C02.summaryOk` the second; the file speaks the first up to the invariant and the second from there.
-/
import GoblVerif.Spec.C02
import GoblVerif.Proofs.CalcTax
import GoblVerif.Proofs.UpsertSum

namespace GoblVerif.Calc

/-- the identity of a rate group: extensions, country, and — unless exempt — the percentage and the
surcharge percentage, compared by value (`20%` and `20.0%` are the same rate) -/
abbrev Key := String × String × Option (ℚ × Option ℚ)

def comboKey (cb : Combo) : Key :=
  (cb.ext, cb.country, cb.percent.map (fun p => (p.amount.toRat, cb.surcharge.map (·.amount.toRat))))

def rtKey (rt : RateTotal) : Key :=
  (rt.ext, rt.country, rt.percent.map (fun p => (p.amount.toRat, rt.surcharge.map (·.1.amount.toRat))))

/-- the combo a group was created for, as far as matching is concerned -/
def keyCombo (rt : RateTotal) : Combo :=
  { cat := "", country := rt.country, key := rt.key, percent := rt.percent,
    surcharge := rt.surcharge.map (·.1), ext := rt.ext, retained := false }

/-- no earlier group matches the key of a later one -/
def Distinct (rts : List RateTotal) : Prop :=
  rts.Pairwise (fun a b => rtMatches a (keyCombo b) = false)

theorem amtEq_iff (a b : Amount) : amtEq a b = true ↔ a.toRat = b.toRat := by
  unfold amtEq
  simp only [beq_iff_eq]
  set e := if b.exp > a.exp then b.exp else a.exp with he
  have h1 : (up a e).exp = (up b e).exp := by rw [up_exp, up_exp, he]; split <;> omega
  rw [← up_toRat a e, ← up_toRat b e]
  exact ⟨fun h => by rw [amount_eq_of_toRat _ _ h1 (by unfold Amount.toRat; rw [h, h1])], fun h => by rw [amount_eq_of_toRat _ _ h1 h]⟩

theorem pctEq_iff (p q : Pct) : pctEq p q = true ↔ p.amount.toRat = q.amount.toRat := amtEq_iff _ _

/-- `RateTotal.matches` is equality of keys -/
theorem rtMatches_iff (rt : RateTotal) (cb : Combo) : rtMatches rt cb = true ↔ rtKey rt = comboKey cb := by
  unfold rtMatches rtKey comboKey
  by_cases h1 : rt.ext = cb.ext
  · by_cases h2 : rt.country = cb.country
    · simp only [h1, h2, bne_self_eq_false, Bool.false_eq_true, if_false, Prod.mk.injEq, true_and]
      cases hp : rt.percent with
      | none => cases hq : cb.percent <;> simp
      | some p =>
        cases hq : cb.percent with
        | none => simp
        | some q =>
          simp only [Option.map_some, Option.some.injEq, Prod.mk.injEq, Bool.and_eq_true, pctEq_iff]
          cases hs : rt.surcharge with
          | none => cases hs' : cb.surcharge <;> simp [and_comm]
          | some s =>
            obtain ⟨sp, sa⟩ := s
            cases hs' : cb.surcharge with
            | none => simp
            | some sq => simp [pctEq_iff, and_comm]
    · have : (rt.country != cb.country) = true := by simpa using h2
      simp [h1, this, h2]
  · have : (rt.ext != cb.ext) = true := by simpa using h1
    simp [this, h1]

theorem rtMatches_false_iff (rt : RateTotal) (cb : Combo) : rtMatches rt cb = false ↔ rtKey rt ≠ comboKey cb := by
  rw [Ne, ← rtMatches_iff]; simp

theorem rtKey_newRate (c : ℕ) (cb : Combo) (b : Amount) : rtKey { newRate c cb with base := b } = comboKey cb := by
  simp only [rtKey, newRate, comboKey, Prod.mk.injEq, true_and]
  cases cb.percent with
  | none => rfl
  | some p => cases cb.surcharge <;> simp

theorem comboKey_keyCombo (rt : RateTotal) : comboKey (keyCombo rt) = rtKey rt := by
  unfold comboKey keyCombo rtKey
  simp only [Prod.mk.injEq, true_and]
  cases rt.percent with
  | none => rfl
  | some p => simp [Option.map_map, Function.comp_def]

theorem keyCombo_newRate (c : ℕ) (cb : Combo) (rt : RateTotal) :
    rtMatches rt (keyCombo (newRate c cb)) = rtMatches rt cb := by
  rw [Bool.eq_iff_iff, rtMatches_iff, rtMatches_iff, comboKey_keyCombo]
  exact ⟨fun h => h.trans (rtKey_newRate c cb _), fun h => h.trans (rtKey_newRate c cb _).symm⟩

theorem rateAmounts_key (rt : RateTotal) (c : ℕ) : rtKey (rateAmounts exactOps rt c) = rtKey rt := by
  unfold rateAmounts rtKey
  cases rt.percent <;> cases rt.surcharge <;> rfl

theorem keyedRates (r : Rule) (c : ℕ) (cb : Combo) (t : Amount) :
    Keyed (rtMatches · cb) (fun rt => { rt with base := taxStep exactOps r rt.base t })
      { newRate c cb with base := taxStep exactOps r (newRate c cb).base t } rtKey :=
  ⟨fun rt => (rtMatches_iff rt cb).trans (by rw [rtKey_newRate]), fun _ _ => rfl⟩

theorem keyedCats (r : Rule) (c : ℕ) (cb : Combo) (t : Amount) :
    Keyed (·.code == cb.cat) (fun ct : CatTotal => { ct with rates := addToRates exactOps r c cb t ct.rates })
      { code := cb.cat, retained := cb.retained, rates := addToRates exactOps r c cb t [], amount := ⟨0, c⟩,
        surcharge := none, precise := ⟨0, c⟩ }
      (·.code) :=
  ⟨fun _ => beq_iff_eq, fun _ _ => rfl⟩

/-! ### sums of bases -/

def ratesBase (rts : List RateTotal) : ℚ := (rts.map (·.base.toRat)).sum

/-- sum of the bases of all groups of category `k` -/
def catBase (k : String) (cats : List CatTotal) : ℚ :=
  ((cats.filter (·.code == k)).map (fun ct => ratesBase ct.rates)).sum

/-- what the combos of one row contribute to category `k` -/
def rowContrib (r : Rule) (c : ℕ) (k : String) (rw : Row) : ℚ :=
  ((rw.taxes.filter (·.cat == k)).map (fun _ => contrib r c rw.total)).sum

/-- sum of the bases of the groups whose key satisfies `q` -/
def selBase (q : Key → Bool) (rts : List RateTotal) : ℚ :=
  ((rts.filter (fun rt => q (rtKey rt))).map (·.base.toRat)).sum

def catSelBase (q : Key → Bool) (cat : String) (cats : List CatTotal) : ℚ :=
  ((cats.filter (·.code == cat)).map (fun ct => selBase q ct.rates)).sum

/-- sum of the bases of the groups with key `k` (there is at most one, see `groups_pairwise_distinct`) -/
def groupBase (k : Key) (rts : List RateTotal) : ℚ :=
  ((rts.filter (fun rt => rtKey rt = k)).map (·.base.toRat)).sum

/-- bases of the groups with key `k` in category `cat` -/
def catGroupBase (cat : String) (k : Key) (cats : List CatTotal) : ℚ :=
  ((cats.filter (·.code == cat)).map (fun ct => groupBase k ct.rates)).sum

/-- what one row contributes to the group `(cat, k)`: its total once for every combo with that
category and key -/
def rowGroupContrib (r : Rule) (c : ℕ) (cat : String) (k : Key) (rw : Row) : ℚ :=
  ((rw.taxes.filter (fun cb => cb.cat == cat ∧ comboKey cb = k)).map (fun _ => contrib r c rw.total)).sum

/-- Σ over every rate group of its base × a weight `w` of the category code and the group's key -/
def wBases (w : String → Key → ℚ) (cats : List CatTotal) : ℚ :=
  (cats.map fun ct => (ct.rates.map fun rt => rt.base.toRat * w ct.code (rtKey rt)).sum).sum

theorem addToRates_wBases (w : Key → ℚ) (r : Rule) (c : ℕ) (cb : Combo) (t : Amount) (rts : List RateTotal)
    (hok : RatesOk r c rts) :
    ((addToRates exactOps r c cb t rts).map fun rt => rt.base.toRat * w (rtKey rt)).sum =
      (rts.map fun rt => rt.base.toRat * w (rtKey rt)).sum + contrib r c t * w (comboKey cb) := by
  rw [addToRates_eq]
  refine sum_map_updFirst _ _ (fun rt hrt hm => ?_) ?_
  · rw [(taxStep_toRat r c rt.base t (fun hr => hok hr rt hrt)).1,
      show rtKey { rt with base := taxStep exactOps r rt.base t } = rtKey rt from rfl, (rtMatches_iff rt cb).mp hm]
    ring
  · rw [List.map_singleton, List.sum_singleton, rtKey_newRate]
    show (taxStep exactOps r ⟨0, c⟩ t).toRat * _ = _
    rw [(taxStep_toRat r c ⟨0, c⟩ t (fun _ => rfl)).1, toRat_zero, zero_add]

theorem addToCats_wBases (w : String → Key → ℚ) (r : Rule) (c : ℕ) (cb : Combo) (t : Amount)
    (cats : List CatTotal) (hok : CatsOk r c cats) :
    wBases w (addToCats exactOps r c cb t cats) = wBases w cats + contrib r c t * w cb.cat (comboKey cb) := by
  unfold wBases
  rw [addToCats_eq]
  refine sum_map_updFirst _ _ (fun ct hct hm => ?_) ?_
  · rw [addToRates_wBases _ r c cb t ct.rates (hok ct hct), show ct.code = cb.cat by simpa using hm]
  · simpa using addToRates_wBases (w cb.cat) r c cb t [] (fun _ _ h => by simp at h)

theorem baseRateTotals_wBases (w : String → Key → ℚ) (r : Rule) (c : ℕ) (rows : List Row) :
    wBases w (baseRateTotals exactOps r c rows) =
      ((pairsOf rows).map fun x => contrib r c x.2 * w x.1.cat (comboKey x.1)).sum := by
  rw [baseRateTotals_eq]
  exact ((foldl_sum _ (wBases w) _ (CatsOk r c) _
    (fun cats x _ h => ⟨addToCats_wBases w r c x.1 x.2 cats h, addToCats_catsOk r c x.1 x.2 cats h⟩)
    [] (fun _ h => by simp at h)).1).trans (by simp [wBases])

theorem sum_pairsOf (g : Combo → Amount → ℚ) (rows : List Row) :
    ((pairsOf rows).map fun x => g x.1 x.2).sum = (rows.map fun rw => (rw.taxes.map fun cb => g cb rw.total).sum).sum := by
  unfold pairsOf
  induction rows with
  | nil => rfl
  | cons rw rows ih =>
    rw [List.flatMap_cons, List.map_append, List.sum_append, ih, List.map_cons, List.sum_cons, List.map_map]
    rfl

theorem sum_ite_const {α : Type} (P : Prop) [Decidable P] (g : α → ℚ) (l : List α) :
    (l.map fun x => if P then g x else 0).sum = if P then (l.map g).sum else 0 := by
  split <;> simp

/-- the weight that selects the keys `q` in category `cat` -/
def selW (q : Key → Bool) (cat : String) (k : String) (key : Key) : ℚ := if k == cat then (if q key then 1 else 0) else 0

theorem wBases_selW (q : Key → Bool) (cat : String) (cats : List CatTotal) :
    wBases (selW q cat) cats = catSelBase q cat cats := by
  simp only [wBases, selW, catSelBase, selBase, Err.sum_filter_ite, mul_ite, mul_one, mul_zero, sum_ite_const]

theorem baseRateTotals_sel (q : Key → Bool) (r : Rule) (c : ℕ) (cat : String) (rows : List Row) :
    catSelBase q cat (baseRateTotals exactOps r c rows) =
      (rows.map fun rw => ((rw.taxes.filter fun cb => cb.cat == cat ∧ q (comboKey cb)).map fun _ => contrib r c rw.total).sum).sum := by
  rw [← wBases_selW, baseRateTotals_wBases, sum_pairsOf (fun cb t => contrib r c t * selW q cat cb.cat (comboKey cb))]
  simp only [selW, Err.sum_filter_ite, mul_ite, mul_one, mul_zero, Bool.decide_and, Bool.and_eq_true, decide_eq_true_eq, ite_and]

theorem catGroupBase_eq_sel (cat : String) (k : Key) (cats : List CatTotal) :
    catGroupBase cat k cats = catSelBase (fun k' => decide (k' = k)) cat cats := rfl

theorem catBase_eq_sel (k : String) (cats : List CatTotal) : catBase k cats = catSelBase (fun _ => true) k cats := by
  simp only [catBase, ratesBase, catSelBase, selBase, List.filter_true]

theorem addToCats_group (r : Rule) (c : ℕ) (cb : Combo) (t : Amount) (cat : String) (k : Key)
    (cats : List CatTotal) (hok : CatsOk r c cats) :
    catGroupBase cat k (addToCats exactOps r c cb t cats) =
      catGroupBase cat k cats + (if cb.cat == cat ∧ comboKey cb = k then contrib r c t else 0) := by
  rw [catGroupBase_eq_sel, catGroupBase_eq_sel, ← wBases_selW, ← wBases_selW, addToCats_wBases _ r c cb t cats hok]
  simp only [selW, mul_ite, mul_one, mul_zero, ite_and, decide_eq_true_eq]

/-- **Partition by key.** -/
theorem baseRateTotals_group (r : Rule) (c : ℕ) (cat : String) (k : Key) (rows : List Row) :
    catGroupBase cat k (baseRateTotals exactOps r c rows) = (rows.map (rowGroupContrib r c cat k)).sum := by
  rw [catGroupBase_eq_sel, baseRateTotals_sel]
  simp only [decide_eq_true_eq]; rfl

/-! ### the invariant of the accumulation

In the vocabulary of `Spec/C02.lean` (its keys are the ones above): after any number of (combo, total)
pairs, categories and groups are unambiguous, every pair has found its group, and every group's base
is — in value and in precision — the sum of the contributions with its category and key. -/

open GoblVerif.Spec GoblVerif.Spec.C02

theorem keyOfCombo_eq (cb : Combo) : keyOfCombo cb = comboKey cb := rfl
theorem keyOfRate_eq (rt : RateTotal) : keyOfRate rt = rtKey rt := rfl

theorem contrib_eq (r : Rule) (c : ℕ) (t : Amount) : contrib r c t = (contributed r c t).toRat := by
  cases r with
  | currency => exact toRat_at _ c (rescaleX_exp t c) |>.trans (by rw [rescaleX_value]; rfl)
  | precise => rfl
  | other => rfl

theorem contributed_exp_currency (c : ℕ) (t : Amount) : (contributed .currency c t).exp = c := rfl

theorem contributed_other (r : Rule) (hr : r ≠ .currency) (c : ℕ) (t : Amount) : contributed r c t = t := by
  cases r <;> simp_all [contributed]

theorem le_workExp (c : ℕ) (g : List Amount) : c ≤ workExp c g := (le_foldl_max g c).1

theorem workExp_append (c : ℕ) (g : List Amount) (a : Amount) :
    workExp c (g ++ [a]) = max (workExp c g) a.exp := by
  unfold workExp
  rw [List.foldl_append]
  rfl

theorem baseQ_append (g : List Amount) (a : Amount) : baseQ (g ++ [a]) = baseQ g + a.toRat := by
  unfold baseQ
  simp

theorem groupOf_append (ws : List Contribution) (w : Contribution) (cat : String) (k : GroupKey) :
    groupOf (ws ++ [w]) cat k = groupOf ws cat k ++ (if w.cat = cat ∧ w.key = k then [w.amount] else []) := by
  unfold groupOf
  rw [List.filter_append, List.map_append]
  congr 1
  by_cases h : w.cat = cat ∧ w.key = k <;> simp [h]

theorem groupOf_nil_of_absent (ws : List Contribution) (cat : String) (k : GroupKey)
    (h : ∀ w ∈ ws, w.cat = cat → w.key ≠ k) : groupOf ws cat k = [] := by
  unfold groupOf
  rw [List.map_eq_nil_iff, List.filter_eq_nil_iff]
  intro w hw
  simp only [decide_eq_true_eq]
  exact fun hk => h w hw hk.1 hk.2

/-- a group's base is, in value and in precision, the sum of the contributions with its category and key -/
structure GroupFacts (r : Rule) (c : ℕ) (ws : List Contribution) (cat : String) (rt : RateTotal) : Prop where
  value : rt.base.toRat = baseQ (groupOf ws cat (keyOfRate rt))
  exp : rt.base.exp = workExp c (groupOf ws cat (keyOfRate rt))
  currency : AtCur r c rt.base

theorem base_step_exp_rule (r : Rule) (c : ℕ) (base t : Amount) (hb : AtCur r c base) :
    (taxStep exactOps r base t).exp = max base.exp (contributed r c t).exp := by
  rw [taxStep_exp r c base t hb]
  split_ifs with hr
  · subst hr
    rw [hb rfl, contributed_exp_currency, max_self]
  · rw [contributed_other r hr]

theorem GroupFacts.step (r : Rule) (c : ℕ) (ws : List Contribution) (cat : String) (rt : RateTotal) (t : Amount)
    (w : Contribution) (hw : w.amount = contributed r c t) (hk : w.cat = cat ∧ w.key = keyOfRate rt)
    (h : GroupFacts r c ws cat rt) :
    GroupFacts r c (ws ++ [w]) cat { rt with base := taxStep exactOps r rt.base t } := by
  obtain ⟨h1, h2, h3⟩ := h
  have hkey : keyOfRate { rt with base := taxStep exactOps r rt.base t } = keyOfRate rt := rfl
  obtain ⟨b1, b2⟩ := taxStep_toRat r c rt.base t h3
  refine ⟨?_, ?_, b2⟩
  · rw [hkey, groupOf_append, if_pos hk, baseQ_append, ← h1, hw, ← contrib_eq]
    exact b1
  · rw [hkey, groupOf_append, if_pos hk, workExp_append, ← h2, hw]
    exact base_step_exp_rule r c rt.base t h3

theorem GroupFacts.skip (r : Rule) (c : ℕ) (ws : List Contribution) (cat : String) (rt : RateTotal)
    (w : Contribution) (hk : ¬ (w.cat = cat ∧ w.key = keyOfRate rt)) (h : GroupFacts r c ws cat rt) :
    GroupFacts r c (ws ++ [w]) cat rt := by
  have e : groupOf (ws ++ [w]) cat (keyOfRate rt) = groupOf ws cat (keyOfRate rt) := by
    rw [groupOf_append, if_neg hk, List.append_nil]
  exact ⟨e ▸ h.value, e ▸ h.exp, h.currency⟩

theorem GroupFacts.empty (r : Rule) (c : ℕ) (ws : List Contribution) (cat : String) (cb : Combo)
    (h : groupOf ws cat (keyOfCombo cb) = []) : GroupFacts r c ws cat (newRate c cb) := by
  have e : groupOf ws cat (keyOfRate (newRate c cb)) = [] := by
    rw [show keyOfRate (newRate c cb) = keyOfCombo cb from rtKey_newRate c cb _, h]
  exact ⟨by rw [e]; simp [baseQ, newRate, Amount.toRat], by rw [e]; rfl, fun _ => rfl⟩

def KeysDistinct (rts : List RateTotal) : Prop := (rts.map keyOfRate).Pairwise (· ≠ ·)

/-- what the invariant says of one category -/
structure CatInv (r : Rule) (c : ℕ) (ws : List Contribution) (ct : CatTotal) : Prop where
  keys : KeysDistinct ct.rates
  groups : ∀ rt ∈ ct.rates, GroupFacts r c ws ct.code rt
  covered : ∀ w ∈ ws, w.cat = ct.code → w.key ∈ ct.rates.map keyOfRate
  nonempty : ∀ rt ∈ ct.rates, groupOf ws ct.code (keyOfRate rt) ≠ []

theorem groupOf_append_ne_nil (ws : List Contribution) (w : Contribution) (cat : String) (k : GroupKey)
    (h : groupOf ws cat k ≠ [] ∨ (w.cat = cat ∧ w.key = k)) : groupOf (ws ++ [w]) cat k ≠ [] := by
  rw [groupOf_append]
  rcases h with h | h
  · simp [h]
  · simp [h]

theorem CatInv.other (r : Rule) (c : ℕ) (ws : List Contribution) (ct : CatTotal) (w : Contribution)
    (hne : w.cat ≠ ct.code) (h : CatInv r c ws ct) : CatInv r c (ws ++ [w]) ct := by
  obtain ⟨h1, h2, h3, h4⟩ := h
  refine ⟨h1, fun rt hrt => GroupFacts.skip r c ws ct.code rt w (fun hk => hne hk.1) (h2 rt hrt), ?_,
    fun rt hrt => groupOf_append_ne_nil _ _ _ _ (Or.inl (h4 rt hrt))⟩
  intro x hx hxc
  rcases List.mem_append.mp hx with hx | hx
  · exact h3 x hx hxc
  · rw [List.mem_singleton.mp hx] at hxc; exact absurd hxc hne

theorem CatInv.same (r : Rule) (c : ℕ) (ws : List Contribution) (ct : CatTotal) (cb : Combo) (t : Amount)
    (hcode : ct.code = cb.cat) (h : CatInv r c ws ct) :
    CatInv r c (ws ++ [⟨cb.cat, keyOfCombo cb, contributed r c t⟩])
      { ct with rates := addToRates exactOps r c cb t ct.rates } := by
  obtain ⟨h1, h2, h3, h4⟩ := h
  have K : Keyed _ _ _ keyOfRate := keyedRates r c cb t
  have hk : keyOfRate _ = keyOfCombo cb := rtKey_newRate c cb (taxStep exactOps r (newRate c cb).base t)
  rw [← hcode, addToRates_eq]
  refine ⟨K.nodup h1, K.transfer hk h1 ?_ ?_ ?_ h2, ?_,
    forall_updFirst (fun rt hrt => groupOf_append_ne_nil _ _ _ _ (Or.inl (h4 rt hrt)))
      (fun rt hrt _ => groupOf_append_ne_nil _ _ _ _ (Or.inl (h4 rt hrt)))
      (by simpa using groupOf_append_ne_nil _ _ _ _ (Or.inr ⟨rfl, hk.symm⟩))⟩
  · exact fun rt _ hne hq => GroupFacts.skip r c ws _ rt _ (fun hk => hne hk.2.symm) hq
  · exact fun rt _ he hq => GroupFacts.step r c ws _ rt t _ rfl ⟨rfl, he.symm⟩ hq
  · refine fun hall => GroupFacts.step r c ws _ _ t _ rfl ⟨rfl, (rtKey_newRate c cb _).symm⟩
      (GroupFacts.empty r c ws _ cb (groupOf_nil_of_absent ws _ _ fun w hw hwc hwk => ?_))
    obtain ⟨rt, hrt, hrk⟩ := List.mem_map.mp (h3 w hw hwc)
    exact hall rt hrt (hrk.trans hwk)
  · intro x hx hxc
    rw [K.mem_keys hk]
    rcases List.mem_append.mp hx with hx | hx
    · exact Or.inl (h3 x hx hxc)
    · rw [List.mem_singleton.mp hx]; exact Or.inr rfl

def CodesDistinct (cats : List CatTotal) : Prop := (cats.map (·.code)).Pairwise (· ≠ ·)

/-- the invariant of the accumulation -/
structure SummaryInv (r : Rule) (c : ℕ) (ws : List Contribution) (cats : List CatTotal) : Prop where
  codes : CodesDistinct cats
  each : ∀ ct ∈ cats, CatInv r c ws ct
  covered : ∀ w ∈ ws, w.cat ∈ cats.map (·.code)

/-- `Keyed.transfer` at both levels -/
theorem SummaryInv.step (r : Rule) (c : ℕ) (cb : Combo) (t : Amount) (ws : List Contribution) (cats : List CatTotal)
    (h : SummaryInv r c ws cats) :
    SummaryInv r c (ws ++ [⟨cb.cat, keyOfCombo cb, contributed r c t⟩]) (addToCats exactOps r c cb t cats) := by
  obtain ⟨h1, h2, h3⟩ := h
  have K := keyedCats r c cb t
  rw [addToCats_eq]
  refine ⟨K.nodup h1, K.transfer rfl h1 (fun ct _ hne => CatInv.other r c ws ct _ (fun e => hne e.symm))
    (fun ct _ he => CatInv.same r c ws ct cb t he) (fun hall => CatInv.same r c ws
      { code := cb.cat, retained := cb.retained, rates := [], amount := ⟨0, c⟩, surcharge := none, precise := ⟨0, c⟩ } cb t rfl
      ⟨by simp [KeysDistinct], fun _ h => by simp at h, fun w hw hwc => ?_, fun _ h => by simp at h⟩) h2, ?_⟩
  · obtain ⟨ct, hct, hcc⟩ := List.mem_map.mp (h3 w hw)
    exact absurd (hcc.trans hwc) (hall ct hct)
  · intro w hw
    rw [K.mem_keys rfl]
    rcases List.mem_append.mp hw with hw | hw
    · exact Or.inl (h3 w hw)
    · rw [List.mem_singleton.mp hw]; exact Or.inr rfl

/-- the contributions of the rows, in the order they are accumulated -/
def contribsOf (r : Rule) (c : ℕ) (rows : List Row) : List Contribution :=
  (pairsOf rows).map fun x => ⟨x.1.cat, keyOfCombo x.1, contributed r c x.2⟩

theorem baseRateTotals_summaryInv (r : Rule) (c : ℕ) (rows : List Row) :
    SummaryInv r c (contribsOf r c rows) (baseRateTotals exactOps r c rows) :=
  baseRateTotals_ind (rows := rows)
    (fun ps => SummaryInv r c (ps.map fun x : Combo × Amount => ⟨x.1.cat, keyOfCombo x.1, contributed r c x.2⟩))
    ⟨by simp [CodesDistinct], fun _ h => by simp at h, fun _ h => by simp at h⟩
    fun ps x cats _ h => by simpa using SummaryInv.step r c x.1 x.2 _ cats h

/-! ### read off the invariant -/

theorem find?_sum_of_distinct {cats : List CatTotal} (hd : CodesDistinct cats) (k : String) (g : CatTotal → ℚ) :
    (cats.map fun ct => if ct.code == k then g ct else 0).sum =
      match cats.find? (fun ct => ct.code == k) with | some ct => g ct | none => 0 := by
  induction cats with
  | nil => rfl
  | cons ct cts ih =>
    obtain ⟨h1, h2⟩ := List.pairwise_cons.mp hd
    rw [List.map_cons, List.sum_cons, List.find?_cons]
    by_cases hk : (ct.code == k) = true
    · have hk' : ct.code = k := by simpa using hk
      have : (cts.map fun x => if (x.code == k) = true then g x else 0).sum = 0 :=
        List.sum_eq_zero (by
          simp only [List.mem_map, forall_exists_index, and_imp, forall_apply_eq_imp_iff₂]
          exact fun x hx => by simp [← hk', Ne.symm (h1 x.code (List.mem_map_of_mem hx))])
      rw [this]; simp [hk]
    · simp only [hk, Bool.false_eq_true, if_false, zero_add]
      exact ih h2

/-- a base sits at the finest exponent among the contributions of its group, and no group is empty -/
theorem baseRateTotals_exps (r : Rule) (c lo E : ℕ) (rows : List Row) (hE : c ≤ E)
    (h : ∀ rw ∈ rows, rw.taxes ≠ [] → lo ≤ (contributed r c rw.total).exp ∧ (contributed r c rw.total).exp ≤ E) :
    ∀ ct ∈ baseRateTotals exactOps r c rows, ∀ rt ∈ ct.rates, lo ≤ rt.base.exp ∧ rt.base.exp ≤ E := by
  intro ct hct rt hrt
  obtain ⟨_, hg, _, hne⟩ := (baseRateTotals_summaryInv r c rows).each ct hct
  have hmem : ∀ a ∈ groupOf (contribsOf r c rows) ct.code (keyOfRate rt), lo ≤ a.exp ∧ a.exp ≤ E := by
    intro a ha
    simp only [groupOf, contribsOf, pairsOf, List.mem_map, List.mem_filter, List.mem_flatMap] at ha
    obtain ⟨_, ⟨⟨_, ⟨rw, hrw, cb, hcb, rfl⟩, rfl⟩, _⟩, rfl⟩ := ha
    exact h rw hrw (List.ne_nil_of_mem hcb)
  rw [(hg rt hrt).exp]
  obtain ⟨a, ha⟩ := List.exists_mem_of_ne_nil _ (hne rt hrt)
  exact ⟨(hmem a ha).1.trans ((le_foldl_max _ c).2 a ha), foldl_max_le hE fun a ha => (hmem a ha).2⟩

end GoblVerif.Calc
