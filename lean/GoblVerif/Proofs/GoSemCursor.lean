/-
  GoSemCursor (proofs): reasoning principles for the loops that go2lean_own.go emits for
  "range over a slice of pointers and write through the range variable": left folds over
  `l.zipIdx` whose step ends in `C := C.set i v`.  Nothing here is about a particular
  package; companion of Proofs/GoSemList.lean.

  * CURSOR LOOP WITH AN ACCUMULATOR (`foldl_cursor_acc`): the state is `ψ C s` (a record that holds the
    container `C` and whatever else the loop accumulates), the step replaces element `i` by
    `G s x` and moves the accumulator to `H s x`; the result is `ψ (mapAcc G H s C) (C.foldl H s)`.
  * FILL LOOP (`foldl_fill`): the container was made with the length of the list ranged over
    (`make([]*T, len(l))`) and element `i` is assigned (and read back) in round `i`; the step
    equation is needed only for `i < C.length`.  The cursor loop without an accumulator
    (`foldl_cursor_via`) is the fill loop on the container that already holds the list.
    `foldl_set_zipIdx`: a container of plain values that may be longer than the list (`make([]int, m)`).
  * INNER LOOP WITH WRITE-THROUGH (`foldl_shadow`, `foldl_inner_cursor`): a loop nested in a
    cursor loop updates its own container `c` and, after every write, the enclosing one
    (`n := W n c`); since a later write at the same place wins (`hW`), the inner loop is the
    fold on `c` alone, followed by one write.
-/
import GoblVerif.Proofs.GoSemList

namespace GoblVerif.Proofs.TaxTotalsSrc  -- the namespace of Proofs/TaxTotalsSrc.lean, which these serve
open GoblVerif.GoSem

theorem ite_yield {β : Type} (c : Prop) [Decidable c] (a b : β) :
    (if c then ForInStep.yield a else ForInStep.yield b) = ForInStep.yield (if c then a else b) := by
  split <;> rfl

theorem ite_yield_id {β : Type} (c : Prop) [Decidable c] (a b : β) :
    (@ite (Id (ForInStep β)) c _ (ForInStep.yield a) (ForInStep.yield b)) = ForInStep.yield (if c then a else b) := by
  split <;> rfl

theorem foldl_congr' {α σ : Type} {f g : σ → α → σ} (l : List α) (s : σ) (h : ∀ s x, f s x = g s x) :
    l.foldl f s = l.foldl g s := by
  have : f = g := by funext s x; exact h s x
  rw [this]

/-- the list that a cursor loop with an accumulator leaves behind -/
def mapAcc {α σ : Type} (G : σ → α → α) (H : σ → α → σ) : σ → List α → List α
  | _, [] => []
  | s, a :: l => G s a :: mapAcc G H (H s a) l

theorem mapAcc_const {α σ : Type} (G : α → α) (H : σ → α → σ) (s : σ) (l : List α) :
    mapAcc (fun _ => G) H s l = l.map G := by
  induction l generalizing s with
  | nil => rfl
  | cons a l ih => simp [mapAcc, ih]

/-- CURSOR LOOP WITH AN ACCUMULATOR -/
theorem foldl_cursor_acc {C α σ : Type} (ψ : List α → σ → C) (step : C → α × Nat → C)
    (G : σ → α → α) (H : σ → α → σ)
    (h : ∀ acc s x i, step (ψ acc s) (x, i) = ψ (acc.set i (G s x)) (H s x))
    (l pre post : List α) (s : σ) :
    (l.zipIdx pre.length).foldl step (ψ (pre ++ l ++ post) s) = ψ (pre ++ mapAcc G H s l ++ post) (l.foldl H s) := by
  induction l generalizing pre s with
  | nil => simp [mapAcc]
  | cons a l ih =>
    simp only [List.zipIdx_cons, List.foldl_cons, mapAcc, h]
    have h1 : (pre ++ a :: l ++ post).set pre.length (G s a) = (pre ++ [G s a]) ++ l ++ post := by simp
    rw [h1]
    have h2 := ih (pre ++ [G s a]) (H s a)
    simp only [List.length_append, List.length_singleton] at h2
    rw [h2]; simp

theorem foldl_cursor_acc' {C α σ : Type} (ψ : List α → σ → C) (step : C → α × Nat → C)
    (G : σ → α → α) (H : σ → α → σ)
    (h : ∀ acc s x i, step (ψ acc s) (x, i) = ψ (acc.set i (G s x)) (H s x))
    (l : List α) (s : σ) :
    l.zipIdx.foldl step (ψ l s) = ψ (mapAcc G H s l) (l.foldl H s) := by
  have := foldl_cursor_acc ψ step G H h l [] [] s
  simpa using this

theorem foldl_fill_at {C α β : Type} (ψ : List α → C) (step : C → β × Nat → C) (F : β → α)
    (h : ∀ acc x i, i < acc.length → step (ψ acc) (x, i) = ψ (acc.set i (F x)))
    (l : List β) (init : List α) (hlen : init.length = l.length) (pre post : List α) :
    (l.zipIdx pre.length).foldl step (ψ (pre ++ init ++ post)) = ψ (pre ++ l.map F ++ post) := by
  induction l generalizing init pre with
  | nil =>
    have : init = [] := List.eq_nil_of_length_eq_zero (by simpa using hlen)
    simp [this]
  | cons a l ih =>
    match init, hlen with
    | b :: init, hlen =>
      simp only [List.zipIdx_cons, List.foldl_cons]
      rw [h _ _ _ (by simp)]
      have h1 : (pre ++ b :: init ++ post).set pre.length (F a) = (pre ++ [F a]) ++ init ++ post := by simp
      rw [h1]
      have h2 := ih init (by simpa using hlen) (pre ++ [F a])
      simp only [List.length_append, List.length_singleton] at h2
      rw [h2]; simp

/-- FILL LOOP: the container was made with the right length and every element is assigned -/
theorem foldl_fill {C α β : Type} (ψ : List α → C) (step : C → β × Nat → C) (F : β → α)
    (h : ∀ acc x i, i < acc.length → step (ψ acc) (x, i) = ψ (acc.set i (F x)))
    (l : List β) (init : List α) (hlen : init.length = l.length) :
    l.zipIdx.foldl step (ψ init) = ψ (l.map F) := by
  simpa using foldl_fill_at ψ step F h l init hlen [] []

/-- CURSOR LOOP (no accumulator) through a representation -/
theorem foldl_cursor_via {C α : Type} (ψ : List α → C) (step : C → α × Nat → C) (G : α → α)
    (h : ∀ acc x i, step (ψ acc) (x, i) = ψ (acc.set i (G x))) (l : List α) :
    l.zipIdx.foldl step (ψ l) = ψ (l.map G) :=
  foldl_fill ψ step G (fun acc x i _ => h acc x i) l l rfl

/-- replacing element `i` by `G` of the element the loop was given, for every `i`, is `map G` -/
theorem foldl_cursor_map {α : Type} (G : α → α) (l : List α) :
    l.zipIdx.foldl (fun acc p => acc.set p.2 (G p.1)) l = l.map G :=
  foldl_cursor_via id _ G (fun _ _ _ => rfl) l

/-- INNER LOOP THAT ALSO WRITES THE ENCLOSING CONTAINER -/
theorem foldl_shadow {N C X : Type} (W : N → C → N) (hW : ∀ n a b, W (W n a) b = W n b)
    (f : C → X → C) (step : N × C → X → N × C)
    (h : ∀ n c x, step (n, c) x = (W n (f c x), f c x)) (l : List X) (n : N) (c : C) :
    (l.foldl step (n, c)).2 = l.foldl f c ∧
    (∀ d, W (l.foldl step (n, c)).1 d = W n d) ∧
    (l.foldl step (W n c, c)).1 = W n (l.foldl f c) := by
  induction l generalizing n c with
  | nil => exact ⟨rfl, fun _ => rfl, rfl⟩
  | cons a l ih =>
    simp only [List.foldl_cons, h]
    obtain ⟨i1, i2, i3⟩ := ih (W n (f c a)) (f c a)
    refine ⟨i1, fun d => by rw [i2, hW], ?_⟩
    rw [hW] at i3 ⊢
    rw [i3, hW]


/-- THE TWO-LEVEL PRINCIPLE: a cursor loop over `l` (the container of `ψ l`) nested in another
    cursor loop.  Its state is (enclosing object `n`, own object `c`); every round replaces element
    `j` of the own container by `G x` and writes the own object through (`W`).  The own object ends
    as `ψ (l.map G)`; the enclosing one has received exactly that write when it held the own object
    before the loop, and in any case a later write hides what the loop wrote. -/
theorem foldl_inner_cursor {N C α : Type} (W : N → C → N) (hW : ∀ n a b, W (W n a) b = W n b)
    (f : C → α × Nat → C) (step : N × C → α × Nat → N × C)
    (h : ∀ n c p, step (n, c) p = (W n (f c p), f c p))
    (ψ : List α → C) (G : α → α) (hf : ∀ acc x j, f (ψ acc) (x, j) = ψ (acc.set j (G x)))
    (l : List α) (n : N) :
    (l.zipIdx.foldl step (W n (ψ l), ψ l)).1 = W n (ψ (l.map G)) ∧
    (l.zipIdx.foldl step (n, ψ l)).2 = ψ (l.map G) ∧
    (∀ d, W (l.zipIdx.foldl step (n, ψ l)).1 d = W n d) := by
  obtain ⟨h1, h2, h3⟩ := foldl_shadow W hW f step h l.zipIdx n (ψ l)
  have hc := foldl_cursor_via ψ f G hf l
  exact ⟨by rw [h3, hc], by rw [h1, hc], h2⟩

theorem getBang_set {α : Type} [Inhabited α] (l : List α) (i : Nat) (a : α) (h : i < l.length) :
    (l.set i a)[i]! = a := by
  simp [h]

end GoblVerif.Proofs.TaxTotalsSrc

namespace GoblVerif.GoSem

/-- `digits := make([]int, m); for i, c := range s { digits[i] = f(c) }` -/
theorem foldl_set_zipIdx {α β : Type} (f : α → β) (d : β) (s : List α) :
    ∀ (pre : List β) (m : Nat), s.length ≤ m →
      (s.zipIdx pre.length).foldl (fun l it => l.set it.2 (f it.1)) (pre ++ List.replicate m d)
        = pre ++ s.map f ++ List.replicate (m - s.length) d := by
  intro pre m hm
  have := Proofs.TaxTotalsSrc.foldl_fill_at id (fun l (it : α × Nat) => l.set it.2 (f it.1)) f (fun _ _ _ _ => rfl) s
    (List.replicate s.length d) (by simp) pre (List.replicate (m - s.length) d)
  rwa [List.append_assoc pre, List.replicate_append_replicate, Nat.add_sub_cancel' hm] at this

end GoblVerif.GoSem
