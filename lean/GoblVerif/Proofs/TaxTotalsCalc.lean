/-
  TaxTotalsCalc (proofs): the closed forms of Proofs/TaxTotalsSrc.lean for the
  functions regenerated from /repo/tax/totals.go, read with the operations of
  Model/Calc.lean over ANY rounding primitives `o : Calc.Ops` (`calcOps o`), are
  the functions of Model/Calc.lean: `round` = `roundTax`,
  `calculateBaseCategoryTotal` = `catAmounts`, `calculateFinalSum` = `finalSum`,
  `rateTotalFor` followed by the base accumulation on the row it returns =
  `addToCats` (`locate_calc`: both are nested updates of the first match, and the
  change of records commutes with that, `map_updFirst`).
-/
import GoblVerif.Proofs.TaxTotalsSrc
import GoblVerif.Proofs.CalcGroups
import Mathlib.Data.Countable.Basic
import Mathlib.Logic.Equiv.List

namespace GoblVerif.Proofs.TaxTotalsSrc
open GoblVerif GoblVerif.Merge GoblVerif.TaxTotals GoblVerif.Generated GoblVerif.GoSem

/-! ## the closed forms read with the operations of Model/Calc.lean over any `Ops` -/

section
variable (o : Calc.Ops) (enc : List (String × String) → String)

theorem round_calc (t : Total) (e : Nat) :
    toCalcTotal enc ⟨t.categories.map (@roundCatG (calcOps o) e), @NumOps.rescale (calcOps o) t.sum e, t.sum⟩ =
      Calc.roundTax o e (t.categories.map (toCalcCat enc)) t.sum := by
  simp only [toCalcTotal, Calc.roundTax, List.map_map, c_rescale]
  congr 1
  apply List.map_congr_left
  intro ct _
  rcases ct with ⟨cd, ret, rs, am, su, ap⟩
  simp only [Function.comp, toCalcCat, roundCatG, List.map_map, c_rescale]
  congr 1
  apply List.map_congr_left
  intro rt _
  rcases rt with ⟨k, cn, ex, b, pc, rsu, a⟩
  cases rsu <;> rfl

theorem rateAmounts_calc (c : Nat) (rt : RateTotal) :
    toCalcRT enc (@rateAmountsG (calcOps o) ⟨0, c⟩ rt) = Calc.rateAmounts o (toCalcRT enc rt) c := by
  rcases rt with ⟨k, cn, ex, b, pc, rsu, a⟩
  cases pc <;> cases rsu <;> rfl

theorem catAmounts_calc (c : Nat) (rr : String) (ct : CategoryTotal) :
    toCalcCat enc (@calcCatG (calcOps o) ⟨0, c⟩ rr ct) = Calc.catAmounts o (ruleOf rr) c (toCalcCat enc ct) := by
  rcases ct with ⟨cd, ret, rs, am, su, ap⟩
  simp only [toCalcCat, calcCatG, Calc.catAmounts, List.map_map]
  have hr : List.map (toCalcRT enc ∘ @rateAmountsG (calcOps o) ⟨0, c⟩) rs =
      List.map ((fun x => Calc.rateAmounts o x c) ∘ toCalcRT enc) rs := by
    apply List.map_congr_left; intro rt _; exact rateAmounts_calc o enc c rt
  rw [hr]
  rw [foldl_pair (@catAccG (calcOps o) ⟨0, c⟩ rr)
    (fun a rt => match rt.percent with
      | none => a
      | some p => Calc.add o (Calc.mrp (ruleOf rr) a (Calc.pctOf o p rt.base)) (Calc.pctOf o p rt.base))
    (fun s rt => match rt.percent, rt.surcharge with
      | some _, some su =>
        some (Calc.add o (Calc.mrp (ruleOf rr) (s.getD ⟨0, c⟩) (Calc.pctOf o su.percent rt.base)) (Calc.pctOf o su.percent rt.base))
      | _, _ => s)
    (by
      intro s rt
      rcases rt with ⟨k, cn, ex, b, pc, rsu, a⟩
      cases pc <;> cases rsu <;> simp [catAccG, mrp_calc, c_add, c_pctOf])]
  simp only [List.foldl_map]
  congr 1
  · apply foldl_congr'
    intro a rt
    rcases rt with ⟨k, cn, ex, b, pc, rsu, am'⟩
    cases pc <;> cases rsu <;> rfl
  · apply foldl_congr'
    intro a rt
    rcases rt with ⟨k, cn, ex, b, pc, rsu, am'⟩
    cases pc <;> cases rsu <;> rfl

theorem finalSum_calc (c : Nat) (rr : String) (cats : List CategoryTotal) :
    cats.foldl (@sumAccG (calcOps o) rr) ⟨0, c⟩ = Calc.finalSum o (ruleOf rr) c (cats.map (toCalcCat enc)) := by
  unfold Calc.finalSum
  rw [List.foldl_map]
  apply foldl_congr'
  intro s ct
  rcases ct with ⟨cd, ret, rs, am, su, ap⟩
  cases ret <;> cases su <;> simp [sumAccG, toCalcCat, mrp_calc, c_add, c_sub]

end

/-! ## `rateTotalFor` and `addToCats` -/

/-- write `f` through the pointer `rateTotalFor` returns: the first row that `matches` -/
def updRates [NumOps] (c : TaxTotals.Combo) (f : RateTotal → RateTotal) : List RateTotal → List RateTotal
  | [] => []
  | rt :: rts => if TaxTotalsSrc.RateTotal_matches rt c = true then f rt :: rts else rt :: updRates c f rts

/-- … in the first category with the combo's code -/
def updCats [NumOps] (c : TaxTotals.Combo) (f : RateTotal → RateTotal) : List CategoryTotal → List CategoryTotal
  | [] => []
  | ct :: cts => if ct.code = c.category then { ct with rates := updRates c f ct.rates } :: cts else ct :: updCats c f cts

/-- the two statements of `calculateBaseRateTotals` after `rateTotalFor` -/
def accBase (o : Calc.Ops) (r : Calc.Rule) (tot : Amount) (rt : RateTotal) : RateTotal :=
  { rt with base := Calc.add o (Calc.mrp r rt.base tot) tot }


theorem updRates_eq [NumOps] (c : TaxTotals.Combo) (f : RateTotal → RateTotal) (l : List RateTotal) :
    updRates c f l = updFirst (TaxTotalsSrc.RateTotal_matches · c) f [] l :=
  eq_updFirst _ rfl (fun _ _ => rfl) l

theorem updCats_eq [NumOps] (c : TaxTotals.Combo) (f : RateTotal → RateTotal) (l : List CategoryTotal) :
    updCats c f l = updFirst (fun ct => ct.code = c.category) (fun ct => { ct with rates := updRates c f ct.rates }) [] l :=
  eq_updFirst _ rfl (fun _ _ => by simp only [updCats, decide_eq_true_eq]) l

theorem updCats_locate [NumOps] (c : TaxTotals.Combo) (zero : Amount)
    (hnew : TaxTotalsSrc.RateTotal_matches (newRT c zero) c = true) (g : RateTotal → RateTotal) (cats : List CategoryTotal) :
    updCats c g (locate c zero id cats) = locate c zero g cats := by
  unfold locate
  rw [updCats_eq, updFirst_updFirst]
  · simp only [updRates_eq, updFirst_updFirst (f := id) _ (fun _ => rfl), updFirst, hnew, decide_true, if_true, newCT, id]
  · exact fun _ => rfl

section
variable (o : Calc.Ops) (enc : List (String × String) → String) (henc : ∀ a b, enc a = enc b → a = b)

theorem newRT_calc (c : TaxTotals.Combo) (c0 : Nat) :
    toCalcRT enc (newRT c ⟨0, c0⟩) = Calc.newRate c0 (toCalcCombo enc c) := by
  rcases c with ⟨cat, cn, r, p, s, e, ret⟩
  cases s <;> rfl

include henc

theorem newRT_matches (c : TaxTotals.Combo) (zero : Amount) :
    @TaxTotalsSrc.RateTotal_matches (calcOps o) (newRT c zero) c = true := by
  rw [matches_calc o enc _ _ (henc _ _), Calc.rtMatches_iff]
  rcases c with ⟨cat, cn, r, p, s, e, ret⟩
  cases s <;> cases p <;> simp [Calc.rtKey, Calc.comboKey, toCalcRT, toCalcCombo, newRT]

theorem rates_calc (r : Calc.Rule) (c0 : Nat) (c : TaxTotals.Combo) (tot : Amount) (rs : List RateTotal) :
    (updFirst (@TaxTotalsSrc.RateTotal_matches (calcOps o) · c) (accBase o r tot) [accBase o r tot (newRT c ⟨0, c0⟩)] rs).map
        (toCalcRT enc) = Calc.addToRates o r c0 (toCalcCombo enc c) tot (rs.map (toCalcRT enc)) := by
  rw [Calc.addToRates_eq, ← newRT_calc]
  exact map_updFirst (toCalcRT enc) (fun rt => (matches_calc o enc rt c (henc _ _)).symm) (fun rt => rfl) rs

theorem locate_calc (r : Calc.Rule) (c0 : Nat) (c : TaxTotals.Combo) (tot : Amount) (cats : List CategoryTotal) :
    (@locate (calcOps o) c ⟨0, c0⟩ (accBase o r tot) cats).map (toCalcCat enc) =
      Calc.addToCats o r c0 (toCalcCombo enc c) tot (cats.map (toCalcCat enc)) := by
  rw [Calc.addToCats_eq]
  refine (map_updFirst (toCalcCat enc) (p' := fun ct => ct.code == (toCalcCombo enc c).cat)
    (f' := fun ct => { ct with rates := Calc.addToRates o r c0 (toCalcCombo enc c) tot ct.rates })
    (fun ct => Bool.beq_eq_decide_eq _ _) (fun ct => ?_) cats).trans ?_
  · simp only [toCalcCat, rates_calc o enc henc]
  · have := rates_calc o enc henc r c0 c tot []
    simp only [updFirst, List.map_cons, List.map_nil] at this
    simp only [List.map_cons, List.map_nil, toCalcCat, newCT, this]; rfl

end

/-! ## an injective encoding of extension maps exists (non-vacuity of `henc`) -/

theorem exists_enc : ∃ enc : List (String × String) → String, ∀ a b, enc a = enc b → a = b := by
  haveI : Countable Char := (show Function.Injective Char.toNat from fun _ _ h => Char.toNat_inj.mp h).countable
  haveI : Countable String := (show Function.Injective String.toList from fun _ _ h => String.toList_inj.mp h).countable
  obtain ⟨f, hf⟩ := exists_injective_nat (List (String × String))
  refine ⟨fun l => String.ofList (List.replicate (f l) 'a'), fun a b h => hf ?_⟩
  have := congrArg String.length h
  simpa using this

/-! ## the loop of `calculateBaseRateTotals` around the regenerated `rateTotalFor` -/

/-- one round of the inner loop of `calculateBaseRateTotals`: the regenerated `rateTotalFor`, then
    `rt.Base = matchRoundingPrecision(rr, rt.Base, total)`, `rt.Base = rt.Base.Add(total)` written
    through the returned pointer (`updCats`: the first row that `matches` in the first category with
    the combo's code — the row `rateTotalFor` returns, `rateTotalFor_write`) -/
def srcStep (o : Calc.Ops) (r : Calc.Rule) (c0 : Nat) (t : Total) (cb : TaxTotals.Combo) (tot : Amount) : Total :=
  { (@TaxTotalsSrc.Total_rateTotalFor (calcOps o) t cb ⟨0, c0⟩).2 with
    categories := @updCats (calcOps o) cb (accBase o r tot) (@TaxTotalsSrc.Total_rateTotalFor (calcOps o) t cb ⟨0, c0⟩).2.categories }

/-- both loops of `calculateBaseRateTotals` over rows (total, combos) -/
def srcBaseRateTotals (o : Calc.Ops) (r : Calc.Rule) (c0 : Nat) (rows : List (Amount × List TaxTotals.Combo)) (t : Total) : Total :=
  rows.foldl (fun t rw => rw.2.foldl (fun t cb => srcStep o r c0 t cb rw.1) t) t

/-- the rows `calculateBaseRateTotals` walks over, as (total, combos) -/
def lineRows (ls : List TaxTotals.TaxLine) : List (Amount × List TaxTotals.Combo) := ls.map (fun tl => (tl.total, tl.taxes))

def toCalcRow (enc : List (String × String) → String) (rw : Amount × List TaxTotals.Combo) : Calc.Row :=
  ⟨rw.1, rw.2.map (toCalcCombo enc)⟩

/-- `rateTotalFor` on the summary `t` under `calcOps o`: `(i, j)` the index path its twin reports, `row` the row returned, `t'` the summary left -/
structure RateTotalFor (o : Calc.Ops) (enc : List (String × String) → String) (t : Total) (cb : TaxTotals.Combo) (c0 : Nat)
    (i j : Nat) (row : RateTotal) (t' : Total) : Prop where
  idx : @TaxTotalsSrc.Total_rateTotalFor_at (calcOps o) t cb ⟨0, c0⟩ = (some i, some j)
  run : @TaxTotalsSrc.Total_rateTotalFor (calcOps o) t cb ⟨0, c0⟩ = (some row, t')
  sum : t'.sum = t.sum
  sumP : t'.sumP = t.sumP
  find : @findRow (calcOps o) cb t'.categories = some row
  write : ∀ g, setAt i j (g row) t'.categories = @updCats (calcOps o) cb g t'.categories
  addTo : ∀ r tot, (@updCats (calcOps o) cb (accBase o r tot) t'.categories).map (toCalcCat enc) =
    Calc.addToCats o r c0 (toCalcCombo enc cb) tot (t.categories.map (toCalcCat enc))

/-- `henc` (the encoding of the extension maps is injective) makes the row `rateTotalFor` appends one the combo `matches` -/
theorem rateTotalFor_calc (o : Calc.Ops) (enc : List (String × String) → String) (henc : ∀ a b, enc a = enc b → a = b)
    (t : Total) (cb : TaxTotals.Combo) (c0 : Nat) : ∃ i j row t', RateTotalFor o enc t cb c0 i j row t' := by
  have hn := newRT_matches o enc henc cb ⟨0, c0⟩
  obtain ⟨i, j, row, hat, hr, hf, hw⟩ := @rateTotalFor_write (calcOps o) t cb ⟨0, c0⟩ hn
  exact ⟨i, j, row, _, hat, hr, rfl, rfl, hf, fun g => (hw g).trans (@updCats_locate (calcOps o) cb _ hn g _).symm,
    fun r tot => (congrArg _ (@updCats_locate (calcOps o) cb _ hn _ _)).trans (locate_calc o enc henc r c0 cb tot _)⟩

theorem srcStep_calc (o : Calc.Ops) (enc : List (String × String) → String) (henc : ∀ a b, enc a = enc b → a = b)
    (r : Calc.Rule) (c0 : Nat) (t : Total) (cb : TaxTotals.Combo) (tot : Amount) :
    (srcStep o r c0 t cb tot).categories.map (toCalcCat enc) =
      Calc.addToCats o r c0 (toCalcCombo enc cb) tot (t.categories.map (toCalcCat enc)) := by
  obtain ⟨_, _, _, _, h⟩ := rateTotalFor_calc o enc henc t cb c0
  rw [srcStep, h.run]; exact h.addTo r tot

theorem srcBaseRateTotals_calc (o : Calc.Ops) (enc : List (String × String) → String) (henc : ∀ a b, enc a = enc b → a = b)
    (r : Calc.Rule) (c0 : Nat) (rows : List (Amount × List TaxTotals.Combo)) (t : Total) :
    (srcBaseRateTotals o r c0 rows t).categories.map (toCalcCat enc) =
      (rows.map (toCalcRow enc)).foldl
        (fun cats rw => rw.taxes.foldl (fun cats cb => Calc.addToCats o r c0 cb rw.total cats) cats)
        (t.categories.map (toCalcCat enc)) := by
  unfold srcBaseRateTotals
  induction rows generalizing t with
  | nil => rfl
  | cons rw rows ih =>
    simp only [List.foldl_cons, List.map_cons]
    rw [ih]
    congr 1
    rcases rw with ⟨tot, cbs⟩
    simp only [toCalcRow]
    induction cbs generalizing t with
    | nil => rfl
    | cons cb cbs ih2 =>
      simp only [List.foldl_cons, List.map_cons]
      rw [ih2, srcStep_calc o enc henc]

end GoblVerif.Proofs.TaxTotalsSrc
