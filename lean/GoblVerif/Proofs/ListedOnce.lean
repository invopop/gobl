/-
  `Spec.C11.listedOnce` compares every accepted code with every listed one.  Here: the same verdict
  from the two lists sorted (one pass each for "no code listed twice" and "every accepted code
  listed"), with the stable insertion sort of Model/GoBytes.lean.  Core Lean only.
-/
import GoblVerif.Spec.C11
import GoblVerif.Proofs.GoBytes

namespace GoblVerif.ListedOnce
open GoblVerif.Spec.C11 (listedOnce)
open GoblVerif.GoBytes (stableSort stableSort_perm)

def strictAsc : List NStr → Bool
  | a :: b :: r => a < b && strictAsc (b :: r)
  | _ => true

/-- `listedOnce` when the sorted lists show it, computed as specified otherwise (an accepted code
    given twice is the one case the sorted lists do not settle) -/
def listedOnceFast (accepted consts : List NStr) : Bool :=
  (strictAsc (stableSort Nat.blt consts) && (stableSort Nat.blt accepted).isSublist (stableSort Nat.blt consts)) ||
    listedOnce accepted consts

theorem pairwise_of_strictAsc : ∀ l, strictAsc l = true → l.Pairwise (· < ·)
  | [], _ => .nil
  | [_], _ => List.pairwise_singleton ..
  | a :: b :: r, h => by
    simp only [strictAsc, Bool.and_eq_true, decide_eq_true_eq] at h
    have ih := pairwise_of_strictAsc (b :: r) h.2
    refine List.pairwise_cons.mpr ⟨fun y hy => ?_, ih⟩
    rcases List.mem_cons.mp hy with rfl | hy
    · exact h.1
    · exact Nat.lt_trans h.1 ((List.pairwise_cons.mp ih).1 y hy)

theorem listedOnce_of_fast {accepted consts : List NStr} (h : listedOnceFast accepted consts = true) :
    listedOnce accepted consts = true := by
  simp only [listedOnceFast, Bool.or_eq_true, Bool.and_eq_true, List.isSublist_iff_sublist] at h
  rcases h with ⟨hasc, hsub⟩ | h
  · -- `consts` is a permutation of a list without repetition, which holds every accepted code
    have hnd : (stableSort Nat.blt consts).Nodup := (pairwise_of_strictAsc _ hasc).imp Nat.ne_of_lt
    simp only [listedOnce, List.all_eq_true, beq_iff_eq]
    intro x hx
    have hx' : x ∈ stableSort Nat.blt consts := hsub.subset ((stableSort_perm _ accepted).mem_iff.mpr hx)
    rw [← (stableSort_perm _ consts).count_eq, hnd.count, if_pos hx']
  · exact h

end GoblVerif.ListedOnce
