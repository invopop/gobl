/-
  The Go string primitives of Model/GoStr.lean in core Lean's words, for the files that tie regenerated Go
  to a model (CodecSrc, TaxIdSrc): `strconv.Itoa` writes `Nat.toDigits 10`, a `map[K]bool` literal of `true`s is
  the set of its keys, `strings.HasPrefix` with two bytes is `take 2`; an `error`-valued function is read through `isNone`.
-/
import GoblVerif.Model.GoStr

namespace GoblVerif.GoStr

theorem byteAt_getElem (s : Str) (i : Nat) (hi : i < s.length) : byteAt s i = s[i].toNat := by
  simp [byteAt, List.getD_eq_getElem?_getD, hi]

theorem ofNat48 : ∀ d, d < 10 → Char.ofNat (48 + d) = d.digitChar := by decide

theorem natDigits_toDigitsCore : ∀ (f n : Nat) (acc : Str), natDigits f n acc = Nat.toDigitsCore 10 f n acc
  | 0, _, _ => rfl
  | f + 1, n, acc => by
    simp only [natDigits, Nat.toDigitsCore, ofNat48 _ (Nat.mod_lt n (by decide : 0 < 10)), natDigits_toDigitsCore f]

theorem itoa_toDigits (i : Int) : itoa i = if i < 0 then '-' :: Nat.toDigits 10 i.natAbs else Nat.toDigits 10 i.toNat := by
  simp only [itoa, natDigits_toDigitsCore, Nat.toDigits]

theorem itoa_natCast (n : Nat) : itoa (n : Int) = Nat.toDigits 10 n := by
  rw [GoStr.itoa_toDigits, if_neg (by omega), Int.toNat_natCast]

/-- a `map[K]bool` literal whose values are all `true` is the set of its keys -/
theorem mapGet_true_keys {κ : Type} [BEq κ] (l : List κ) (k : κ) :
    mapGet (l.map (fun x => (x, true))) k false = l.contains k := by
  induction l with
  | nil => rfl
  | cons a as ih =>
    simp only [List.map_cons, mapGet, List.lookup_cons, List.contains_cons] at ih ⊢
    cases h : k == a with
    | true => simp
    | false => simpa using ih

theorem hasPrefix2 (a b : Char) (s : Str) : hasPrefix s [a, b] = (s.take 2 == [a, b]) := by
  match s with
  | [] => rfl
  | [x] => simp [hasPrefix, List.isPrefixOf]
  | x :: y :: t =>
    simp only [hasPrefix, List.isPrefixOf, List.take_succ_cons, List.take_zero, Bool.and_true]
    rw [Bool.eq_iff_iff]
    simp only [Bool.and_eq_true, beq_iff_eq, List.cons.injEq, and_true]
    constructor <;> (rintro ⟨rfl, rfl⟩; exact ⟨rfl, rfl⟩)

/-! ## an `error`-valued function read through `isNone`

  "Returns nil" is `isNone`: `apply_ite Option.isNone` takes the observation to the `return`s, where it is `false`
  (`errNew m` is never nil), `true` or the verdict of a callee, and `Bool.if_false_left` and its like fold the
  guards into `&&` / `||`. -/

theorem isNone_pure (x : Option Str) : Option.isNone (pure x : Id (Option Str)) = x.isNone := rfl

/-- `if err != nil { return err }; k` -/
theorem ite_isSome_isNone {α : Type} (e : Option α) (k : Bool) : (if e.isSome = true then e.isNone else k) = (e.isNone && k) := by
  cases e <;> rfl

/-- `if code == "" { return nil }` (with `Option.isSome_some`, `not_true_eq_false`, `false_or` for the `!ok ||` in front of
    it when the value is a code) -/
theorem decide_eq_nil (s : Str) : decide (s = []) = s.isEmpty := by cases s <;> rfl

/-- `len(s) != 11` and its like: the comparison of a length with a literal does not see the cast -/
theorem natCast_eq_lit (a n : Nat) : ((a : Int) = no_index (OfNat.ofNat n)) = (a = OfNat.ofNat n) :=
  propext (Int.ofNat_inj (m := a) (n := n))

/-- `if x != y { return err }; return nil` read through `isNone`, once the error tree is a tree of
    Booleans: the comparison of the model, when the Go values are the casts of the model's -/
theorem ite_ne_natCast {x y : Int} {a b : Nat} (hx : x = (a : Int)) (hy : y = (b : Int)) :
    (if x ≠ y then false else true) = (a == b) := by
  subst hx hy
  by_cases hab : a = b
  · simp [hab]
  · have : (a : Int) ≠ b := by omega
    simp [hab, this]

end GoblVerif.GoStr
