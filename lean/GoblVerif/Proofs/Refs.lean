/-
  What the lookups of Model/Refs.lean and Model/RefsCtx.lean return, as membership facts: the
  reference rules of C18 are proved sound against the published definitions through these.  At the
  end, for `C18.Src`: `String` against the lists of characters the regenerated source works on
  (`String.toList` is injective).  Core Lean only.
-/
import GoblVerif.Spec.C18
import GoblVerif.Model.RefsCtx

namespace GoblVerif.Refs
open GoblVerif.Spec.C18

theorem Defs.regimeFor_some {d : Defs} {code : String} {r : Regime} (h : d.regimeFor code = some r) :
    r ∈ d.liveRegimes ∧ (r.country = code ∨ code ∈ r.alt) := by
  have hp := List.find?_some h
  simp only [Bool.or_eq_true, beq_iff_eq, List.any_eq_true] at hp
  refine ⟨List.mem_of_find?_eq_some h, hp.imp_right ?_⟩
  rintro ⟨x, hx, rfl⟩
  exact hx

theorem Regime.category_some {r : Regime} {code : String} {cat : Category} (h : r.category code = some cat) :
    cat ∈ r.categories ∧ cat.code = code :=
  ⟨List.mem_of_find?_eq_some h, by simpa using List.find?_some h⟩

theorem Defs.extDef_some {d : Defs} {key : String} {kd : ExtDef} (h : d.extDef key = some kd) :
    kd ∈ d.allExtDefs ∧ kd.key = key :=
  ⟨List.mem_of_find?_eq_some h, by simpa using List.find?_some h⟩

theorem mem_tagKeysFor {sets : List TagSet} {schema t : String} :
    t ∈ tagKeysFor sets schema ↔ ∃ ts ∈ sets, ts.schema = schema ∧ t ∈ ts.keys := by
  simp [tagKeysFor, and_assoc]

theorem mem_supportedTags {docRegime : Option Regime} {addons : List Addon} {schema t : String} :
    t ∈ supportedTags docRegime addons schema ↔ tagResolves docRegime addons schema t := by
  cases docRegime <;> simp [supportedTags, tagResolves, mem_tagKeysFor]

theorem inCategories_some (r : Regime) (cat : String) : inCategories (some r) cat = (r.category cat).isSome := by
  rw [inCategories, Regime.category, List.isSome_find?]

theorem splitPlus_ne_nil : ∀ (s cur : List Char), splitPlus s cur ≠ []
  | [], _ => by simp [splitPlus]
  | c :: rest, cur => by simp only [splitPlus]; split <;> simp [splitPlus_ne_nil rest]

theorem docContext_eq (d : Defs) (doc : Doc) : regimeFromContext (docContext d doc) = d.regimeFor doc.regime := by
  unfold regimeFromContext docContext withRegime
  cases d.regimeFor doc.regime <;> rfl

theorem sharedAfterParties_eq (d : Defs) : ∀ (ps : List Party) (ctx : VCtx),
    (∀ p ∈ ps, d.regimeFor p.regime = none) → sharedAfterParties d ctx ps = ctx
  | [], _, _ => rfl
  | p :: ps, ctx, h => by
    have hp : partyContext d ctx p = ctx := by rw [partyContext, h p List.mem_cons_self]; rfl
    rw [sharedAfterParties, List.foldl_cons, hp]
    exact sharedAfterParties_eq d ps ctx fun q hq => h q (List.mem_cons_of_mem p hq)

theorem comboRegime_regimeFor (d : Defs) (docCode : String) (c : Combo) :
    comboRegime d (d.regimeFor docCode) c = d.regimeFor (if c.country = "" then docCode else c.country) := by
  by_cases hc : c.country = "" <;> simp [comboRegime, hc]

/-- the executable combo check is the three rules of `validateCombo` on a regime that is there -/
theorem comboResolvesB_eq (d : Defs) (docCode : String) (c : Combo) :
    comboResolvesB d docCode c =
      ((comboRegime d (d.regimeFor docCode) c).isSome &&
        inCategories (comboRegime d (d.regimeFor docCode) c) c.category &&
        inCategoryRates (comboRegime d (d.regimeFor docCode) c) c.category c.rate) := by
  rw [comboRegime_regimeFor, comboResolvesB]
  simp only [beq_iff_eq]
  cases d.regimeFor (if c.country = "" then docCode else c.country) with
  | none => rfl
  | some r =>
    rw [inCategories_some, inCategoryRates]
    cases h : r.category c.category <;> simp [h]

theorem includesResolvesB_eq (d : Defs) (docCode cat : String) :
    includesResolvesB d docCode cat = ((d.regimeFor docCode).isSome && inCategories (d.regimeFor docCode) cat) := by
  rw [includesResolvesB]
  cases d.regimeFor docCode <;> rfl

/-! ### `String` against the lists of characters the regenerated source works on -/

@[simp] theorem toList_beq (a b : String) : (a.toList == b.toList) = (a == b) := by
  rw [Bool.eq_iff_iff]; simp [String.toList_inj]

@[simp] theorem toList_beq_nil (a : String) : (a.toList == []) = (a == "") := toList_beq a ""

@[simp] theorem contains_map_toList (l : List String) (a : String) :
    (l.map String.toList).contains a.toList = l.contains a := by
  induction l with
  | nil => rfl
  | cons b l ih => simp only [List.map_cons, List.contains_cons, toList_beq, ih]

end GoblVerif.Refs
