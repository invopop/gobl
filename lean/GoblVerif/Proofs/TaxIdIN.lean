/-
  IN: the base-36 Luhn variant of the GSTIN against the published rule.
-/
import GoblVerif.Proofs.TaxIdDigits
namespace GoblVerif.TaxId
open GoblVerif.Spec.TaxId (isDigits)

theorem IN.value_eq (c : Char) (h : Spec.TaxId.IN.alnum c = true) : IN.charToValue c = Spec.TaxId.IN.value c := by
  simp [Spec.TaxId.IN.alnum, isDig, isUp] at h
  simp only [IN.charToValue, Spec.TaxId.IN.value, dval]
  split
  · rfl
  · rename_i hd
    simp [isDig] at hd
    omega

theorem IN.valueToChar_beq (v : Nat) (hv : v < 36) (c : Char) (h : Spec.TaxId.IN.alnum c = true) :
    (IN.valueToChar v == c) = (Spec.TaxId.IN.value c == v) := by
  simp [Spec.TaxId.IN.alnum, isDig, isUp] at h
  rw [Bool.eq_iff_iff]
  simp only [beq_iff_eq, ← Char.toNat_inj, IN.valueToChar, Spec.TaxId.IN.value, dval, isDig]
  split
  · rw [ofNat_toNat_small _ (by omega)]
    by_cases hd : 48 ≤ c.toNat ∧ c.toNat ≤ 57 <;> simp [hd] <;> omega
  · rw [ofNat_toNat_small _ (by omega)]
    by_cases hd : 48 ≤ c.toNat ∧ c.toNat ≤ 57 <;> simp [hd] <;> omega


/-- the Go loop doubles at the odd indices; each product contributes quotient and remainder by 36 -/
theorem IN.loop_eq (cs : Str) (i sum : Nat) :
    IN.loop cs i sum = sum + ((List.zipWith (· * ·) ((List.range' i cs.length).map (fun j => if j % 2 != 0 then 2 else 1))
      (cs.map IN.charToValue)).map Spec.TaxId.IN.contrib).sum := by
  induction cs generalizing i sum with
  | nil => simp [IN.loop]
  | cons c cs ih =>
    simp only [IN.loop, ih, List.length_cons, List.range'_succ, List.map_cons, List.zipWith_cons_cons, List.sum_cons,
      Spec.TaxId.IN.contrib, Nat.mul_comm (IN.charToValue c)]
    omega

theorem IN.check_eq (s : Str) (hl : s.length = 15) (hg : s.all isAZ09 = true) :
    IN.hasValidChecksum s = Spec.TaxId.IN.check s := by
  have hv : (s.take 14).map IN.charToValue = (s.take 14).map Spec.TaxId.IN.value :=
    List.map_congr_left fun c hc => IN.value_eq c (List.all_eq_true.mp hg c (List.mem_of_mem_take hc))
  have hw : (List.range' 0 14).map (fun j => if j % 2 != 0 then 2 else 1) = [1, 2, 1, 2, 1, 2, 1, 2, 1, 2, 1, 2, 1, 2] := by
    decide
  have h14 : Spec.TaxId.IN.alnum (s.getD 14 ' ') = true := by
    rw [List.getD_eq_getElem?_getD, List.getElem?_eq_getElem (by omega)]
    exact List.all_eq_true.mp hg _ (List.getElem_mem _)
  simp only [IN.hasValidChecksum, hl, IN.loop_eq, hv, Spec.TaxId.IN.check, List.length_take, Nat.zero_add,
    show min 14 15 = 14 from rfl, hw, bne_self_eq_false, Bool.false_eq_true, if_false]
  rw [IN.valueToChar_beq _ (Nat.mod_lt _ (by omega)) _ h14]


theorem IN.cls19AZ_eq (c : Char) : IN.cls19AZ c = (Spec.TaxId.IN.alnum c && c != '0') := by
  rw [Bool.eq_iff_iff]
  simp only [IN.cls19AZ, Spec.TaxId.IN.alnum, Bool.or_eq_true, decide_eq_true_eq, d19_iff, Bool.and_eq_true, bne_iff_ne]
  have : isUp c = true → c ≠ '0' := by rintro h rfl; simp [isUp] at h
  tauto

theorem IN.isAZ09_of_cls19AZ {c : Char} (h : IN.cls19AZ c = true) : isAZ09 c = true := by
  rw [IN.cls19AZ_eq, Bool.and_eq_true] at h
  exact h.1

theorem IN.fmt_eq_format (s : Str) : IN.fmt s = Spec.TaxId.IN.format s := by
  by_cases hl : s.length = 15
  · match s, hl with
    | [_, _, _, _, _, _, _, _, _, _, _, _, _, _, _], _ =>
      simp [IN.fmt, matchSeq, rep, List.replicate, Spec.TaxId.IN.format, isDigits_eq, IN.cls19AZ_eq, isCh, Spec.TaxId.IN.alnum, isAZ09,
        Bool.and_assoc]
  · rw [IN.fmt, matchSeq_false_of_length (by simpa [rep] using hl)]
    simp [Spec.TaxId.IN.format, hl]


theorem IN.gate_of_format {s : Str} (hf : Spec.TaxId.IN.format s = true) : gate s = true :=
  gate_of_matchSeq (by simp [rep]) (by simp +contextual [rep, isAZ09_of_isDig, isAZ09_of_isUp, IN.isAZ09_of_cls19AZ, isCh]; decide)
    (IN.fmt_eq_format s ▸ hf)

theorem IN.of_format {s : Str} (hf : Spec.TaxId.IN.format s = true) : s.length = 15 ∧ s.all isAZ09 = true := by
  have h : IN.fmt s = true := IN.fmt_eq_format s ▸ hf
  exact ⟨by simpa [IN.fmt, rep] using matchSeq_length _ _ h, all_of_gate (IN.gate_of_format hf)⟩

theorem IN.regime_eq (s : Str) : IN.regime s = (Spec.TaxId.IN.format s && Spec.TaxId.IN.check s) :=
  and_congr_of_left (IN.fmt_eq_format s) fun hf => IN.check_eq s (IN.of_format hf).1 (IN.of_format hf).2

end GoblVerif.TaxId
