/-
  RatesSrc (proofs): `(*Combo).prepareRate` as the go2lean translator reads it.

  The Go function writes to its receiver and to the receiver's extension map;
  the translation (Generated/RatesSrc.lean, `Combo_prepareRate`) returns the
  error key together with the final combo and builds the map with `mapSet`
  (insertion order).  `prepareRateM` is that reading written as one expression;
  Props/C12.lean proves the regenerated definition equal to it.  The model of
  Model/Rates.lean keeps extension maps sorted (`extSet`), so the two agree up
  to the order of the association list: `MapEq` (same lookups).  This file
  proves that nothing `RateDef.Value` looks at depends on that order, hence
  `prepareRateM_agrees`: same error, same percent and surcharge, the same
  extension MAP as `Rates.prepareRate` — for all arguments — and
  `prepareWith_order`: the same again whatever the order in which Go's `range`
  visits the rate's extension map.
-/
import GoblVerif.Proofs.Rates
import GoblVerif.Proofs.GoSemList
import GoblVerif.Proofs.GoMap

namespace GoblVerif.Proofs.RatesSrc
open GoblVerif.Rates GoblVerif.GoSem GoblVerif.Proofs.Rates

/-! ## the translator's reading of `prepareRate` -/

/-- `for k, v := range other { em[k] = v }` -/
def mergeM (em other : Ext) : Ext := other.foldl (fun acc kv => mapSet acc kv.1 kv.2) em

/-- `for k, v := range rate.Ext { c.Ext[k] = v }` is the merge `mergeM` -/
theorem src_merge_loop (l : Ext) (c0 : Combo) :
    forList (fun (x : String × String) (s : Combo) => ForInStep.yield { s with ext := mapSet s.ext x.1 x.2 }) l c0
      = { c0 with ext := mergeM c0.ext l } := by
  rw [forList_fold (fun (s : Combo) (x : String × String) => { s with ext := mapSet s.ext x.1 x.2 })]
  unfold mergeM
  induction l generalizing c0 with
  | nil => rfl
  | cons a l ih => simp only [List.foldl_cons]; rw [ih]

/-- the copy of the rate's extensions onto a combo without a country override -/
def mergedExtM (c : Combo) (rate : RateDef) : Ext :=
  if c.country == "" && !rate.ext.isEmpty then mergeM c.ext rate.ext else c.ext

/-- the key of the `tax.Error` an error result wraps -/
def errKey : PrepErr → String
  | .invalidCategory => "invalid-category"
  | .invalidRate => "invalid-rate"
  | .invalidDate => "invalid-date"

/-- `prepareRate` once the rate definition has been found -/
def prepareWith (rate : RateDef) (c : Combo) (tags : List String) (date : Date) : Option String × Combo :=
  let c := { c with ext := mergedExtM c rate }
  if rate.exempt then (none, { c with percent := none, surcharge := none })
  else if rate.values.isEmpty then (none, c)
  else match value rate.values date tags c.ext with
    | none => (some "invalid-date", c)
    | some v => (none, { c with percent := some v.percent, surcharge := v.surcharge })

/-- `(*Combo).prepareRate`: the error key (none = nil) and the combo as the call leaves it -/
def prepareRateM (cat : CategoryDef) (c : Combo) (tags : List String) (date : Date) : Option String × Combo :=
  if c.rate == "" then (none, c) else
  match rateDef cat.rates c.rate with
  | none => (some "invalid-rate", c)
  | some rate => prepareWith rate c tags date

/-! ## two association lists that are the same map -/

/-- the same lookups: the same Go map -/
def MapEq (a b : Ext) : Prop := ∀ k, List.lookup k a = List.lookup k b

theorem MapEq.refl (a : Ext) : MapEq a a := fun _ => rfl

theorem lookup_extSet (m : Ext) (k v k' : String) :
    List.lookup k' (extSet m k v) = if k' = k then some v else List.lookup k' m := by
  induction m with
  | nil => simp only [extSet, lookup_cons_ite, List.lookup]
  | cons a m ih =>
    obtain ⟨k0, v0⟩ := a
    simp only [extSet]
    by_cases h0 : k0 = k
    · subst h0
      simp only [beq_self_eq_true, if_true, lookup_cons_ite]
      by_cases h : k' = k0 <;> simp [h]
    · have hb : (k0 == k) = false := by simpa using h0
      simp only [hb, Bool.false_eq_true, if_false]
      by_cases hlt : k < k0
      · simp only [hlt, if_true]
        rw [lookup_cons_ite]
      · simp only [hlt, if_false]
        rw [lookup_cons_ite, lookup_cons_ite, ih]
        by_cases h1 : k' = k0
        · subst h1; simp [h0]
        · simp [h1]

theorem MapEq.mapSet_extSet {a b : Ext} (h : MapEq a b) (k v : String) :
    MapEq (mapSet a k v) (extSet b k v) := by
  intro k'
  rw [lookup_mapSet, lookup_extSet, h k']

/-- the code's merge and the model's merge build the same map -/
theorem mergeM_mapEq (a b other : Ext) (h : MapEq a b) : MapEq (mergeM a other) (extMergeInto b other) := by
  unfold mergeM extMergeInto
  induction other generalizing a b with
  | nil => exact h
  | cons kv rest ih => exact ih _ _ (h.mapSet_extSet kv.1 kv.2)

theorem MapEq.isEmpty_eq {a b : Ext} (h : MapEq a b) : a.isEmpty = b.isEmpty := by
  cases a with
  | nil =>
    cases b with
    | nil => rfl
    | cons x b =>
      have := h x.1
      simp [List.lookup] at this
  | cons x a =>
    cases b with
    | nil =>
      have := h x.1
      simp [List.lookup] at this
    | cons y b => rfl

/-- `Extensions.Contains` reads its receiver as a map -/
theorem extContains_mapEq {a b : Ext} (h : MapEq a b) (other : Ext) : extContains a other = extContains b other := by
  unfold extContains
  rw [h.isEmpty_eq]
  congr 2
  funext kv
  rw [extLookup_eq_lookup, extLookup_eq_lookup, h kv.1]

/-- … and so does `RateDef.Value` -/
theorem value_mapEq {a b : Ext} (h : MapEq a b) (vals : List RateValue) (date : Date) (tags : List String) :
    value vals date tags a = value vals date tags b := by
  induction vals with
  | nil => rfl
  | cons rv rest ih => simp only [value, ih, extContains_mapEq h]

theorem mergedExtM_mapEq (c : Combo) (rate : RateDef) : MapEq (mergedExtM c rate) (mergedExt c rate) := by
  unfold mergedExtM mergedExt
  split
  · exact mergeM_mapEq _ _ _ (MapEq.refl _)
  · exact MapEq.refl _

/-- two results of `prepareRate` that differ at most in the order of the combo's extension list -/
structure Same (r r' : Option String × Combo) : Prop where
  err : r.1 = r'.1
  category : r.2.category = r'.2.category
  country : r.2.country = r'.2.country
  rate : r.2.rate = r'.2.rate
  percent : r.2.percent = r'.2.percent
  surcharge : r.2.surcharge = r'.2.surcharge
  ext : MapEq r.2.ext r'.2.ext

theorem Same.refl (r : Option String × Combo) : Same r r := ⟨rfl, rfl, rfl, rfl, rfl, rfl, MapEq.refl _⟩

theorem Same.of_ext (e : Option String) (cat country rate : String) (pct sur : Option Pct) {X Y : Ext} (h : MapEq X Y) :
    Same (e, ⟨cat, country, rate, pct, sur, X⟩) (e, ⟨cat, country, rate, pct, sur, Y⟩) := ⟨rfl, rfl, rfl, rfl, rfl, rfl, h⟩

theorem prepareTail_same (rate : RateDef) (c : Combo) (tags : List String) (date : Date) {X Y : Ext} (h : MapEq X Y) :
    Same (prepareTail rate { c with ext := X } tags date) (prepareTail rate { c with ext := Y } tags date) := by
  unfold prepareTail
  simp only [value_mapEq h]
  split
  · exact .of_ext _ _ _ _ _ _ h
  split
  · exact .of_ext _ _ _ _ _ _ h
  split <;> exact .of_ext _ _ _ _ _ _ h

theorem prepareWith_eq (rate : RateDef) (c : Combo) (tags : List String) (date : Date) :
    prepareWith rate c tags date = prepareTail rate { c with ext := mergedExtM c rate } tags date := rfl

/-- The tail of `(*Combo).prepareRate` (/repo/tax/combo.go) as Go writes it — nil tests and dereferences of
    the row `Value` returns — is `prepareTail`. -/
theorem goTail_eq_prepareTail (rate : RateDef) (c : Combo) (tags : List String) (date : Date) :
    (if rate.exempt = true then ((none : Option String), { c with percent := none, surcharge := none })
     else if (rate.values.length : Int) = 0 then (none, c)
     else if (value rate.values date tags c.ext).isNone = true then (some "invalid-date", c)
     else if (value rate.values date tags c.ext).get!.surcharge.isSome = true then
       (none, { c with percent := some (value rate.values date tags c.ext).get!.percent,
                       surcharge := some (value rate.values date tags c.ext).get!.surcharge.get! })
     else (none, { c with percent := some (value rate.values date tags c.ext).get!.percent, surcharge := none }))
    = prepareTail rate c tags date := by
  simp only [len_eq_zero, ← List.isEmpty_iff, prepareTail]
  rcases value rate.values date tags c.ext with _ | ⟨t, e, s, p, _ | sur, d⟩ <;> rfl

/-- **the translator's reading agrees with the model**: the same error; on
    success the same category, country, rate key, percent and surcharge, and
    the same extension map -/
theorem prepareRateM_agrees (cat : CategoryDef) (c : Combo) (tags : List String) (date : Date) :
    match prepareRate cat c tags date with
    | .error e => (prepareRateM cat c tags date).1 = some (errKey e)
    | .ok c' => Same (prepareRateM cat c tags date) (none, c') := by
  by_cases hk : c.rate = ""
  · simp only [prepareRate, prepareRateM, hk, beq_self_eq_true, if_true]
    exact .refl _
  cases hr : rateDef cat.rates c.rate with
  | none => simp [prepareRate, prepareRateM, hk, hr]; rfl
  | some rate =>
    -- both sides are `prepareTail`, on extension lists that are the same map
    have h := prepareTail_same rate c tags date (mergedExtM_mapEq c rate)
    rw [prepareRate_eq_tail tags date hk hr, show prepareRateM cat c tags date = prepareWith rate c tags date by
      simp [prepareRateM, hk, hr], prepareWith_eq]
    rcases ht : prepareTail rate { c with ext := mergedExt c rate } tags date with ⟨_ | e, c'⟩ <;> rw [ht] at h
    · exact h
    · -- the only error of the tail is `invalid-date`
      exact h.err.trans (congrArg some (prepareTail_err (congrArg Prod.fst ht)))

/-! ## the order in which `range rate.Ext` visits the rate's extensions -/

theorem lookup_mergeM (em other : Ext) (k : String) :
    List.lookup k (mergeM em other) = (List.lookup k other.reverse).or (List.lookup k em) := by
  unfold mergeM
  induction other generalizing em with
  | nil => simp
  | cons kv rest ih =>
    rw [List.foldl_cons, ih, lookup_mapSet, List.reverse_cons, List.lookup_append]
    cases List.lookup k rest.reverse with
    | some v => rfl
    | none =>
      obtain ⟨k0, v0⟩ := kv
      simp only [Option.none_or]
      rw [lookup_cons_ite]
      by_cases h : k = k0 <;> simp [h]

/-- the merge loop builds the same map whatever the order in which Go visits
    the rate's extensions (a Go map: distinct keys) -/
theorem mergeM_order (em other other' : Ext) (hp : other.Perm other') (hn : (other.map Prod.fst).Nodup) :
    MapEq (mergeM em other) (mergeM em other') := by
  intro k
  rw [lookup_mergeM, lookup_mergeM]
  have h1 : List.lookup k other.reverse = List.lookup k other :=
    GoSem.lookup_perm (List.reverse_perm other)
      (((List.reverse_perm other).map Prod.fst).nodup_iff.mpr hn) k
  have hn' : (other'.map Prod.fst).Nodup := ((hp.map Prod.fst).nodup_iff).mp hn
  have h2 : List.lookup k other'.reverse = List.lookup k other' :=
    GoSem.lookup_perm (List.reverse_perm other')
      (((List.reverse_perm other').map Prod.fst).nodup_iff.mpr hn') k
  rw [h1, h2, GoSem.lookup_perm hp hn k]

/-- hence the whole of `prepareRate` after the lookup: the same error, the same
    percent and surcharge, the same extension map -/
theorem prepareWith_order (rate : RateDef) (e' : Ext) (hp : rate.ext.Perm e') (hn : (rate.ext.map Prod.fst).Nodup)
    (c : Combo) (tags : List String) (date : Date) :
    Same (prepareWith { rate with ext := e' } c tags date) (prepareWith rate c tags date) := by
  refine prepareTail_same rate c tags date ?_
  unfold mergedExtM
  simp only
  rw [← hp.isEmpty_eq]
  split
  · intro k; exact (mergeM_order c.ext rate.ext e' hp hn k).symm
  · exact MapEq.refl _

end GoblVerif.Proofs.RatesSrc
