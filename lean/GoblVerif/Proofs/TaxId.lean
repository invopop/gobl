/-
  Per regime: the validator of Model/TaxId.lean is the published rule of Spec/C13.lean,
  `XX.regime s = (format s && check s)` (ES, GB, IN: Proofs/TaxIdES.lean, TaxIdGB.lean, TaxIdIN.lean).
  The loops are rewritten into the vocabulary of the specification with the string left a variable; what remains
  is arithmetic about one sum.  Props/C13.lean and Proofs/Detect.lean use a published format through `XX.of_format`
  (the length and which part is digits), Props/C13.lean also through `XX.gate_of_format`.
-/
import GoblVerif.Proofs.TaxIdDigits

namespace GoblVerif.TaxId
open GoblVerif.Spec.TaxId (digs dot num dg isDigits digitSum luhnTotal)

section
variable {α : Type} (v : α → Nat) (w : Nat → Nat) (F : Nat → List α → Nat → Nat → Nat)
  (h0 : ∀ l i sum, F 0 l i sum = sum) (hnil : ∀ k i sum, F (k + 1) [] i sum = sum)
  (hcons : ∀ k x l i sum, F (k + 1) (x :: l) i sum = F k l (i + 1) (sum + v x * w i))
include h0 hnil hcons

/-- `F`, given by its recursion equations, is a loop `for i := i₀; i < i₀ + k; i++ { sum += v(l[i-i₀]) * w(i) }`
    (GR over stored digits, PT over the characters) -/
theorem countedLoop_eq_dot : ∀ k l i sum, F k l i sum = sum + dot ((List.range' i k).map w) (l.map v)
  | 0, l, i, sum => by simp [h0, dot_nil_left]
  | k + 1, [], i, sum => by simp [hnil, dot_nil_right]
  | k + 1, x :: l, i, sum => by
    simp [hcons, countedLoop_eq_dot k, List.range'_succ, dot_cons, Nat.mul_comm, Nat.add_assoc]

/-- the same loop as the fold in which its translation arrives -/
theorem countedLoop_eq_foldl : ∀ k l i sum, F k l i sum = ((l.take k).zipIdx i).foldl (fun a p => a + v p.1 * w p.2) sum
  | 0, l, i, sum => by simp [h0]
  | k + 1, [], i, sum => by simp [hnil]
  | k + 1, x :: l, i, sum => by simp [hcons, countedLoop_eq_foldl k]

end

theorem AE.regime_eq (s : Str) : AE.regime s = (Spec.TaxId.AE.format s && Spec.TaxId.AE.check s) := by
  rw [AE.regime, matchSeq_rep, Spec.TaxId.AE.check, Bool.and_true]; rfl

theorem AE.of_format {s : Str} (hf : Spec.TaxId.AE.format s = true) : s.length = 15 ∧ s.all isDig = true := length_digits hf

theorem AE.gate_of_format {s : Str} (hf : Spec.TaxId.AE.format s = true) : gate s = true :=
  gate_of_length_digits (n := 14) (AE.of_format hf)

theorem PL.of_format {s : Str} (hf : Spec.TaxId.PL.format s = true) : s.length = 10 ∧ s.all isDig = true := by
  rw [Spec.TaxId.PL.format, Bool.and_eq_true, Bool.and_eq_true] at hf
  exact length_digits hf.1.1

theorem PL.gate_of_format {s : Str} (hf : Spec.TaxId.PL.format s = true) : gate s = true :=
  gate_of_length_digits (n := 9) (PL.of_format hf)

theorem PL.fmt_eq_format (s : Str) : PL.fmt s = Spec.TaxId.PL.format s := by
  match s with
  | c0 :: c1 :: c2 :: t =>
    rw [Bool.eq_iff_iff]
    simp [PL.fmt, matchSeq, matchSeq_rep, Spec.TaxId.PL.format, isDigits_eq, PL.d19, d19_iff]
    tauto
  | [] | [_] | [_, _] => simp [PL.fmt, matchSeq, Spec.TaxId.PL.format]

theorem PL.regime_eq (s : Str) : PL.regime s = (Spec.TaxId.PL.format s && Spec.TaxId.PL.check s) := by
  refine and_congr_of_left (PL.fmt_eq_format s) fun hf => ?_
  obtain ⟨hl, hd⟩ := PL.of_format hf
  simp only [PL.validateNIPChecksum, Spec.TaxId.PL.check, wloop_eq_dot, PL.weights, dval_getD_zero, dg, Nat.zero_add]
  simp [hl, allDig_eq, hd]

theorem GR.sumLoop_eq_dot (k : Nat) (ds : List Nat) (i sum : Nat) :
    GR.sumLoop k ds i sum = sum + dot ((List.range' i k).map (fun j => 2 ^ (8 - j))) ds := by
  rw [countedLoop_eq_dot id _ GR.sumLoop (fun _ _ _ => by simp [GR.sumLoop]) (fun _ _ _ => rfl) (fun _ _ _ _ _ => rfl),
    List.map_id]

theorem GR.of_format {s : Str} (hf : Spec.TaxId.GR.format s = true) : s.length = 9 ∧ s.all isDig = true := length_digits hf

theorem GR.gate_of_format {s : Str} (hf : Spec.TaxId.GR.format s = true) : gate s = true :=
  gate_of_length_digits (n := 8) (GR.of_format hf)

theorem GR.regime_eq (s : Str) : GR.regime s = (Spec.TaxId.GR.format s && Spec.TaxId.GR.check s) := by
  refine and_congr_of_left (matchSeq_rep 9 isDig s) fun hf => ?_
  have hw : (List.range' 0 8).map (fun j => 2 ^ (8 - j)) = [256, 128, 64, 32, 16, 8, 4, 2] := by decide
  simp [GR.hasValidChecksum, allDig_eq, (GR.of_format hf).2, GR.sumLoop_eq_dot, hw, Spec.TaxId.GR.check, dg, digs]

theorem CH.of_format {s : Str} (hf : Spec.TaxId.CH.format s = true) : ∃ t, s = 'E' :: t ∧ t.length = 9 ∧ t.all isDig = true :=
  letterDigits_iff.mp hf

theorem CH.gate_of_format {s : Str} (hf : Spec.TaxId.CH.format s = true) : gate s = true :=
  gate_of_letterDigits (by decide) (CH.of_format hf)

theorem CH.regime_eq (s : Str) : CH.regime s = (Spec.TaxId.CH.format s && Spec.TaxId.CH.check s) := by
  refine and_congr_of_left (matchSeq_isCh_digits 'E' 9 s) fun _ => ?_
  simp only [CH.commercialCheck, Spec.TaxId.CH.check, wloop_eq_dot, CH.multipliers, dval_getD_zero, dg, digs_drop, getD_drop,
    Nat.zero_add]
  generalize 11 - dot _ _ % 11 = c
  cases h : c == 10 <;> simp [h, bne]

theorem AT.of_format {s : Str} (hf : Spec.TaxId.AT.format s = true) : ∃ t, s = 'U' :: t ∧ t.length = 8 ∧ t.all isDig = true :=
  letterDigits_iff.mp hf

theorem AT.gate_of_format {s : Str} (hf : Spec.TaxId.AT.format s = true) : gate s = true :=
  gate_of_letterDigits (by decide) (AT.of_format hf)

theorem AT.loop_eq (ms : List Nat) (s : Str) (total : Nat) :
    AT.loop ms s total = total + ((List.zipWith (· * ·) ms (digs s)).map digitSum).sum := by
  induction ms generalizing s total with
  | nil => simp [AT.loop]
  | cons m ms ih =>
    cases s with
    | nil => simp [AT.loop, digs]
    | cons c cs =>
      simp only [AT.loop, ih, digs_cons, List.zipWith_cons_cons, List.map_cons, List.sum_cons, digitSum, Nat.mul_comm m]
      split <;> omega

theorem AT.regime_eq (s : Str) : AT.regime s = (Spec.TaxId.AT.format s && Spec.TaxId.AT.check s) := by
  refine and_congr_of_left (matchSeq_isCh_digits 'U' 8 s) fun hf => ?_
  obtain ⟨t, rfl, hl, hd⟩ := AT.of_format hf
  have hb := digs_le_nine hd
  have hn : (digs t).length = 8 := by simpa using hl
  simp only [AT.commercialCheck, AT.loop_eq, AT.multipliers, Spec.TaxId.AT.check, dval_getD_zero, dg,
    List.drop_succ_cons, List.drop_zero, List.getD_cons_succ]
  generalize digs t = d at hb hn
  -- a product `w·d` below 10 is its own digit sum, so what the loop adds is, digit by digit, the published sum
  match d, hn with
  | [d1, d2, d3, d4, d5, d6, d7, d8], _ =>
    simp only [List.mem_cons, forall_eq_or_imp] at hb
    simp [digitSum_of_le, hb, Nat.add_assoc]
    generalize d1 + (digitSum (2 * d2) + _) = σ
    split <;> omega

theorem PT.sumLoop_eq_dot (k : Nat) (s : Str) (i sum : Nat) :
    PT.sumLoop k s i sum = sum + dot ((List.range' i k).map (10 - ·)) (digs s) :=
  countedLoop_eq_dot dval _ PT.sumLoop (fun _ _ _ => by simp [PT.sumLoop]) (fun _ _ _ => rfl) (fun _ _ _ _ _ => rfl) k s i sum

theorem PT.of_format {s : Str} (hf : Spec.TaxId.PT.format s = true) : s.length = 9 ∧ s.all isDig = true := by
  rw [Spec.TaxId.PT.format, Bool.and_eq_true] at hf
  exact length_digits hf.1

theorem PT.gate_of_format {s : Str} (hf : Spec.TaxId.PT.format s = true) : gate s = true :=
  gate_of_length_digits (n := 8) (PT.of_format hf)

theorem PT.prefix_eq (c0 c1 : Char) :
    (Spec.TaxId.PT.prefixes1.contains c0 || Spec.TaxId.PT.prefixes2.contains (c0, c1)) =
    (PT.validPrefixes.contains [c0] || PT.validPrefixes.contains [c0, c1]) := by
  rw [Bool.eq_iff_iff]
  simp [PT.validPrefixes, Spec.TaxId.PT.prefixes1, Spec.TaxId.PT.prefixes2]

theorem PT.regime_eq (s : Str) : PT.regime s = (Spec.TaxId.PT.format s && Spec.TaxId.PT.check s) := by
  have hw : (List.range' 1 8).map (10 - ·) = [9, 8, 7, 6, 5, 4, 3, 2] := by decide
  simp only [PT.regime, bne, ← Bool.not_or, if_not_false, PT.sumLoop_eq_dot, hw, dval_getD_zero, Spec.TaxId.PT.format,
    Spec.TaxId.PT.check, dg, Nat.zero_add, allDig_eq, isDigits_eq]
  generalize dot _ _ % 11 = r
  have e : (r == 0 || r == 1) = decide (r < 2) := by rw [Bool.eq_iff_iff]; simp; omega
  by_cases hl : s.length = 9
  · -- the prefix table in its two shapes, on the first two characters
    have hp : (Spec.TaxId.PT.prefixes1.contains (s.getD 0 ' ') || Spec.TaxId.PT.prefixes2.contains (s.getD 0 ' ', s.getD 1 ' ')) =
        (PT.validPrefixes.contains (s.take 1) || PT.validPrefixes.contains (s.take 2)) := by
      match s, hl with
      | c0 :: c1 :: t, _ => exact PT.prefix_eq c0 c1
    simp only [hp, e, Nat.add_one_sub_one, decide_eq_true_eq]
    ac_rfl
  · simp [beq_eq_false_iff_ne.mpr hl]

/-- the Go loop walks the number from the left with the weight index counting down: the weights are applied
    from the right -/
theorem CO.sumLoop_eq_dot (l : Nat) (s : Str) (i sum : Nat) (h : i + s.length = l) :
    CO.sumLoop l s i sum = sum + dot CO.nitMultipliers (digs s).reverse := by
  induction s generalizing i sum with
  | nil => simp [CO.sumLoop, digs, dot_nil_right]
  | cons c cs ih =>
    have e : l - i - 1 = cs.length := by simp at h; omega
    rw [CO.sumLoop, ih _ _ (by simp at h; omega), digs_cons, List.reverse_cons, dot_comm _ (_ ++ _), dot_concat,
      dot_comm _ CO.nitMultipliers, e, List.length_reverse, digs_length]
    omega

theorem CO.check_eq (body : Str) (c : Char) (hc : isDig c = true) :
    CO.validateDigits body [c] = Spec.TaxId.CO.check (body ++ [c]) := by
  simp only [CO.validateDigits, atoi?_single c hc, CO.sumLoop_eq_dot _ body 0 0 (Nat.zero_add _), Spec.TaxId.CO.check, digs,
    List.map_append, List.map_cons, List.map_nil, List.length_append, List.length_map, List.length_cons, List.length_nil,
    Nat.add_sub_cancel, List.take_left' (List.length_map _), List.getLast?_concat, Nat.zero_add, Spec.TaxId.CO.primes,
    CO.nitMultipliers]
  generalize dot _ _ % 11 = r
  rw [Bool.eq_iff_iff]
  simp only [beq_iff_eq, Option.some.injEq, ge_iff_le]
  split <;> split <;> omega

theorem CO.of_format {s : Str} (hf : Spec.TaxId.CO.format s = true) :
    (s.length = 8 + 1 ∨ s.length = 9 + 1) ∧ s.all isDig = true := by
  simpa [Spec.TaxId.CO.format, isDigits_eq] using hf

theorem CO.gate_of_format {s : Str} (hf : Spec.TaxId.CO.format s = true) : gate s = true :=
  (CO.of_format hf).1.elim (fun h => gate_of_length_digits ⟨h, (CO.of_format hf).2⟩)
    fun h => gate_of_length_digits ⟨h, (CO.of_format hf).2⟩

theorem CO.regime_eq (s : Str) : CO.regime s = (Spec.TaxId.CO.format s && Spec.TaxId.CO.check s) := by
  simp only [CO.regime, if_not_false]
  simp only [Bool.if_false_left, ← Bool.and_assoc]
  refine and_congr_of_left ?_ fun hf => ?_
  · rw [Bool.eq_iff_iff]
    simp only [Spec.TaxId.CO.format, isDigits_eq, allDig_eq, Bool.and_eq_true, Bool.or_eq_true, Bool.not_eq_true',
      decide_eq_false_iff_not, beq_iff_eq]
    exact ⟨fun ⟨⟨hd, h1⟩, h2⟩ => ⟨by omega, hd⟩, fun ⟨hl, hd⟩ => ⟨⟨hd, by omega⟩, by omega⟩⟩
  · -- a well-formed code is a body followed by its check digit
    obtain ⟨hl, hd⟩ := CO.of_format hf
    obtain ⟨body, c, rfl, -, hc⟩ := digits_concat (by rintro rfl; simp at hl) hd
    simp [CO.check_eq body c hc]

/-- what a step does with `(p + a) mod 10`: read 0 as 10, double, reduce mod 11 -/
def DE.dbl (t : Nat) : Nat := 2 * (if t == 0 then 10 else t) % 11

theorem DE.dbl_range : ∀ t, t < 10 → 1 ≤ DE.dbl t ∧ DE.dbl t ≤ 10 := by decide

theorem DE.step_range (p a : Nat) : 1 ≤ Spec.TaxId.DE.step p a ∧ Spec.TaxId.DE.step p a ≤ 10 :=
  DE.dbl_range _ (Nat.mod_lt _ (by omega))

theorem DE.fold_range (l : List Nat) (p : Nat) (hp : 1 ≤ p ∧ p ≤ 10) :
    1 ≤ l.foldl Spec.TaxId.DE.step p ∧ l.foldl Spec.TaxId.DE.step p ≤ 10 := by
  induction l generalizing p with
  | nil => simpa using hp
  | cons a l ih => simpa using ih _ (DE.step_range p a)

theorem DE.loop_eq (k : Nat) (s : Str) (p : Nat) (hk : k ≤ s.length) (h : (s.take k).all isDig = true) :
    DE.loop k s p = some ((digs (s.take k)).foldl Spec.TaxId.DE.step p) := by
  induction k generalizing s p with
  | zero => simp [DE.loop, digs]
  | succ k ih =>
    match s, hk, h with
    | c :: cs, hk, h =>
      simp only [List.take_succ_cons, List.all_cons, Bool.and_eq_true] at h
      simp only [DE.loop, atoi?_single c h.1]
      rw [ih cs _ (by simpa using hk) h.2]
      simp [digs, Spec.TaxId.DE.step, Nat.add_comm]

theorem DE.fmt_eq_format (s : Str) : DE.fmt s = Spec.TaxId.DE.format s := by
  cases s with
  | nil => simp [DE.fmt, matchSeq, Spec.TaxId.DE.format]
  | cons c t =>
    rw [Bool.eq_iff_iff]
    simp [DE.fmt, matchSeq, matchSeq_rep, Spec.TaxId.DE.format, isDigits_eq, d19_iff]
    tauto

theorem DE.of_format {s : Str} (hf : Spec.TaxId.DE.format s = true) : s.length = 9 ∧ s.all isDig = true := by
  rw [Spec.TaxId.DE.format, Bool.and_eq_true] at hf
  exact length_digits hf.1

theorem DE.gate_of_format {s : Str} (hf : Spec.TaxId.DE.format s = true) : gate s = true :=
  gate_of_length_digits (n := 8) (DE.of_format hf)

theorem DE.regime_eq (s : Str) : DE.regime s = (Spec.TaxId.DE.format s && Spec.TaxId.DE.check s) := by
  refine and_congr_of_left (DE.fmt_eq_format s) fun hf => ?_
  obtain ⟨hl, hd⟩ := DE.of_format hf
  have h8 : isDig (s.getD 8 ' ') = true := isDig_getD hd (by omega)
  have he := dval_le_nine h8
  have hp := DE.fold_range (digs (s.take 8)) 10 (by omega)
  simp only [DE.validateTaxCodeChecksum, DE.loop_eq 8 s 10 (by omega) (all_take hd 8), atoi?_single _ h8, Spec.TaxId.DE.check,
    ← digs_take, dg]
  rw [dval_getD_space] at he ⊢
  -- the check digit Go computes from the last state `p` closes the recursion with `(p + a₉) mod 10 = 1`
  generalize List.foldl _ _ _ = p at hp
  generalize (digs s).getD _ 0 = e at he
  rw [Bool.eq_iff_iff]
  simp only [beq_iff_eq]
  split <;> omega

theorem luhnTotal_cons (a : Nat) (l : List Nat) : luhnTotal (a :: l) = a + luhnTotal (0 :: l) := by
  cases l <;> simp [luhnTotal, Nat.add_assoc]

/-- the Go loop over the reversed number doubles the characters at even positions: it is the published total
    of the number with a check digit 0 appended -/
theorem luhnLoop_eq (r : Str) (pos sum : Nat) (hd : r.all isDig = true) :
    luhnLoop r pos sum = sum + if pos % 2 = 0 then luhnTotal (0 :: digs r) else luhnTotal (digs r) := by
  induction r generalizing pos sum with
  | nil => simp [luhnLoop, digs, luhnTotal]
  | cons c cs ih =>
    simp only [List.all_cons, Bool.and_eq_true] at hd
    have hc := dval_le_nine hd.1
    rw [luhnLoop, ih _ _ hd.2, digs_cons]
    by_cases hp : pos % 2 = 0
    · have : (pos + 1) % 2 ≠ 0 := by omega
      simp only [hp, this, if_false, if_true, beq_self_eq_true, luhnTotal, digitSum]
      split <;> omega
    · have : (pos + 1) % 2 = 0 := by omega
      simp only [hp, this, if_false, if_true, beq_iff_eq, luhnTotal_cons (dval c)]
      omega

theorem luhnCheckDigit_eq_iff (body : Str) (c : Char) (hb : body.all isDig = true) (hc : isDig c = true) :
    luhnCheckDigit body = [c] ↔ Spec.TaxId.luhnValid (digs (body ++ [c])) = true := by
  have hr : body.reverse.all isDig = true := by simpa using hb
  have ha := dval_le_nine hc
  have e : (digs (body ++ [c])).reverse = dval c :: digs body.reverse := by simp [digs]
  rw [luhnCheckDigit, luhnLoop_eq _ 0 0 hr, Spec.TaxId.luhnValid, e, luhnTotal_cons (dval c)]
  simp only [Nat.zero_mod, if_true, Nat.zero_add, beq_iff_eq]
  generalize luhnTotal _ = t
  rw [List.cons.injEq, digitChar_eq_iff (by omega) hc, eq_self, and_true]
  omega

/-- IT: `n = 10`; the French SIREN, `FR.sirenValid`, has `n = 8` -/
theorem luhnCheck_eq {n : Nat} {s : Str} (hl : s.length = n + 1) (hd : s.all isDig = true) :
    (luhnCheckDigit (s.take n) == s.drop n) = Spec.TaxId.luhnValid (digs s) := by
  obtain ⟨body, c, rfl, hb, hc⟩ := digits_concat (by rintro rfl; simp at hl) hd
  have hn : body.length = n := by simpa using hl
  rw [List.take_left' hn, List.drop_left' hn, Bool.eq_iff_iff, beq_iff_eq]
  exact luhnCheckDigit_eq_iff body c hb hc

theorem IT.of_format {s : Str} (hf : Spec.TaxId.IT.format s = true) : s.length = 11 ∧ s.all isDig = true := length_digits hf

theorem IT.gate_of_format {s : Str} (hf : Spec.TaxId.IT.format s = true) : gate s = true :=
  gate_of_length_digits (n := 10) (IT.of_format hf)

theorem IT.regime_eq (s : Str) : IT.regime s = (Spec.TaxId.IT.format s && Spec.TaxId.IT.check s) := by
  simp only [IT.regime, if_not_false, bne, allDig_eq]
  rw [← Bool.and_assoc, Bool.and_comm (s.all isDig)]
  exact and_congr_of_left rfl fun hf => luhnCheck_eq (IT.of_format hf).1 (IT.of_format hf).2

theorem BR.sumLoop_eq (ws : List Nat) (s : Str) (sum : Nat) :
    BR.sumLoop ws s sum =
      if ws.length ≤ s.length ∧ (s.take ws.length).all isDig = true then some (sum + dot ws (digs s)) else none := by
  induction ws generalizing s sum with
  | nil => simp [BR.sumLoop, dot_nil_left]
  | cons w ws ih =>
    cases s with
    | nil => simp [BR.sumLoop]
    | cons c cs =>
      simp only [BR.sumLoop, atoi?_singleton]
      cases hc : isDig c <;> simp [hc, ih, digs_cons, dot_cons, Nat.mul_comm, Nat.add_assoc]

theorem BR.verifyDigit_eq (s : Str) (ws : List Nat) (pos : Nat) :
    BR.verifyDigit s ws pos = (decide (ws.length ≤ s.length) && (s.take ws.length).all isDig && isDig (s.getD pos ' ') &&
      (dval (s.getD pos ' ') == Spec.TaxId.BR.dv (dot ws (digs s) % 11))) := by
  simp only [BR.verifyDigit, BR.sumLoop_eq, atoi?_singleton, Spec.TaxId.BR.dv, Nat.zero_add]
  by_cases h1 : ws.length ≤ s.length <;> cases h2 : (s.take ws.length).all isDig <;> cases h3 : isDig (s.getD pos ' ') <;>
    simp [h1]

theorem BR.of_format {s : Str} (hf : Spec.TaxId.BR.format s = true) : s.length = 14 ∧ s.all isDig = true := length_digits hf

theorem BR.gate_of_format {s : Str} (hf : Spec.TaxId.BR.format s = true) : gate s = true :=
  gate_of_length_digits (n := 13) (BR.of_format hf)

theorem BR.regime_eq (s : Str) : BR.regime s = (Spec.TaxId.BR.format s && Spec.TaxId.BR.check s) := by
  simp only [BR.regime, bne, if_not_false, Spec.TaxId.BR.format, Bool.and_assoc]
  refine and_congr_of_left rfl fun hl => ?_
  rw [beq_iff_eq] at hl
  -- the two calls read the digits 1–12 and 13, and 1–13 and 14: all of them
  have h14 : s.all isDig = ((s.take 12).all isDig && isDig (s.getD 12 ' ') && isDig (s.getD 13 ' ')) := by
    rw [← all_take_succ (by omega), ← all_take_succ (by omega), List.take_of_length_le (by omega)]
  simp only [BR.verifyDigit_eq, BR.weights1, BR.weights2, Spec.TaxId.BR.check, isDigits_eq,
    h14, hl, all_take_succ (show 12 < s.length by omega) isDig ' ', dg, dval_getD_space, List.length_cons, List.length_nil]
  rw [Bool.eq_iff_iff]
  simp
  tauto

/-- the Go form of the French key, (100·n + 12) mod 97, is the published (12 + 3·(n mod 97)) mod 97 -/
theorem FR.key_formula (n : Nat) : (100 * n + 12) % 97 = (12 + 3 * (n % 97)) % 97 := by omega

theorem FR.of_format {s : Str} (hf : Spec.TaxId.FR.format s = true) : s.length = 11 ∧ s.all isDig = true := length_digits hf

theorem FR.gate_of_format {s : Str} (hf : Spec.TaxId.FR.format s = true) : gate s = true :=
  gate_of_length_digits (n := 10) (FR.of_format hf)

theorem FR.regime_eq (s : Str) : FR.regime s = (Spec.TaxId.FR.format s && Spec.TaxId.FR.check s) := by
  simp only [FR.regime, if_not_false]
  refine and_congr_of_left (matchSeq_rep 11 isDig s) fun hf => ?_
  obtain ⟨hl, hd⟩ := FR.of_format hf
  rw [Bool.eq_iff_iff]
  simp only [FR.calculateVATCheckDigit, beq_iff_eq,
    atoi0_digits (all_drop hd 2), Spec.TaxId.FR.check, ← digs_take, ← digs_drop, Nat.mul_comm _ 100, FR.key_formula]
  have hk : (12 + 3 * (num (digs (s.drop 2)) % 97)) % 97 < 100 := by omega
  generalize (12 + 3 * _) % 97 = k at hk
  exact twoDigits_eq_iff hk (by simp; omega) (all_take hd 2)

/-- Go's two patterns are the published format of the number padded to ten digits, except for the second digit,
    which `commercialCheck` looks at -/
theorem BE.fmt_eq (s : Str) :
    BE.fmt s = ((Spec.TaxId.BE.pad s).length == 10 && (Spec.TaxId.BE.pad s).all isDig && (Spec.TaxId.BE.pad s).head? == some '0') := by
  simp only [BE.fmt, matchSeq_rep, matchSeq_isCh_digits, letterDigits, Spec.TaxId.BE.pad]
  by_cases h9 : s.length = 9
  · simp [h9, show isDig '0' = true by decide]
  · simp only [beq_eq_false_iff_ne.mpr h9, Bool.false_and, Bool.false_or, Bool.false_eq_true, if_false]
    cases s with
    | nil => simp
    | cons c t =>
      rw [Bool.eq_iff_iff]
      have h0 : c = '0' → isDig c = true := by rintro rfl; decide
      simp
      tauto

theorem BE.commercialCheck_eq (s : Str) (hl : (Spec.TaxId.BE.pad s).length = 10) (hd : (Spec.TaxId.BE.pad s).all isDig = true) :
    BE.commercialCheck s = ((Spec.TaxId.BE.pad s)[1]? != some '0' && Spec.TaxId.BE.check s) := by
  have hp : (if (s.length == 9) = true then '0' :: s else s) = Spec.TaxId.BE.pad s := rfl
  simp only [BE.commercialCheck, hp, Spec.TaxId.BE.check]
  generalize Spec.TaxId.BE.pad s = t at hl hd
  have h1 : isDig (t.getD 1 '0') = true := isDig_getD hd (by omega)
  have e1 : t[1]? = some (t.getD 1 '0') := by simp [List.getD_eq_getElem?_getD, List.getElem?_eq_getElem (show 1 < t.length by omega)]
  have e2 : (t.drop 8).take 2 = t.drop 8 := List.take_of_length_le (by simp; omega)
  simp only [e1, e2, atoi0_digits (all_take hd 8), atoi0_digits (all_drop hd 8), digs_take, digs_drop]
  rw [Bool.eq_iff_iff]
  generalize t.getD 1 '0' = c at h1
  simp [dval_eq_zero_iff h1]
  omega

/-- the rule reads the code padded to ten digits -/
theorem BE.of_format {s : Str} (hf : Spec.TaxId.BE.format s = true) :
    (Spec.TaxId.BE.pad s).length = 10 ∧ (Spec.TaxId.BE.pad s).all isDig = true := by
  rw [Spec.TaxId.BE.format, Bool.and_eq_true, Bool.and_eq_true] at hf
  exact length_digits hf.1.1

theorem BE.gate_of_format {s : Str} (hf : Spec.TaxId.BE.format s = true) : gate s = true := by
  obtain ⟨hl, hd⟩ := BE.of_format hf
  refine gate_of_allDig (by rintro rfl; simp [Spec.TaxId.BE.pad] at hl) ?_
  unfold Spec.TaxId.BE.pad at hd
  split at hd
  · exact (Bool.and_eq_true_iff.mp (List.all_cons.symm.trans hd)).2
  · exact hd

theorem BE.regime_eq (s : Str) : BE.regime s = (Spec.TaxId.BE.format s && Spec.TaxId.BE.check s) := by
  rw [BE.regime, BE.fmt_eq, Spec.TaxId.BE.format, isDigits_eq]
  cases h : ((Spec.TaxId.BE.pad s).length == 10 && (Spec.TaxId.BE.pad s).all isDig)
  · simp
  · simp only [Bool.and_eq_true, beq_iff_eq] at h
    simp [BE.commercialCheck_eq s h.1 h.2, Bool.and_assoc]

/-- `mod11` walks the number from its second-lowest digit upwards with weights 2, 3, …: the published weighted sum
    read from the right -/
theorem NL.mod11Loop_eq (k i sum : Nat) (ds : List Nat) (e : Nat) (hds : ∀ d ∈ ds, d ≤ 9) (he : e ≤ 9) :
    NL.mod11Loop k i (num (ds ++ [e])) sum = sum + dot (List.range' (i + 2) k) ds.reverse := by
  induction k generalizing i sum ds e with
  | zero => simp [NL.mod11Loop, dot_nil_left]
  | succ k ih =>
    have hq : num (ds ++ [e]) / 10 = num ds := by rw [num_concat]; omega
    rw [NL.mod11Loop, hq]
    rcases ds.eq_nil_or_concat with rfl | ⟨ds', e', rfl⟩
    · have := ih (i + 1) sum [] 0 (by simp) (by omega)
      simpa [num, dot_nil_right] using this
    · rw [List.concat_eq_append] at hds ⊢
      have he' : e' ≤ 9 := hds e' (by simp)
      have hm : num (ds' ++ [e']) % 10 = e' := by rw [num_concat]; omega
      rw [hm, ih (i + 1) _ ds' e' (fun d hd => hds d (by simp [hd])) he', List.reverse_append, List.range'_succ]
      simp only [List.reverse_cons, List.reverse_nil, List.nil_append, List.singleton_append, dot_cons]
      rw [Nat.mul_comm e', Nat.add_right_comm i 2 1]; omega

theorem NL.mod11_eq (code : Str) (hl : code.length = 9) (hd : code.all isDig = true) :
    NL.mod11 (num (digs code)) =
      (let r := dot [9, 8, 7, 6, 5, 4, 3, 2] (digs code) % 11; if r > 9 then -1 else (r : Int)) := by
  obtain ⟨body, c, rfl, hb, hc⟩ := digits_concat (by rintro rfl; simp at hl) hd
  have hn : (digs body).length = 8 := by simpa using hl
  have hw : List.range' 2 8 = [9, 8, 7, 6, 5, 4, 3, 2].reverse := by decide
  rw [digs_concat, NL.mod11, NL.mod11Loop_eq 8 0 0 _ _ (digs_le_nine hb) (dval_le_nine hc), hw, dot_reverse _ _ (by simp [hn]),
    ← dot_take _ (digs body ++ [dval c]) 8 (by simp), List.take_left' hn, Nat.zero_add]

theorem NL.mod97Loop_small (c : Nat) (cs : List Nat) (r : Nat) (h : c ≤ 9) :
    NL.mod97Loop (c :: cs) r = NL.mod97Loop cs (r * 10 + c) := by
  simp only [NL.mod97Loop]; rw [if_neg (by omega)]
theorem NL.mod97Loop_big (c : Nat) (cs : List Nat) (r : Nat) (h : 9 < c) :
    NL.mod97Loop (c :: cs) r = NL.mod97Loop cs (r * 100 + c) := by
  simp only [NL.mod97Loop]; rw [if_pos h]; ring_nf

/-- `mod97Loop` reads its values as decimal text, a letter (10–35) taking two places: the number the published
    mod-97 test forms -/
theorem NL.mod97Loop_eq (cs : Str) (r : Nat) (h : cs.all isAZ09 = true) :
    NL.mod97Loop (cs.map NL.mod97Val) r =
      r * 10 ^ (cs.flatMap Spec.TaxId.NL.expand).length + num (cs.flatMap Spec.TaxId.NL.expand) := by
  induction cs generalizing r with
  | nil => simp [NL.mod97Loop, num]
  | cons c cs ih =>
    simp only [List.all_cons, Bool.and_eq_true] at h
    by_cases hd : isDig c = true
    · have hv : NL.mod97Val c = dval c := by simp [NL.mod97Val, hd, dval]
      rw [List.map_cons, hv, NL.mod97Loop_small _ _ _ (dval_le_nine hd), ih _ h.2, List.flatMap_cons, num_append,
        List.length_append, Nat.pow_add]
      simp only [Spec.TaxId.NL.expand, hd, if_true, num, List.length_cons, List.length_nil]
      ring
    · have hu := isUp_bounds_of_isAZ09 h.1 hd
      have hd' : isDig c = false := by simpa using hd
      have hv : NL.mod97Val c = c.toNat - 55 := by simp [NL.mod97Val, hd]
      rw [List.map_cons, hv, NL.mod97Loop_big _ _ _ (by omega), ih _ h.2, List.flatMap_cons, num_append, List.length_append,
        Nat.pow_add]
      simp only [Spec.TaxId.NL.expand, hd', Bool.false_eq_true, if_false, num, List.length_cons, List.length_nil]
      have := Nat.div_add_mod (c.toNat - 55) 10
      generalize (c.toNat - 55) / 10 = a at this
      generalize (c.toNat - 55) % 10 = b at this
      rw [← this]
      ring

theorem NL.validateDigits_eq (code check : Str) (hl : code.length = 9) (hne : check ≠ []) :
    NL.validateDigits code check = (code.all isDig && check.all isDig &&
      (Spec.TaxId.NL.elfproef (digs code) || Spec.TaxId.NL.mod97 (code ++ ['B'] ++ check))) := by
  cases h1 : code.all isDig
  · simp [NL.validateDigits, atoi?_eq_none h1]
  cases h2 : check.all isDig
  · simp only [NL.validateDigits, atoi?_eq_none h2, Bool.and_false, Bool.false_and]
    split <;> rfl
  have eX : ['N', 'L'] ++ code ++ ['B'] ++ check = ['N', 'L'] ++ (code ++ ['B'] ++ check) := by simp
  have hX : (['N', 'L'] ++ (code ++ ['B'] ++ check)).all isAZ09 = true := by
    simp only [List.all_append, List.all_cons, List.all_nil, Bool.and_true, Bool.and_eq_true]
    exact ⟨by decide, ⟨allDig_isAZ09 h1, by decide⟩, allDig_isAZ09 h2⟩
  obtain ⟨hk, he⟩ := num_digs_mod_ten hl h1
  simp only [NL.validateDigits, atoi?_eq code (by rintro rfl; simp at hl) h1, atoi?_eq check hne h2, NL.mod11_eq code hl h1, hk, dg,
    NL.checkMod97, eX, NL.mod97Loop_eq _ 0 hX, Nat.zero_mul, Nat.zero_add, Bool.true_and, Spec.TaxId.NL.elfproef,
    Spec.TaxId.NL.mod97]
  -- a remainder of 10 has no check digit on either side
  have hr : dot [9, 8, 7, 6, 5, 4, 3, 2] (digs code) % 11 < 11 := Nat.mod_lt _ (by omega)
  generalize dot _ _ % 11 = r at hr ⊢
  generalize (digs code).getD 8 0 = e at he ⊢
  cases (num _ % 97 == 1) <;> simp
  rw [Bool.eq_iff_iff]
  simp only [bne_iff_ne, ne_eq, Bool.not_eq_true', beq_eq_false_iff_ne]
  split <;> omega

theorem NL.of_format {s : Str} (hf : Spec.TaxId.NL.format s = true) :
    s.length = 12 ∧ (s.take 9).all isDig = true ∧ s.getD 9 ' ' = 'B' ∧ (s.drop 10).all isDig = true := by
  simpa [Spec.TaxId.NL.format, isDigits_eq, and_assoc] using hf

theorem NL.gate_of_format {s : Str} (hf : Spec.TaxId.NL.format s = true) : gate s = true := by
  obtain ⟨hl, h1, hB, h2⟩ := NL.of_format hf
  rw [← take_getD_drop (show 9 < s.length by omega) ' ', hB, gate]
  simp [List.all_append, allDig_isAZ09 h1, allDig_isAZ09 h2]
  decide

theorem NL.regime_eq (s : Str) : NL.regime s = (Spec.TaxId.NL.format s && Spec.TaxId.NL.check s) := by
  simp only [NL.regime, bne, if_not_false, Spec.TaxId.NL.format, Spec.TaxId.NL.check, isDigits_eq]
  by_cases hl : s.length = 12
  · by_cases hB : s.getD 9 ' ' = 'B'
    · have e1 : (s.drop 10).take 2 = s.drop 10 := List.take_of_length_le (by simp; omega)
      have e2 : s.take 9 ++ ['B'] ++ s.drop 10 = s := by
        rw [← hB, List.append_assoc]; exact take_getD_drop (by omega) ' '
      simp only [hl, hB, e1, NL.validateDigits_eq _ _ (show (s.take 9).length = 9 by simp; omega)
        (show s.drop 10 ≠ [] by intro h; simpa [hl] using congrArg List.length h), e2, beq_self_eq_true, Bool.true_and]
      ac_rfl
    · have hB' : (s.getD 9 ' ' == 'B') = false := beq_eq_false_iff_ne.mpr hB
      simp only [hB', Bool.false_and, Bool.and_false]
  · simp [beq_eq_false_iff_ne.mpr hl]

theorem MX.regime_eq (s : Str) : MX.regime s = (Spec.TaxId.MX.format s && Spec.TaxId.MX.check s) := by
  have e1 : MX.letterCls = Spec.TaxId.MX.letter := rfl
  have e2 : isAZ09 = Spec.TaxId.MX.alnum := rfl
  have hp (k : Nat) : matchSeq (rep k MX.letterCls ++ rep 6 isDig ++ rep 3 isAZ09) s =
      (s.length == k + 9 && ((s.take k).all Spec.TaxId.MX.letter && ((s.drop k).take 6).all isDig &&
        (s.drop (k + 6)).all Spec.TaxId.MX.alnum)) := by
    rw [List.append_assoc, matchSeq_rep_append, matchSeq_rep_append, matchSeq_rep, List.drop_drop, List.length_drop,
      List.length_drop, e1, e2]
    by_cases h : s.length = k + 9
    · simp [h, Bool.and_assoc]
    · have : ¬ (k ≤ s.length ∧ 6 ≤ s.length - k ∧ s.length - k - 6 = 3) := by omega
      simp only [beq_eq_false_iff_ne.mpr h, Bool.false_and]
      rw [Bool.eq_false_iff]
      simp only [Bool.and_eq_true, decide_eq_true_eq, beq_iff_eq, ne_eq]
      tauto
  rw [Bool.eq_iff_iff]
  simp only [MX.regime, MX.personRe, MX.companyRe, hp, Spec.TaxId.MX.format, Spec.TaxId.MX.check, isDigits_eq,
    Bool.or_eq_true, Bool.and_eq_true, beq_iff_eq, and_true]
  constructor
  · rintro (⟨hl, h⟩ | ⟨hl, h⟩) <;> simpa [hl] using h
  · rintro ⟨hl | hl, h⟩
    · right; simpa [hl] using h
    · left; simpa [hl] using h

end GoblVerif.TaxId
