/-
  Error bounds (C01): prices that include one tax category (`prices_include`),
  the rows of a document against their exact values, and all working totals
  of a document of the classes `DocCI` ⊂ `DocTI`.

  Every working row is a working amount (`Approx`, CalcError.lean) for its exact
  row, not finer than the document sum (`rows_rel`).  The tax summary receives
  the rows prepared and with the included tax taken out (`exclRow`,
  Proofs/CalcRows.lean): scaling up is exact, the division by 1 + percentage of
  the included category is a contraction and one more rounding (`exclRow_ok`).
  So the bounds of `CalcErrorTax` apply to these rows (`doc_reduced`), and a
  quantity that is Lipschitz in the row totals inherits the rows' weighted sum
  (`doc_rows_err`, by `sum_err₂`): the tax, the included tax, a category, a rate
  group.  The working totals then follow by composition (`doc_tax`,
  `working_tax`, `working_payable`, `working_spec`); `calc_working` states them
  for a calculated document, with one record of weights (`Weights`).
-/
import GoblVerif.Proofs.CalcErrorRows

namespace GoblVerif
open GoblVerif.Spec GoblVerif.Calc GoblVerif.Spec.C02
namespace Calc
namespace Err

variable {ret : String → Bool}

theorem _root_.GoblVerif.Calc.Calculated.taxes {d : Doc} {out : Out} {t : Totals} {p : Pre} {tx : TaxTotal}
    (K : Calculated d out t p tx) : t.taxes = if tx.cats.isEmpty then none else some tx := K.totals ▸ rfl

theorem _root_.GoblVerif.Calc.Calculated.taxes_eq {d : Doc} {out : Out} {t : Totals} {p : Pre} {tx txp : TaxTotal}
    (K : Calculated d out t p tx) (h : t.taxes = some txp) : txp = tx := by
  rw [K.taxes] at h
  split at h <;> cases h
  rfl

theorem _root_.GoblVerif.Calc.Calculated.groups {d : Doc} {out : Out} {t : Totals} {p : Pre} {tx : TaxTotal}
    (K : Calculated d out t p tx) :
    groupsT t = groupsOf tx.cats ∧ incGroupsT d.includes t = incGroupsOf d.includes tx.cats := by
  unfold groupsT incGroupsT
  rw [K.taxes]
  cases hc : tx.cats with
  | nil => exact ⟨rfl, by cases d.includes <;> rfl⟩
  | cons _ _ => simp [hc]

/-- the exact row total with the included tax taken out, as `Spec.C01.rowTaxQ` has it; the same function as
`Spec.C01.exclQ` (`remQ_eq_exclQ`), the one `catExactQ` and `grpExactQ` are written with -/
def remQ (inc : Option String) (q : ℚ) (taxes : List Combo) : ℚ :=
  match inc with
  | none => q
  | some k =>
    match taxes.find? (fun cb => cb.cat == k) with
    | some cb => (match cb.percent with | some p => q / (1 + Spec.C01.pq p) | none => q)
    | none => q

theorem remQ_eq_exclQ (inc : Option String) (q : ℚ) (taxes : List Combo) :
    remQ inc q taxes = Spec.C01.exclQ inc q taxes := rfl

/-- the included category is not retained and its percentages are not negative.  No proof uses the first clause
(a retained included category makes the calculation fail, and every theorem assumes a calculation that succeeds);
the second is what makes taking the included tax out a contraction (`IncPos.incPct`, `Approx.remove`) -/
def IncPos (ret : String → Bool) (inc : Option String) (taxes : List Combo) : Prop :=
  ∀ k, inc = some k → ret k = false ∧
    ∀ cb ∈ taxes, cb.cat = k → ∀ p, cb.percent = some p → 0 ≤ p.amount.toRat

/-! ## the document classes over `DocA`

Prices without tax: `DocT` (tax combos of the class), `DocC` (with the payment conditions).  One category may be
included: `DocTI`, `DocCI`.  The classes form a square: `DocC → DocT → DocA` and `DocCI → DocTI → DocA` by projection,
and without an included category the two columns are one (`DocT_iff`, `DocC_iff`; `IncPos` is then vacuous). -/

/-- `DocA`, prices not including tax, every tax combo (on lines and on document discounts /
charges) of the class `ComboOk` -/
structure DocT (ret : String → Bool) (d : Doc) : Prop where
  base : DocA d
  inc : d.includes = none
  lineTaxes : ∀ l ∈ d.lines, ∀ cb ∈ l.taxes, ComboOk ret cb
  discTaxes : ∀ x ∈ d.discounts, ∀ cb ∈ x.taxes, ComboOk ret cb
  chTaxes : ∀ x ∈ d.charges, ∀ cb ∈ x.taxes, ComboOk ret cb

/-- the document class with an optional included category: `DocA`, combos of the class `ComboOk`,
the included category not retained and with percentages ≥ 0 -/
structure DocTI (ret : String → Bool) (d : Doc) : Prop where
  base : DocA d
  lineTaxes : ∀ l ∈ d.lines, ∀ cb ∈ l.taxes, ComboOk ret cb
  discTaxes : ∀ x ∈ d.discounts, ∀ cb ∈ x.taxes, ComboOk ret cb
  chTaxes : ∀ x ∈ d.charges, ∀ cb ∈ x.taxes, ComboOk ret cb
  incLines : ∀ l ∈ d.lines, IncPos ret d.includes l.taxes
  incDisc : ∀ x ∈ d.discounts, IncPos ret d.includes x.taxes
  incCh : ∀ x ∈ d.charges, IncPos ret d.includes x.taxes

/-- the document class of `calc_eq_spec`: `DocT`, an externally supplied `totals.rounding` not finer
than the working precision, advances of the class `AdvOk` -/
structure DocC (ret : String → Bool) (d : Doc) : Prop where
  tax : DocT ret d
  rounding : ∀ x, d.rounding = some x → x.exp ≤ d.c + 2
  advances : ∀ a ∈ d.advances, AdvOk d.c a

/-- the document class of `calc_eq_spec_included`: `DocTI` with the payment conditions of `DocC` -/
structure DocCI (ret : String → Bool) (d : Doc) : Prop where
  tax : DocTI ret d
  rounding : ∀ x, d.rounding = some x → x.exp ≤ d.c + 2
  advances : ∀ a ∈ d.advances, AdvOk d.c a

theorem DocT.toTI {d : Doc} (h : DocT ret d) : DocTI ret d :=
  have hno : ∀ taxes, IncPos ret d.includes taxes := fun _ k hk => by rw [h.inc] at hk; cases hk
  ⟨h.base, h.lineTaxes, h.discTaxes, h.chTaxes, fun _ _ => hno _, fun _ _ => hno _, fun _ _ => hno _⟩

theorem DocC.toCI {d : Doc} (h : DocC ret d) : DocCI ret d := ⟨h.tax.toTI, h.rounding, h.advances⟩

theorem DocT_iff {d : Doc} : DocT ret d ↔ DocTI ret d ∧ d.includes = none :=
  ⟨fun h => ⟨h.toTI, h.inc⟩, fun ⟨h, hi⟩ => ⟨h.base, hi, h.lineTaxes, h.discTaxes, h.chTaxes⟩⟩

theorem DocC_iff {d : Doc} : DocC ret d ↔ DocCI ret d ∧ d.includes = none :=
  ⟨fun h => ⟨h.toCI, h.tax.inc⟩, fun ⟨h, hi⟩ => ⟨DocT_iff.mpr ⟨h.tax, hi⟩, h.rounding, h.advances⟩⟩

theorem DocC.of_ret {ret ret' : String → Bool} {d : Doc} (h : DocC ret d)
    (hr : ∀ cb ∈ allCombos d, ret' cb.cat = ret cb.cat) : DocC ret' d := by
  obtain ⟨mL, mD, mC⟩ := mem_allCombos d
  have hcb : ∀ cb ∈ allCombos d, ComboOk ret cb → ComboOk ret' cb :=
    fun cb hm hc => ⟨(hr cb hm).symm ▸ hc.retained, hc.2⟩
  exact ⟨⟨h.tax.base, h.tax.inc, fun l hl cb hc => hcb cb (mL l hl cb hc) (h.tax.lineTaxes l hl cb hc),
    fun x hx cb hc => hcb cb (mD x hx cb hc) (h.tax.discTaxes x hx cb hc),
    fun x hx cb hc => hcb cb (mC x hx cb hc) (h.tax.chTaxes x hx cb hc)⟩, h.rounding, h.advances⟩

/-! ## the included category on a row

`Spec.C02.exclusive` (the working row), `remQ` (the exact row), `incB` (the extra rounding point) and the `t'` of
`Spec.C01.rowTaxQ` all ask the same question of a row; `incPct` is the answer. -/

/-- the percentage `removeIncludedTaxes` takes out of a row, if any: that of its first combo of the included category -/
def incPct (inc : Option String) (taxes : List Combo) : Option Pct :=
  inc.bind fun k => (taxes.find? (fun cb => cb.cat == k)).bind (·.percent)

theorem exclusive_eq (c : ℕ) (inc : Option String) (rw : Row) :
    exclusive c inc rw = match incPct inc rw.taxes with
      | some p => remove exactOps (working c rw) p
      | none => working c rw := by
  unfold exclusive incPct
  cases inc with
  | none => rfl
  | some k =>
    simp only [Option.bind_some]
    cases rw.taxes.find? (fun cb => cb.cat == k) with
    | none => rfl
    | some cb => cases hp : cb.percent <;> simp [hp, remove_rnd, rnd]

theorem remQ_eq (inc : Option String) (q : ℚ) (taxes : List Combo) :
    remQ inc q taxes = match incPct inc taxes with | some p => q / (1 + p.amount.toRat) | none => q := by
  unfold remQ incPct
  cases inc with
  | none => rfl
  | some k =>
    simp only [Option.bind_some]
    cases taxes.find? (fun cb => cb.cat == k) with
    | none => rfl
    | some cb => cases hp : cb.percent <;> simp [hp, Spec.C01.pq]

theorem incB_eq (inc : Option String) (taxes : List Combo) :
    incB inc taxes = match incPct inc taxes with | some _ => 1 | none => 0 := by
  unfold incB incPct
  cases inc with
  | none => rfl
  | some k =>
    simp only [Option.bind_some]
    cases taxes.find? (fun cb => cb.cat == k) with
    | none => rfl
    | some cb => cases hp : cb.percent <;> simp [hp]

theorem IncPos.incPct {inc : Option String} {taxes : List Combo} (h : IncPos ret inc taxes) {p : Pct}
    (hp : incPct inc taxes = some p) : 0 ≤ p.amount.toRat := by
  unfold Err.incPct at hp
  cases inc with
  | none => cases hp
  | some k =>
    obtain ⟨cb, hf, hcb⟩ := Option.bind_eq_some_iff.mp (show (taxes.find? _).bind _ = some p from hp)
    exact (h k rfl).2 cb (List.mem_of_find?_eq_some hf) (by simpa using List.find?_some hf) p hcb

/-! ## rows: working against exact -/

/-- an exact row of the tax summary: exact total, combos, and the weight of the working row that stands for it -/
structure ExRow where
  total : ℚ
  taxes : List Combo
  weight : ℚ

/-- a working row against an exact row: same combos, the total a working amount for the exact total with that weight -/
structure RowRel (c M : ℕ) (rw : Row) (er : ExRow) : Prop where
  taxes : rw.taxes = er.taxes
  approx : Approx c M rw.total er.total er.weight

/-- the exact row with the included tax taken out; the working row gains the rounding of the division -/
def ExRow.excl (inc : Option String) (er : ExRow) : ExRow :=
  ⟨remQ inc er.total er.taxes, er.taxes, er.weight + (incB inc er.taxes : ℚ)⟩

theorem exclRow_ok (c M : ℕ) (inc : Option String) (rw : Row) (er : ExRow) (h : RowRel c M rw er)
    (hcb : ∀ cb ∈ er.taxes, ComboOk ret cb) (hM : c + 2 ≤ M) (hpos : IncPos ret inc er.taxes) :
    RowOkP ret c M (exclRow c inc rw) ∧ RowRel c M (exclRow c inc rw) (er.excl inc) := by
  obtain ⟨htax, hA⟩ := h
  rw [← htax] at hcb hpos
  have hlo : rw.taxes ≠ [] → c + 2 ≤ (working c rw).exp := fun hne => by
    rw [working_exp, if_neg (by simpa using hne)]; omega
  have hwork : Approx c M (working c rw) er.total er.weight :=
    ⟨by have := hA.exp_le; rw [working_exp]; split <;> omega, by rw [working_toRat]; exact hA.err⟩
  suffices h : (rw.taxes ≠ [] → c + 2 ≤ (exclusive c inc rw).exp) ∧
      Approx c M (exclusive c inc rw) (remQ inc er.total er.taxes) (er.weight + (incB inc er.taxes : ℚ)) from
    ⟨⟨hcb, h.1, h.2.exp_le⟩, htax, h.2⟩
  rw [exclusive_eq, ← htax, remQ_eq, incB_eq]
  cases hp : incPct inc rw.taxes with
  | none => exact ⟨hlo, by simpa using hwork⟩
  | some p =>
    have hne : rw.taxes ≠ [] := by rintro e; simp [incPct, e] at hp
    exact ⟨fun _ => (remove_err (working c rw) p).1 ▸ hlo hne, by simpa using hwork.remove (hlo hne) (hpos.incPct hp)⟩

/-- the rows of `Spec.C01.exactQ`: exact total and combos (the third component, the integer weight of the working
total, is read by nothing: the weights in use are those of `exactRowsQ`) -/
def exactRowsW (d : Doc) : List (ℚ × List Combo × ℕ) :=
  d.lines.filterMap (fun l => (Spec.C01.lineTotalQ d.cur d.rates l).map (fun t => (t, l.taxes, lineW l))) ++
  d.discounts.map (fun x => (-(Spec.C01.docAdjQ (Spec.C01.exactQ d).sum x), x.taxes, 1 + sumW d.lines)) ++
  d.charges.map (fun x => (Spec.C01.docAdjQ (Spec.C01.exactQ d).sum x, x.taxes, 1 + sumW d.lines))

/-- the exact value of a quantity `F` that is additive over the rows (the tax `rowQ`, the included tax `incG`, a
category `rowG`, a rate group `grpF`): Σ exact rows, the included tax taken out -/
def rowsQ (d : Doc) (F : ℚ → List Combo → ℚ) : ℚ :=
  ((exactRowsW d).map (fun er => F (remQ d.includes er.1 er.2.1) er.2.1)).sum

/-- the same rows with the rational weights of the working rows (`lineW`, `adjRowWQ`) -/
def exactRowsQ (d : Doc) : List ExRow :=
  d.lines.filterMap (fun l => (Spec.C01.lineTotalQ d.cur d.rates l).map (fun t => ⟨t, l.taxes, lineW l⟩)) ++
  d.discounts.map (fun x => ⟨-(Spec.C01.docAdjQ (Spec.C01.exactQ d).sum x), x.taxes, adjRowWQ (sumW d.lines) x⟩) ++
  d.charges.map (fun x => ⟨Spec.C01.docAdjQ (Spec.C01.exactQ d).sum x, x.taxes, adjRowWQ (sumW d.lines) x⟩)

theorem rowsQ_eq (d : Doc) (F : ℚ → List Combo → ℚ) :
    rowsQ d F = (((exactRowsQ d).map (ExRow.excl d.includes)).map (fun er => F er.total er.taxes)).sum := by
  simp only [rowsQ, exactRowsQ, exactRowsW, ExRow.excl, List.map_append, List.map_map, List.map_filterMap,
    Function.comp_def, Option.map_map]

theorem lines_rowRel (cur : String) (c M : ℕ) (rates : List XRate) (ls ls' : List Line)
    (h : List.Forall₂ (LineRel cur rates c) ls ls') (hM : ∀ l' ∈ ls', ∀ t, l'.total = some t → t.exp ≤ M) :
    List.Forall₂ (RowRel c M)
      (ls'.filterMap (fun l => l.total.map (fun t => ({ total := t, taxes := l.taxes } : Row))))
      (ls.filterMap (fun l => (Spec.C01.lineTotalQ cur rates l).map (fun t => (⟨t, l.taxes, lineW l⟩ : ExRow)))) := by
  induction h with
  | nil => exact List.Forall₂.nil
  | @cons l l' ls ls' hl _ ih =>
    obtain ⟨t, q, h⟩ := hl
    simp only [List.filterMap_cons, h.total, h.exact, Option.map_some]
    exact .cons ⟨h.taxes, hM l' (by simp) t h.total, h.err⟩ (ih fun x hx => hM x (by simp [hx]))

/-- the rows made of document discounts (`f = neg`) or charges (`f = id`) -/
theorem adj_rowRel {c M : ℕ} {sum : Amount} {S : ℚ} {W : ℕ} (xs : List DocAdj) (f : Amount → Amount) (g : ℚ → ℚ)
    (hfg : ∀ {a q w}, Approx c M a q w → Approx c M (f a) (g q) w)
    (hx : ∀ x ∈ xs, DocAdjOk c x) (hs : Approx c M sum S W) (hf : c + 2 ≤ sum.exp) :
    List.Forall₂ (RowRel c M)
      ((xs.map (docAdj exactOps .precise c sum)).map (fun x => ({ total := f x.amount, taxes := x.taxes } : Row)))
      (xs.map (fun x => (⟨g (Spec.C01.docAdjQ S x), x.taxes, adjRowWQ W x⟩ : ExRow))) := by
  rw [List.map_map, List.forall₂_map_left_iff, List.forall₂_map_right_iff]
  exact List.forall₂_same.mpr fun x hxm =>
    ⟨docAdj_taxes _ _ _ _, hfg (docAdj_approx x (hx x hxm) hs hf)⟩

theorem rows_rel (d : Doc) (p : Pre) (hd : DocA d) (hpre : pre exactOps d = .ok p) :
    List.Forall₂ (RowRel d.c p.sum.exp) p.rows (exactRowsQ d) := by
  have hp := pre_approx d p hd hpre
  rw [hp.rows_eq]
  unfold taxRows exactRowsQ
  rw [hp.discounts_eq, hp.charges_eq]
  refine List.rel_append (List.rel_append (lines_rowRel _ _ _ _ _ _ hp.rel fun l' hl' t ht => ?_) ?_) ?_
  · exact hp.sum_eq ▸ lineSum_exp_ge_total hl' ht
  · exact adj_rowRel d.discounts neg (fun q => -q) Approx.neg hd.discounts hp.sum.approx hp.sum_exp
  · exact adj_rowRel d.charges id id id hd.charges hp.sum.approx hp.sum_exp

theorem ers_weight (L : List Combo → ℚ) (d : Doc) (hd : ∀ l ∈ d.lines, AdjLine d.c l) :
    (((exactRowsQ d).map (ExRow.excl d.includes)).map (fun er => er.weight * L er.taxes)).sum = rowsWLQ L d.includes d := by
  have hl : d.lines.filterMap (fun l => (Spec.C01.lineTotalQ d.cur d.rates l).map (fun t => (⟨t, l.taxes, lineW l⟩ : ExRow))) =
      d.lines.map (fun l => ⟨((Spec.C01.lineTotalQ d.cur d.rates l).getD 0), l.taxes, lineW l⟩) := by
    rw [← List.filterMap_eq_map]
    refine List.filterMap_congr fun l hl => ?_
    obtain ⟨q, hq⟩ := (hd l hl).lineTotalQ d.cur d.rates
    simp [hq]
  simp only [exactRowsQ, rowsWLQ, hl, ExRow.excl, List.map_append, List.sum_append, List.map_map, Function.comp_def]

theorem rowTaxQ_fst (inc : Option String) (q : ℚ) (taxes : List Combo) :
    (Spec.C01.rowTaxQ inc q taxes).1 = rowQ (remQ inc q taxes) taxes := by
  cases inc <;> rfl

theorem rowTaxQ_snd (inc : Option String) (q : ℚ) (taxes : List Combo) :
    (Spec.C01.rowTaxQ inc q taxes).2 = incG inc (remQ inc q taxes) taxes := by
  cases inc with
  | none => rfl
  | some k =>
    simp only [Spec.C01.rowTaxQ, incG, rowG, remQ]
    congr 1

theorem exactQ_tax_rows (d : Doc) : (Spec.C01.exactQ d).tax = rowsQ d rowQ := by
  simp only [Spec.C01.exactQ, rowsQ, exactRowsW, List.map_append, List.sum_append, List.map_map, List.filterMap_map,
    List.map_filterMap, Function.comp_def, Option.map_map, rowTaxQ_fst]

theorem exactQ_inc_rows (d : Doc) : (Spec.C01.exactQ d).taxIncluded = rowsQ d (incG d.includes) := by
  simp only [Spec.C01.exactQ, rowsQ, exactRowsW, List.map_append, List.sum_append, List.map_map, List.filterMap_map,
    List.map_filterMap, Function.comp_def, Option.map_map, rowTaxQ_snd]

theorem ers_ok (d : Doc) (hd : DocTI ret d) :
    ∀ er ∈ exactRowsQ d, (∀ cb ∈ er.taxes, ComboOk ret cb) ∧ IncPos ret d.includes er.taxes := by
  intro er her
  simp only [exactRowsQ, List.mem_append, List.mem_filterMap, List.mem_map, Option.map_eq_some_iff] at her
  rcases her with (⟨l, hl, _, _, rfl⟩ | ⟨x, hx, rfl⟩) | ⟨x, hx, rfl⟩
  · exact ⟨hd.lineTaxes l hl, hd.incLines l hl⟩
  · exact ⟨hd.discTaxes x hx, hd.incDisc x hx⟩
  · exact ⟨hd.chTaxes x hx, hd.incCh x hx⟩

/-- the rows of a document of the class as the tax summary receives them (`exclRow`): of the class `RowOkP`, each a
working amount for its exact row with the included tax taken out -/
structure Reduced (ret : String → Bool) (d : Doc) (p : Pre) : Prop where
  sum_exp : d.c + 2 ≤ p.sum.exp
  rows : ∀ rw ∈ p.rows.map (exclRow d.c d.includes), RowOkP ret d.c p.sum.exp rw
  rel : List.Forall₂ (RowRel d.c p.sum.exp) (p.rows.map (exclRow d.c d.includes))
    ((exactRowsQ d).map (ExRow.excl d.includes))

theorem doc_reduced (d : Doc) (p : Pre) (hd : DocTI ret d) (hpre : pre exactOps d = .ok p) : Reduced ret d p := by
  have hsexp := (pre_approx d p hd.base hpre).sum_exp
  have hrel := forall₂_imp_mem (rows_rel d p hd.base hpre) fun rw er _ her h =>
    exclRow_ok d.c p.sum.exp d.includes rw er h (ers_ok d hd er her).1 hsexp (ers_ok d hd er her).2
  refine ⟨hsexp, fun rw hrw => ?_, ?_⟩
  · obtain ⟨x, hx, rfl⟩ := List.mem_map.mp hrw
    obtain ⟨er, _, h⟩ := forall₂_of_mem_left hrel hx
    exact h.1
  · rw [List.forall₂_map_left_iff, List.forall₂_map_right_iff]
    exact hrel.imp fun _ _ h => h.2

theorem doc_summary (d : Doc) (p : Pre) (tx : TaxTotal) (hd : DocA d)
    (htx : taxTotal exactOps d.rule d.c d.includes p.rows = .ok tx) :
    tx = taxSummary exactOps .precise d.c (p.rows.map (exclRow d.c d.includes)) :=
  hd.rule ▸ taxTotal_rows d.rule d.c d.includes p.rows tx htx

theorem doc_rows_err (F : ℚ → List Combo → ℚ) (L : List Combo → ℚ) (hL0 : ∀ taxes, 0 ≤ L taxes)
    (hLip : ∀ taxes, (∀ cb ∈ taxes, ComboOk ret cb) → ∀ T t : ℚ, |F T taxes - F t taxes| ≤ L taxes * |T - t|)
    (d : Doc) (p : Pre) (hd : DocTI ret d) (hpre : pre exactOps d = .ok p) :
    |((p.rows.map (exclRow d.c d.includes)).map (fun rw => F rw.total.toRat rw.taxes)).sum - rowsQ d F| ≤
      rowsWLQ L d.includes d * halfUlp (d.c + 2) := by
  have := sum_err₂ (doc_reduced d p hd hpre).rel (fun rw => F rw.total.toRat rw.taxes) (fun er => F er.total er.taxes)
    (fun er => er.weight * L er.taxes) (halfUlp (d.c + 2)) fun rw er her ⟨htax, h⟩ => by
      obtain ⟨e, he, rfl⟩ := List.mem_map.mp her
      rw [htax]
      exact (hLip (e.excl d.includes).taxes (ers_ok d hd e he).1 _ _).trans
        ((mul_le_mul_of_nonneg_left h.err (hL0 _)).trans_eq (by ring))
  rwa [ers_weight L d hd.base.lines, ← rowsQ_eq] at this

theorem inc_working (d : Doc) (p : Pre) (tx : TaxTotal) (hd : DocTI ret d) (hpre : pre exactOps d = .ok p)
    (htx : taxTotal exactOps d.rule d.c d.includes p.rows = .ok tx) :
    ApproxO d.c p.sum.exp (taxIncluded d.includes tx)
      ((p.rows.map (exclRow d.c d.includes)).map (fun rw => incG d.includes rw.total.toRat rw.taxes)).sum
      (incGroupsOf d.includes tx.cats) := by
  obtain ⟨hsexp, hrows, _⟩ := doc_reduced d p hd hpre
  obtain rfl := doc_summary d p tx hd.base htx
  cases hinc : d.includes with
  | none =>
    exact ⟨fun x hx => by simp [taxIncluded] at hx,
      by simp [taxIncluded, optQ, incG, incGroupsOf, Function.comp_def]⟩
  | some k =>
    rw [hinc] at hrows
    obtain ⟨c1, c2⟩ := taxSummary_g d.c p.sum.exp _ hrows hsexp k
    simp only [incG]
    cases hf : (taxSummary exactOps .precise d.c (p.rows.map (exclRow d.c (some k)))).cats.find? (fun ct => ct.code == k) with
    | none =>
      refine ⟨fun x hx => by simp [taxIncluded, hf] at hx, ?_⟩
      rw [c1 hf]
      simp [taxIncluded, hf, optQ, incGroupsOf]
    | some ct =>
      obtain ⟨g2, g3, _⟩ := c2 ct hf
      simp only [taxIncluded, hf, incGroupsOf, Option.map_some]
      exact (g3.preciseOr (by omega) g2).toO

theorem doc_tax (d : Doc) (p : Pre) (tx : TaxTotal) (hd : DocTI ret d) (hpre : pre exactOps d = .ok p)
    (htx : taxTotal exactOps d.rule d.c d.includes p.rows = .ok tx) :
    Approx d.c p.sum.exp tx.precise (Spec.C01.exactQ d).tax (taxWQ d (groupsOf tx.cats)) ∧
    ApproxO d.c p.sum.exp (taxIncluded d.includes tx) (Spec.C01.exactQ d).taxIncluded
      (incWQ d (incGroupsOf d.includes tx.cats)) := by
  have R := doc_reduced d p hd hpre
  have e1 := doc_rows_err rowQ comboWQ comboWQ_nonneg (fun taxes _ T t => rowQ_diff T t taxes) d p hd hpre
  have e2 := doc_rows_err (incG d.includes) (kNQ d.includes) (kNQ_nonneg d.includes)
    (fun taxes _ T t => incG_diff d.includes taxes T t) d p hd hpre
  rw [← exactQ_tax_rows] at e1
  rw [← exactQ_inc_rows] at e2
  exact ⟨(doc_summary d p tx hd.base htx ▸ taxSummary_w d.c p.sum.exp _ R.rows R.sum_exp).shift e1,
    (inc_working d p tx hd hpre htx).shift e2⟩

/-- a weight for each of the ten totals, in half-units of the working precision -/
structure Weights where
  sum : ℚ
  discount : ℚ
  charge : ℚ
  taxIncluded : ℚ
  total : ℚ
  tax : ℚ
  totalWithTax : ℚ
  payable : ℚ
  advances : ℚ
  due : ℚ

structure Weights.Le (a b : Weights) : Prop where
  sum : a.sum ≤ b.sum
  discount : a.discount ≤ b.discount
  charge : a.charge ≤ b.charge
  taxIncluded : a.taxIncluded ≤ b.taxIncluded
  total : a.total ≤ b.total
  tax : a.tax ≤ b.tax
  totalWithTax : a.totalWithTax ≤ b.totalWithTax
  payable : a.payable ≤ b.payable
  advances : a.advances ≤ b.advances
  due : a.due ≤ b.due

instance : LE Weights := ⟨Weights.Le⟩

/-- the weights built from the rounding points and the actual percentages (`Spec/C01.lean`): `G` rounding points in
the tax summary, `Gk` in the included category -/
def weightsQ (d : Doc) (G Gk : ℕ) : Weights where
  sum := sumW d.lines
  discount := adjWQ (sumW d.lines) d.discounts
  charge := adjWQ (sumW d.lines) d.charges
  taxIncluded := incWQ d Gk
  total := totalWQ d Gk
  tax := taxWQ d G
  totalWithTax := twtWQ d G Gk
  payable := twtWQ d G Gk
  advances := advWQ d G Gk
  due := dueWQ d G Gk

theorem adjWQ_nonneg (s : ℕ) (xs : List DocAdj) : 0 ≤ adjWQ s xs :=
  List.sum_nonneg (by simpa using fun x _ => adjRowWQ_nonneg s x)

theorem rowsWLQ_nonneg (L : List Combo → ℚ) (hL : ∀ t, 0 ≤ L t) (inc : Option String) (d : Doc) : 0 ≤ rowsWLQ L inc d := by
  have hadj : ∀ xs : List DocAdj,
      0 ≤ (xs.map (fun x => (adjRowWQ (sumW d.lines) x + (incB inc x.taxes : ℚ)) * L x.taxes)).sum := fun xs =>
    List.sum_nonneg (by
      simp only [List.mem_map, forall_exists_index, and_imp, forall_apply_eq_imp_iff₂]
      exact fun x _ => mul_nonneg (add_nonneg (adjRowWQ_nonneg _ x) (Nat.cast_nonneg _)) (hL _))
  refine add_nonneg (add_nonneg (List.sum_nonneg ?_) (hadj _)) (hadj _)
  simp only [List.mem_map, forall_exists_index, and_imp, forall_apply_eq_imp_iff₂]
  exact fun l _ => mul_nonneg (add_nonneg (Nat.cast_nonneg _) (Nat.cast_nonneg _)) (hL _)

theorem incWQ_nonneg (d : Doc) (Gk : ℕ) : 0 ≤ incWQ d Gk :=
  add_nonneg (Nat.cast_nonneg _) (rowsWLQ_nonneg (kNQ d.includes) (kNQ_nonneg d.includes) d.includes d)

theorem taxWQ_nonneg (d : Doc) (G : ℕ) : 0 ≤ taxWQ d G :=
  add_nonneg (Nat.cast_nonneg _) (rowsWLQ_nonneg comboWQ comboWQ_nonneg d.includes d)

theorem twtWQ_nonneg (d : Doc) (G Gk : ℕ) : 0 ≤ twtWQ d G Gk := by
  unfold twtWQ totalWQ total2WQ
  have a1 := adjWQ_nonneg (sumW d.lines) d.discounts
  have a2 := adjWQ_nonneg (sumW d.lines) d.charges
  have a3 := incWQ_nonneg d Gk
  have a4 := taxWQ_nonneg d G
  have a5 : (0 : ℚ) ≤ (sumW d.lines : ℚ) := by positivity
  linarith

theorem advWQ_nonneg (d : Doc) (G Gk : ℕ) : 0 ≤ advWQ d G Gk :=
  List.sum_nonneg (by simpa using fun a _ => advRowWQ_nonneg _ (twtWQ_nonneg d G Gk) a)

/-! ## the working totals -/

/-- the working totals `w` of a document are within the weights `W` of `Spec.C01.exactQ` -/
structure Working (d : Doc) (w : Totals) (W : Weights) : Prop where
  sum : |w.sum.toRat - (Spec.C01.exactQ d).sum| ≤ W.sum * halfUlp (d.c + 2)
  discount : |optQ w.discount - (Spec.C01.exactQ d).discount| ≤ W.discount * halfUlp (d.c + 2)
  charge : |optQ w.charge - (Spec.C01.exactQ d).charge| ≤ W.charge * halfUlp (d.c + 2)
  taxIncluded : |optQ w.taxIncluded - (Spec.C01.exactQ d).taxIncluded| ≤ W.taxIncluded * halfUlp (d.c + 2)
  total : |w.total.toRat - (Spec.C01.exactQ d).total| ≤ W.total * halfUlp (d.c + 2)
  tax : |w.tax.toRat - (Spec.C01.exactQ d).tax| ≤ W.tax * halfUlp (d.c + 2)
  totalWithTax : |w.totalWithTax.toRat - (Spec.C01.exactQ d).totalWithTax| ≤ W.totalWithTax * halfUlp (d.c + 2)
  payable : |w.payable.toRat - (Spec.C01.exactQ d).payable| ≤ W.payable * halfUlp (d.c + 2)
  advances : |optQ w.advances - (Spec.C01.exactQ d).advances| ≤ W.advances * halfUlp (d.c + 2)
  due : ∀ y, w.due = some y → |y.toRat - (Spec.C01.exactQ d).due| ≤ W.due * halfUlp (d.c + 2)

theorem Working.mono {d : Doc} {w : Totals} {W W' : Weights} (h : Working d w W) (hW : W ≤ W') : Working d w W' :=
  have h0 := halfUlp_nonneg (d.c + 2)
  ⟨le_weight h.sum hW.sum h0, le_weight h.discount hW.discount h0, le_weight h.charge hW.charge h0,
    le_weight h.taxIncluded hW.taxIncluded h0, le_weight h.total hW.total h0, le_weight h.tax hW.tax h0,
    le_weight h.totalWithTax hW.totalWithTax h0, le_weight h.payable hW.payable h0,
    le_weight h.advances hW.advances h0, fun y hy => le_weight (h.due y hy) hW.due h0⟩

theorem working_tax (d : Doc) (p : Pre) (tx : TaxTotal) (hd : DocTI ret d) (hpre : pre exactOps d = .ok p)
    (htx : taxTotal exactOps d.rule d.c d.includes p.rows = .ok tx) :
    Top d.c p.sum.exp (rawTotals exactOps d p tx).total (Spec.C01.exactQ d).total
      (totalWQ d (incGroupsOf d.includes tx.cats)) ∧
    Top d.c p.sum.exp (rawTotals exactOps d p tx).totalWithTax (Spec.C01.exactQ d).totalWithTax
      (twtWQ d (groupsOf tx.cats) (incGroupsOf d.includes tx.cats)) := by
  have hT := (pre_approx d p hd.base hpre).total2.subO (doc_tax d p tx hd hpre htx).2
  exact ⟨hT, hT.add (doc_tax d p tx hd hpre htx).1⟩

/-- the payable amount: an externally supplied rounding is exact -/
theorem working_payable (d : Doc) (p : Pre) (tx : TaxTotal) (hd : DocCI ret d) (hpre : pre exactOps d = .ok p)
    (htx : taxTotal exactOps d.rule d.c d.includes p.rows = .ok tx) :
    Top d.c p.sum.exp (rawTotals exactOps d p tx).payable (Spec.C01.exactQ d).payable
      (twtWQ d (groupsOf tx.cats) (incGroupsOf d.includes tx.cats)) := by
  have hR : ApproxO d.c p.sum.exp d.rounding (match d.rounding with | some x => x.toRat | none => 0) 0 := by
    cases hr : d.rounding with
    | none => exact .none le_rfl
    | some x => exact (Approx.exact ((hd.rounding x hr).trans (pre_approx d p hd.tax.base hpre).sum_exp)).toO
  exact ((working_tax d p tx hd.tax hpre htx).2.addO hR).mono (add_zero _).le

theorem working_spec (d : Doc) (p : Pre) (tx : TaxTotal) (hd : DocCI ret d) (hpre : pre exactOps d = .ok p)
    (htx : taxTotal exactOps d.rule d.c d.includes p.rows = .ok tx) :
    Working d (rawTotals exactOps d p tx) (weightsQ d (groupsOf tx.cats) (incGroupsOf d.includes tx.cats)) := by
  have hp := pre_approx d p hd.tax.base hpre
  obtain ⟨htax, hinc⟩ := doc_tax d p tx hd.tax hpre htx
  obtain ⟨hT, hTW⟩ := working_tax d p tx hd.tax hpre htx
  have hPay := working_payable d p tx hd hpre htx
  generalize groupsOf tx.cats = G at *
  generalize incGroupsOf d.includes tx.cats = Gk at *
  set w := rawTotals exactOps d p tx
  -- advances: each a percentage of the total with tax or a fixed amount; due = payable − advances
  have hAdv : ApproxO d.c p.sum.exp w.advances (Spec.C01.exactQ d).advances (advWQ d G Gk) := by
    rw [exactQ_advances]
    show ApproxO _ _ (if d.hasPayment then
      advanceTotal exactOps d.c (d.advances.map (calcAdvance exactOps d.c w.totalWithTax)) else none) _ _
    cases d.hasPayment with
    | false => exact .none (advWQ_nonneg d G Gk)
    | true =>
      rw [if_pos rfl, if_pos rfl, advanceTotal_eq, List.map_map]
      exact Approx.optSum (by have := hp.sum_exp; omega) _ _ _ d.advances
        (fun a ha => calcAdvance_approx a (hd.advances a ha) hTW.approx (hTW.exp_eq ▸ hp.sum_exp))
  refine ⟨hp.sum.err, hp.dsum.err, hp.csum.err, hinc.err, hT.err, htax.err, hTW.err, hPay.err, hAdv.err, fun y hy => ?_⟩
  obtain ⟨s, hs, rfl⟩ := Option.map_eq_some_iff.mp (show w.advances.map _ = some y from hy)
  exact (hPay.sub (hAdv.get hs)).err

theorem _root_.GoblVerif.Calc.Calculated.working {d : Doc} {out : Out} {t : Totals} {p : Pre} {tx : TaxTotal}
    (K : Calculated d out t p tx) (hd : DocCI ret d) :
    Working d (rawTotals exactOps d p tx) (weightsQ d (groupsT t) (incGroupsT d.includes t)) :=
  K.groups.1 ▸ K.groups.2 ▸ working_spec d p tx hd K.pre_ok K.tax_ok

/-- `Props.C01.calc_eq_spec_tight` spells this out; every other bound of C01 on the totals is it with larger weights
(`Working.mono`) or after presentation (`Working.presented`) -/
theorem calc_working (ret : String → Bool) (d : Doc) (out : Out) (t : Totals) (hd : DocCI ret d)
    (hcalc : calculate exactOps d = .ok out) (ht : out.totals = some t) :
    ∃ w : Totals, t = roundTotals exactOps d.c w ∧ Working d w (weightsQ d (groupsT t) (incGroupsT d.includes t)) := by
  obtain ⟨p, tx, K⟩ := calculated hcalc ht
  exact ⟨_, K.totals, K.working hd⟩

/-! ## the classes, decided -/

theorem incPosB_sound (ret : String → Bool) (inc : Option String) (taxes : List Combo)
    (hret : ∀ k, inc = some k → ret k = false) (h : ∀ cb ∈ taxes, incPosB inc cb = true) : IncPos ret inc taxes := by
  intro k hk
  refine ⟨hret k hk, ?_⟩
  intro cb hcb hcat p hp
  have h1 := h cb hcb
  subst hk
  simp only [incPosB, hcat, BEq.rfl, Bool.not_true, Bool.false_or, hp] at h1
  have hv : 0 ≤ p.amount.value := of_decide_eq_true h1
  unfold Amount.toRat
  have := p10q_pos p.amount.exp
  have hv' : (0 : ℚ) ≤ (p.amount.value : ℚ) := by exact_mod_cast hv
  positivity

theorem inDocI_sound (d : Doc) (h : inDocI d = true) : DocCI (retOf d) d := by
  unfold inDocI at h
  simp only [Bool.and_eq_true, List.all_eq_true] at h
  obtain ⟨⟨⟨⟨⟨⟨⟨⟨hrule, hne⟩, hlines⟩, hdisc⟩, hch⟩, hinc⟩, hcombos⟩, hround⟩, hadv⟩ := h
  have hret : ∀ k, d.includes = some k → retOf d k = false := by
    intro k hk
    simp only [hk] at hinc
    simpa using hinc
  have hall : ∀ cb ∈ allCombos d, ComboOk (retOf d) cb ∧ incPosB d.includes cb = true :=
    fun cb hcb => ⟨comboOkB_sound _ cb (hcombos cb hcb).1, (hcombos cb hcb).2⟩
  obtain ⟨mL, mD, mC⟩ := mem_allCombos d
  refine ⟨⟨⟨by simpa using hrule, ?_, fun l hl => adjLineB_sound d.c l (hlines l hl),
      fun x hx => docAdjOkB_sound d.c x (hdisc x hx), fun x hx => docAdjOkB_sound d.c x (hch x hx)⟩,
    fun l hl cb hcb => (hall cb (mL l hl cb hcb)).1,
    fun x hx cb hcb => (hall cb (mD x hx cb hcb)).1,
    fun x hx cb hcb => (hall cb (mC x hx cb hcb)).1,
    fun l hl => incPosB_sound _ _ _ hret (fun cb hcb => (hall cb (mL l hl cb hcb)).2),
    fun x hx => incPosB_sound _ _ _ hret (fun cb hcb => (hall cb (mD x hx cb hcb)).2),
    fun x hx => incPosB_sound _ _ _ hret (fun cb hcb => (hall cb (mC x hx cb hcb)).2)⟩, ?_,
    fun a ha => advOkB_sound d.c a (hadv a ha)⟩
  · intro hnil; simp [hnil] at hne
  · intro x hx
    simp only [hx] at hround
    exact of_decide_eq_true hround

theorem inDocI_of_inDocC (d : Doc) (h : inDocC d = true) : inDocI d = true ∧ d.includes = none := by
  unfold inDocC at h
  unfold inDocI
  simp only [Bool.and_eq_true, List.all_eq_true] at h ⊢
  obtain ⟨⟨⟨⟨⟨⟨hA, hi⟩, hL⟩, hD⟩, hC⟩, hR⟩, hAdv⟩ := h
  have hi : d.includes = none := by simpa using hi
  refine ⟨⟨⟨⟨⟨hA, by simp [hi]⟩, fun cb hcb => ⟨?_, by simp [incPosB, hi]⟩⟩, hR⟩, hAdv⟩, hi⟩
  simp only [allCombos, List.mem_append, List.mem_flatMap] at hcb
  obtain (⟨l, hl, hc⟩ | ⟨x, hx, hc⟩) | ⟨x, hx, hc⟩ := hcb
  exacts [hL l hl cb hc, hD x hx cb hc, hC x hx cb hc]

theorem inDocC_sound (d : Doc) (h : inDocC d = true) : DocC (retOf d) d :=
  DocC_iff.mpr ⟨inDocI_sound d (inDocI_of_inDocC d h).1, (inDocI_of_inDocC d h).2⟩

end Err
end Calc
end GoblVerif
