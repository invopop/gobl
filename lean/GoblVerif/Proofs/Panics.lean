/-
  What carries Props/C14: the loops over slices of pointers in closed form, `Header.Contains` on
  headers without null entries, `verifySignature` behind its header guard as one equation, and
  what `cli.WrapError` makes of an error that is not structured yet.  Core Lean only.
-/
import GoblVerif.Model.Panics
import GoblVerif.Model.PanicsEnvelope

namespace GoblVerif.Panics

variable {α ρ : Type}

theorem Outcome.isPanic_eq_false {o : Outcome α} : o.isPanic = false ↔ ∀ s, o ≠ .panic s := by
  cases o <;> simp [Outcome.isPanic]

theorem any_isNone_eq_false {l : List (Option α)} : l.any (·.isNone) = false ↔ NoNullRows l := by
  simp [NoNullRows, Option.ne_none_iff_isSome]

theorem eachGuarded_eq (f : ρ → ρ) (rows : List (Option ρ)) : eachGuarded f rows = .ok (rows.map (·.map f)) := by
  induction rows with
  | nil => rfl
  | cons r rows ih => cases r <;> simp [eachGuarded, ih]

theorem eachDeref_eq (site : String) (f : ρ → ρ) (rows : List (Option ρ)) :
    eachDeref site f rows = if rows.any (·.isNone) then .panic site else eachGuarded f rows := by
  induction rows with
  | nil => rfl
  | cons r rows ih =>
    cases r with
    | none => rfl
    | some x => rw [eachDeref, ih, eachGuarded_eq, eachGuarded_eq]; cases h : rows.any (·.isNone) <;> simp [h]

theorem entryIn_ok (t : Entry) :
    ∀ own : List (Option Entry), own.any (·.isNone) = false → ∃ b, entryIn (some t) own = .ok b
  | [], _ => ⟨false, rfl⟩
  | none :: _, h => by simp at h
  | some x :: rest, h => by
    simp only [List.any_cons, Option.isNone_some, Bool.false_or] at h
    simp only [entryIn]
    split
    · exact ⟨true, rfl⟩
    · exact entryIn_ok t rest h

theorem allIn_ok (own : List (Option Entry)) (ho : own.any (·.isNone) = false) :
    ∀ l : List (Option Entry), l.any (·.isNone) = false → ∃ b, allIn own l = .ok b
  | [], _ => ⟨true, rfl⟩
  | none :: _, h => by simp at h
  | some t :: rest, h => by
    simp only [List.any_cons, Option.isNone_some, Bool.false_or] at h
    obtain ⟨b, hb⟩ := entryIn_ok t own ho
    simp only [allIn, hb]
    cases b
    · exact ⟨false, rfl⟩
    · exact allIn_ok own ho rest h

theorem containsP_ok (rest : Bool) (h p : PHeader) (hh : hasNullEntries h = false) (hp : hasNullEntries p = false) :
    ∃ b, containsP rest h p = .ok b := by
  simp only [hasNullEntries, Bool.or_eq_false_iff] at hh hp
  obtain ⟨b1, e1⟩ := allIn_ok h.stamps hh.1 p.stamps hp.1
  obtain ⟨b2, e2⟩ := allIn_ok h.links hh.2 p.links hp.2
  unfold containsP
  cases hc : (h.uuid != p.uuid || digMismatch h p) with
  | true => exact ⟨false, by simp⟩
  | false =>
    rw [e1, e2]
    cases b1 <;> cases b2 <;> simp [bothIn]

theorem afterPayload_verdict (rest : Bool) (h p : PHeader) (hh : hasNullEntries h = false) :
    ∃ v, afterPayload rest h p = .ok v := by
  unfold afterPayload
  cases hp : hasNullEntries p with
  | true => simp
  | false =>
    obtain ⟨b, hb⟩ := containsP_ok rest h p hh hp
    cases b <;> simp [hb, verdictOf]

theorem afterPayload_ok_iff (rest : Bool) (h p : PHeader) :
    afterPayload rest h p = .ok .ok ↔ hasNullEntries p = false ∧ containsP rest h p = .ok true := by
  unfold afterPayload
  cases hasNullEntries p with
  | true => simp
  | false =>
    cases hc : containsP rest h p with
    | ok b => cases b <;> simp [verdictOf]
    | err k => simp [verdictOf]
    | panic s => simp [verdictOf]

theorem verifySignatureP_some (rest : Bool) (h : PHeader) (sig : PSig) (hh : hasNullEntries h = false) :
    verifySignatureP rest (some h) sig =
      if sig.verifiesUnder.isEmpty || sig.verifiesUnder.any id then
        match sig.payload with
        | none => .ok (if sig.verifiesUnder.isEmpty then .badPayload else .noKey)
        | some p => afterPayload rest h p
      else .ok .noKey := by
  unfold verifySignatureP
  cases he : sig.verifiesUnder.isEmpty <;> cases ha : sig.verifiesUnder.any id <;> cases sig.payload <;> simp [hh]

theorem cliPresent_plain (t : String) : cliPresent (.plain t) = ⟨400, "", false, t⟩ := rfl
theorem cliPresent_encoding (t : String) : cliPresent (.encoding t) = ⟨422, "marshal", false, t⟩ := rfl

end GoblVerif.Panics
