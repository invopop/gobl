/-
  C14nSrc (proofs): the bridge between the byte-level definitions that go2lean
  regenerates from /repo/c14n (Generated/C14nSrc.lean) and the code-point-level
  model (Model/C14n.lean) and README text (Spec/C07.lean).  The theorems that
  say what a regenerated FUNCTION computes are in Props/C07.lean, namespace Src,
  so that a change of the Go source breaks a theorem with a name; here are the
  vocabulary (`obs`, `srcJ`, `Post`), the regenerated tables against the
  model's, and the loop lemmas, each about `forList step` or `forFuel step` of
  a named pure `step`.
-/
import GoblVerif.Generated.C14nSrc
import GoblVerif.Proofs.GoSemList
import GoblVerif.Proofs.GoBytes
import GoblVerif.Proofs.C14nMarshal
import GoblVerif.Proofs.C14nUtf8

namespace GoblVerif.C14nSrc
open GoblVerif GoblVerif.C14n GoblVerif.Generated GoblVerif.GoBytes GoblVerif.Proofs.C14n GoblVerif.Spec.C07 GoblVerif.GoSem

/-- what is observable of a Go result `([]byte, error)`: the bytes when the error is nil -/
def obs (p : Bytes × Err) : Option Bytes := if p.2.isSome then none else some p.1

theorem obs_ok (b : Bytes) : obs (b, none) = some b := rfl

theorem obs_eq_some {p : Bytes × Err} {b : Bytes} (h : obs p = some b) : p.2.isSome = false ∧ p.1 = b := by
  unfold obs at h
  split at h
  · cases h
  · simp_all

theorem obs_eq_none {p : Bytes × Err} (h : obs p = none) : p.2.isSome = true := by
  unfold obs at h
  split at h
  · assumption
  · cases h

/-! ## the recursion through the interface

A c14n.Canonicalable is translated as `GoBytes.Canon` (is it a Null, and what its
MarshalJSON returns); `srcJ v` is what the TRANSLATED methods return for the Go value
that stands for `v`, children first. -/

mutual
def srcJ : J → Bytes × Err
  | .atom .null => C14nSrc.Null_MarshalJSON {}
  | .atom (.bool b) => C14nSrc.Bool_MarshalJSON b
  | .atom (.int i) => C14nSrc.Integer_MarshalJSON i
  | .atom (.flt n ds e) => C14nSrc.Float_MarshalJSON (strconvE n ds e)
  | .atom (.str s) => C14nSrc.String_MarshalJSON (utf8s s)
  | .arr xs => C14nSrc.Array_MarshalJSON ⟨srcL xs⟩
  | .obj kvs => C14nSrc.Object_MarshalJSON ⟨srcK kvs⟩
def srcL : JL → List Canon
  | .nil => []
  | .cons x xs => ⟨x.isNull, srcJ x⟩ :: srcL xs
def srcK : KL → List C14nSrc.Attribute
  | .nil => []
  | .cons k v r => ⟨utf8s k, ⟨v.isNull, srcJ v⟩⟩ :: srcK r
end

/-- what a writer loop leaves, `out` projecting the buffer out of its state: no early return and the buffer
    extended by the UTF-8 of the model's text, or an early return `([], e)` with `e` an error -/
def Post {σ : Type} (out : σ → Bytes) (r : Option (Bytes × Err) × σ) (buf : Bytes) : Option Chars → Prop
  | some cs => r.1 = none ∧ out r.2 = buf ++ utf8s cs
  | none => ∃ e, r.1 = some ([], e) ∧ e.isSome = true

theorem Post.prepend {σ : Type} {out : σ → Bytes} {r : Option (Bytes × Err) × σ} {buf : Bytes} {pre : Chars}
    {m : Option Chars} (h : Post out r (buf ++ utf8s pre) m) : Post out r buf (m.map (pre ++ ·)) := by
  cases m with
  | none => exact h
  | some cs => exact ⟨h.1, by rw [h.2, utf8s_append, List.append_assoc]⟩

theorem obs_bracketed {σ : Type} (x : Id (Option (Bytes × Err) × σ)) (out : σ → Bytes) (o c : Nat) (ho : o < 128) (hc : c < 128)
    (m : Option Chars) (h : Post out x.run [o] m) (k : Option (Bytes × Err) × σ → Id (Bytes × Err))
    (hk : ∀ s, k s = match s.1 with
        | some r => pure r
        | none => pure (out s.2 ++ [c], none)) :
    obs (Id.run (x >>= k)) = (m.map (fun b => o :: (b ++ [c]))).map utf8s := by
  simp only [Id.run] at h
  cases m with
  | none =>
    obtain ⟨e, h1, h2⟩ := h
    simp only [Id.run, bind, hk, h1, obs, GoSem.id_pure, h2, if_true]; rfl
  | some cs =>
    obtain ⟨h1, h2⟩ := h
    simp only [Id.run, bind, hk, h1, h2, obs, GoSem.id_pure, Option.map_some]
    simp [utf8s_append, utf8s_cons, utf8_ascii, ho, hc]; rfl

abbrev ArrSt := Option (Bytes × Err) × Bytes

/-- one round of `for i, v := range a.Values` -/
def arrStep (it : Canon × Nat) (s : ArrSt) : ForInStep ArrSt :=
  if ((it.2 : Nat) : Int) > 0 then
    if it.1.out.2.isSome = true then .done (some ([], it.1.out.2), s.2 ++ [44])
    else .yield (none, s.2 ++ [44] ++ it.1.out.1)
  else
    if it.1.out.2.isSome = true then .done (some ([], it.1.out.2), s.2)
    else .yield (none, s.2 ++ it.1.out.1)

/-- what the loop leaves: `Post id` (`ArrPost_iff`) -/
def ArrPost (r : ArrSt) (buf : Bytes) : Option Chars → Prop
  | some cs => r = (none, buf ++ utf8s cs)
  | none => ∃ e b, r = (some ([], e), b) ∧ e.isSome = true

theorem ArrPost_iff {r : ArrSt} {buf : Bytes} {m : Option Chars} : ArrPost r buf m ↔ Post id r buf m := by
  cases m with
  | some cs => exact Prod.ext_iff
  | none => exact ⟨fun ⟨e, _, h1, h2⟩ => ⟨e, congrArg Prod.fst h1, h2⟩, fun ⟨e, h1, h2⟩ => ⟨e, r.2, Prod.ext h1 rfl, h2⟩⟩

/-- the `match` in the conclusion is the body of `marshalL`, so that `tieL` closes by `unfold marshalL; exact arr_cons …` -/
theorem arr_cons (c : Canon) (l : List Canon) (n : Nat) (buf : Bytes) (mx ml : Option Chars)
    (hx : obs c.out = mx.map utf8s)
    (hl : ∀ buf', ArrPost (forList arrStep (l.zipIdx (n + 1)) (none, buf')) buf' ml) :
    ArrPost (forList arrStep ((c :: l).zipIdx n) (none, buf)) buf
      (match mx, ml with
       | some d, some r => some ((if n == 0 then d else 0x2C :: d) ++ r)
       | _, _ => none) := by
  rw [List.zipIdx_cons, forList]
  cases mx with
  | none =>
    have he := obs_eq_none hx
    by_cases hn : ((n : Nat) : Int) > 0 <;> simp only [arrStep, hn, he, if_true, if_false] <;> exact ⟨_, _, rfl, he⟩
  | some d =>
    obtain ⟨he, hd⟩ := obs_eq_some hx
    have hstep : arrStep (c, n) (none, buf) = .yield (none, buf ++ utf8s (if n == 0 then d else 0x2C :: d)) := by
      by_cases hn : ((n : Nat) : Int) > 0
      · have hne : n ≠ 0 := by omega
        simp [arrStep, he, hne, hd, utf8s_cons, utf8_ascii]
      · have hn0 : n = 0 := by omega
        simp [arrStep, he, hn0, hd]
    rw [hstep]
    have := ArrPost_iff.mpr (ArrPost_iff.mp (hl (buf ++ utf8s (if n == 0 then d else 0x2C :: d)))).prepend
    cases ml <;> exact this

abbrev ObjSt := Option (Bytes × Err) × Bytes × Bool

/-- one round of `for _, v := range o.Attributes`, given what `v.MarshalJSON()` returned -/
def objStep (am : Bytes × Err) (s : ObjSt) : ForInStep ObjSt :=
  if am.2.isSome = true then .done (some ([], am.2), s.2.1, s.2.2)
  else if ((am.1.length : Nat) : Int) = 0 then .yield (none, s.2.1, s.2.2)
  else if ¬ s.2.2 = true then .yield (none, s.2.1 ++ [44] ++ am.1, false)
  else .yield (none, s.2.1 ++ am.1, false)

/-- what the loop leaves (the `first` flag is not observed): `Post` with the buffer in the middle of the state -/
def ObjPost (r : ObjSt) (buf : Bytes) : Option Chars → Prop
  | some cs => r.1 = none ∧ r.2.1 = buf ++ utf8s cs
  | none => ∃ e, r.1 = some ([], e) ∧ e.isSome = true

theorem ObjPost_iff {r : ObjSt} {buf : Bytes} {m : Option Chars} : ObjPost r buf m ↔ Post Prod.fst r buf m := by
  cases m <;> exact Iff.rfl

/-- the `match` in the conclusion is the body of `marshalK`, so that `tieK` closes by `unfold marshalK; exact obj_cons …` -/
theorem obj_cons {α : Type} (am : α → Bytes × Err) (a : α) (l : List α) (first : Bool) (buf : Bytes) (ma : Option Chars)
    (ml : Bool → Option Chars) (ha : obs (am a) = ma.map utf8s)
    (hl : ∀ first' buf', ObjPost (forList (fun it => objStep (am it)) l (none, buf', first')) buf' (ml first')) :
    ObjPost (forList (fun it => objStep (am it)) (a :: l) (none, buf, first)) buf
      (match ma with
       | none => none
       | some t => if t.isEmpty then ml first
                   else (ml false).map (fun rest => (if first then t else 0x2C :: t) ++ rest)) := by
  rw [forList]
  cases ma with
  | none =>
    have he := obs_eq_none ha
    simp only [objStep, he, if_true]
    exact ⟨_, rfl, he⟩
  | some t =>
    obtain ⟨he, hd⟩ := obs_eq_some ha
    by_cases ht : t = []
    · subst ht
      simp only [objStep, he, hd, utf8s_nil, List.length_nil, Int.natCast_zero, if_true, List.isEmpty_nil,
        Bool.false_eq_true, if_false]
      exact hl first buf
    · have hne : utf8s t ≠ [] := fun h => ht (utf8s_eq_nil h)
      have hte : t.isEmpty = false := by cases t <;> simp_all
      have hstep : objStep (am a) (none, buf, first) = .yield (none, buf ++ utf8s (if first then t else 0x2C :: t), false) := by
        cases first <;> simp [objStep, he, hne, hd, utf8s_cons, utf8_ascii]
      simp only [hstep, hte, Bool.false_eq_true, if_false]
      exact ObjPost_iff.mpr (ObjPost_iff.mp (hl false (buf ++ utf8s (if first then t else 0x2C :: t)))).prepend

/-- the Go attribute that stands for a member -/
def attrOf (src : J → Bytes × Err) (kv : Str × J) : C14nSrc.Attribute := ⟨utf8s kv.1, ⟨kv.2.isNull, src kv.2⟩⟩

/-- "when decimal place is missing, add it after the first digit, taking into account a possible
    leading minus sign": the index `d` and the slices of Float.MarshalJSON are `insertPoint` -/
theorem insertPoint_eq (t : Bytes) (hne : t ≠ []) :
    (if t[(if t[0]! = 45 then (2 : Int) else 1).toNat]! ≠ 46 then
        List.take (if t[0]! = 45 then (2 : Int) else 1).toNat t ++
          ([46, 48] ++ List.drop (if t[0]! = 45 then (2 : Int) else 1).toNat t)
      else t) = insertPoint t := by
  match t, hne with
  | a :: r, _ =>
    by_cases ha : a = 45
    · subst ha
      match r with
      | [] => simp [insertPoint]
      | [b] => simp [insertPoint]
      | b :: c :: r => by_cases hc : c = 46 <;> simp [insertPoint, hc]
    · rw [insertPoint_pos a r ha]
      match r with
      | [] => simp [ha]
      | b :: r => by_cases hb : b = 46 <;> simp [ha, hb]

/-- `i := bytes.IndexByte(num, 'E')`, `num[:i+1]`, `num[i+1:]` are `splitAtE` -/
theorem indexByte_splitAtE : ∀ l : Bytes, 69 ∈ l → ∃ k : Nat, indexByte l 69 = (k : Int) ∧ k < l.length ∧
    List.take (k + 1) l = (splitAtE l).1 ∧ List.drop (k + 1) l = (splitAtE l).2
  | [], h => by simp at h
  | c :: cs, h => by
    by_cases hc : c = 69
    · subst hc; exact ⟨0, by simp [indexByte], by simp, by simp [splitAtE], by simp [splitAtE]⟩
    · have hm : 69 ∈ cs := by
        rcases List.mem_cons.mp h with h | h
        · exact absurd h.symm hc
        · exact h
      obtain ⟨k, h1, h2, h3, h4⟩ := indexByte_splitAtE cs hm
      refine ⟨k + 1, ?_, by simp; omega, ?_, ?_⟩
      · simp only [indexByte, hc, if_false, h1]; rfl
      · have : (c == 69) = false := by simp [hc]
        simp [splitAtE, this, h3]
      · have : (c == 69) = false := by simp [hc]
        simp [splitAtE, this, h4]

/-- one round of `for i, v := range exp` -/
def scanStep (len : Nat) (it : Nat × Nat) (s : Int × Int) : ForInStep (Int × Int) :=
  if it.1 = 45 ∨ it.1 = 43 then .yield (1, s.2)
  else if it.1 = 48 ∧ ((it.2 : Nat) : Int) + 1 < ((len : Nat) : Int) then .yield (s.1, ((it.2 : Nat) : Int) + 1)
  else .done (s.1, s.2)

theorem scan_loop (len : Nat) : ∀ (l : Bytes) (n j k : Nat),
    forList (scanStep len) (l.zipIdx n) (((j : Nat) : Int), ((k : Nat) : Int)) =
      ((((scanExp l n len j k).1 : Nat) : Int), (((scanExp l n len j k).2 : Nat) : Int))
  | [], n, j, k => rfl
  | v :: vs, n, j, k => by
    have hcast : (((n : Nat) : Int) + 1 < ((len : Nat) : Int)) ↔ n + 1 < len := by omega
    simp only [List.zipIdx_cons, forList, scanStep, scanExp, Bool.or_eq_true, beq_iff_eq,
      Bool.and_eq_true, decide_eq_true_eq, hcast]
    by_cases h1 : v = 45 ∨ v = 43
    · simp only [h1, if_true]; exact scan_loop len vs (n + 1) 1 k
    · simp only [h1, if_false]
      by_cases h2 : v = 48 ∧ n + 1 < len
      · simp only [h2, and_self, if_true]; exact scan_loop len vs (n + 1) j (n + 1)
      · simp only [h2, if_false]

theorem scanLoop_bind (len : Nat) (f : Nat × Nat → Int × Int → Id (ForInStep (Int × Int)))
    (hf : ∀ it s, f it s = pure (scanStep len it s)) (ex : Bytes) (k : Int × Int → Id (Bytes × Err)) :
    (forIn (m := Id) ex.zipIdx ((0 : Int), (0 : Int)) f >>= k) =
      k ((((scanExp ex 0 len 0 0).1 : Nat) : Int), (((scanExp ex 0 len 0 0).2 : Nat) : Int)) := by
  rw [forIn_pure _ _ f _ hf, pure_bind]
  exact congrArg k (scan_loop len ex 0 0 0)

theorem head?_beq_plus (ex : Bytes) : (ex.head? == some 0x2B) = decide (ex[0]! = 43) := by
  cases ex with
  | nil => simp
  | cons a r => by_cases h : a = 43 <;> simp [h]


theorem mem_insert_point (t : Bytes) (d : Nat) (hE : 69 ∈ t) : 69 ∈ List.take d t ++ ([46, 48] ++ List.drop d t) := by
  rw [← List.take_append_drop d t] at hE
  simp only [List.mem_append] at hE ⊢
  exact hE.imp_right (Or.inr ·)

abbrev EncSt := Option (Bytes × Err) × Bytes × Int × Int

/-- the bytes written after the backslash by the `switch b` of encodeString -/
def escBytes (b : Nat) : Bytes :=
  if b = 92 ∨ b = 34 then [b]
  else if b = 10 then [110]
  else if b = 13 then [114]
  else if b = 9 then [116]
  else if b = 12 then [102]
  else if b = 8 then [98]
  else [117, 48, 48] ++ [byteAt C14nSrc.hex (b >>> 4)] ++ [byteAt C14nSrc.hex (b &&& 15)]

/-- one round of the loop of encodeString, compact form (Props shows the regenerated body equal to it) -/
def encStep (s : Bytes) (st : EncSt) : ForInStep EncSt :=
  let i := st.2.2.2
  let start := st.2.2.1
  let buf := st.2.1
  if ¬ i < (s.length : Int) then .done (none, buf, start, i)
  else
    let b := byteAt s i.toNat
    if b < 128 then
      if C14nSrc.safeSet[b]! = true then .yield (none, buf, start, i + 1)
      else .yield (none, (if start < i then buf ++ slice s start.toNat i.toNat else buf) ++ [92] ++ escBytes b, i + 1, i + 1)
    else
      let d := decodeRune (List.drop i.toNat s)
      if d.1 = 65533 ∧ d.2 = 1 then .done (some ([], GoStr.errNew "json: unsupported value"), buf, start, i)
      else .yield (none, buf, start, i + d.2)

theorem safeSet_eq (b : Nat) : C14nSrc.safeSet[b]! = safe b := by
  rw [safe, show Generated.C14n.safeSet = C14nSrc.safeSet from rfl]
  simp [List.getD_eq_getElem?_getD]

theorem escBytes_eq : ∀ b, b < 128 → escBytes b = escapeAscii b := by
  decide +kernel

theorem esc_table (c : Nat) (hc : c < 128) :
    (if C14nSrc.safeSet[c]! = true then [c] else 92 :: escBytes c) = escChar c := by
  rw [safeSet_eq c, escBytes_eq c hc]; exact ascii_escape_table c hc

theorem decodeRune_utf8 (c : Nat) (h : 128 ≤ c) (hs : isScalar c = true) (post : Bytes) :
    decodeRune (utf8 c ++ post) = ((c : Int), ((utf8 c).length : Int)) := by
  rw [isScalar_iff] at hs
  have cont : ∀ {r : Nat}, r < 64 → (0x80 + r) % 64 = r := fun h => by omega
  induction c using utf8_cases with
  | h1 c hc => omega
  | h2 q r hq hq' hr e =>
    rw [e]
    simp only [List.cons_append, List.nil_append, decodeRune, GoBytes.isCont, decide_eq_true_eq]
    rw [if_neg (by omega), if_pos (by omega), if_pos (by omega), cont hr, show (0xC0 + q) % 32 = q by omega]
    rfl
  | h3 p q r _ hp hq hr e =>
    rw [e]
    simp only [List.cons_append, List.nil_append, decodeRune, GoBytes.isCont, decide_eq_true_eq]
    rw [if_neg (by omega), if_neg (by omega), if_pos (by omega), if_pos ⟨by split <;> omega, by split <;> omega, by omega⟩,
      cont hq, cont hr, show (0xE0 + p) % 16 = p by omega]
    rfl
  | h4 o p q r _ hp hq hr e =>
    rw [e]
    simp only [List.cons_append, List.nil_append, decodeRune, GoBytes.isCont, decide_eq_true_eq]
    rw [if_neg (by omega), if_neg (by omega), if_neg (by omega), if_pos (by omega),
      if_pos ⟨by split <;> omega, by split <;> omega, by omega, by omega⟩,
      cont hp, cont hq, cont hr, show (0xF0 + o) % 8 = o by omega]
    rfl

/-- the `switch b` of encodeString, with what is done with the buffer afterwards as `k` -/
theorem escSwitch {α : Type} (b : Nat) (buf : Bytes) (k : Bytes → α) :
    (if b = 92 ∨ b = 34 then k (buf ++ [b]) else if b = 10 then k (buf ++ [110]) else if b = 13 then k (buf ++ [114])
      else if b = 9 then k (buf ++ [116]) else if b = 12 then k (buf ++ [102]) else if b = 8 then k (buf ++ [98])
      else k (buf ++ [117, 48, 48] ++ [byteAt C14nSrc.hex (b >>> 4)] ++ [byteAt C14nSrc.hex (b &&& 15)])) =
      k (buf ++ escBytes b) := by
  simp only [escBytes, apply_ite k, apply_ite (buf ++ ·), List.append_assoc]

/-- one round at a code point `c` of the text, in the model's terms: the index moves behind the bytes of `c`,
    and what is written (`buf`) or pending (`s[start:i]`) grows by the UTF-8 of the README escape of `c` -/
theorem encStep_at (B pre post buf : Bytes) (c start : Nat) (hB : B = pre ++ utf8 c ++ post) (hst : start ≤ pre.length)
    (hsc : isScalar c = true) :
    ∃ buf' start', start' ≤ (pre ++ utf8 c).length ∧
      encStep B (none, buf, (start : Int), (pre.length : Int)) =
        .yield (none, buf', ((start' : Nat) : Int), ((pre ++ utf8 c).length : Int)) ∧
      buf' ++ slice B start' (pre ++ utf8 c).length = buf ++ slice B start pre.length ++ utf8s (escChar c) := by
  have hlt : (pre.length : Int) < (B.length : Int) := by
    have := List.length_pos_iff.mpr (utf8_ne_nil c)
    rw [hB]; simp only [List.length_append]; omega
  have hlen2 : ((pre ++ utf8 c).length : Int) = (pre.length : Int) + ((utf8 c).length : Int) := by simp
  have hsl := slice_extend pre (utf8 c) post start hst
  rw [← hB, ← List.length_append] at hsl
  have hb : ∀ b t, utf8 c = b :: t → byteAt B pre.length = b := by
    intro b t e; rw [hB, e]; simp [byteAt]
  by_cases hc : c < 128
  · have hu : utf8 c = [c] := utf8_ascii c hc
    have hb := hb c [] hu
    have ht := esc_table c hc
    replace hlen2 : ((pre ++ utf8 c).length : Int) = (pre.length : Int) + 1 := by rw [hlen2, hu]; rfl
    by_cases hsafe : C14nSrc.safeSet[c]! = true
    · rw [if_pos hsafe] at ht
      refine ⟨buf, start, by simp; omega, ?_, ?_⟩
      · simp only [encStep, hlt, not_true_eq_false, if_false, Int.toNat_natCast, hb, hc, if_true, hsafe, hlen2]
      · rw [hsl, ← ht]; simp [utf8s_singleton]
    · rw [if_neg hsafe] at ht
      refine ⟨buf ++ slice B start pre.length ++ [92] ++ escBytes c, (pre ++ utf8 c).length, Nat.le_refl _, ?_, ?_⟩
      · have hbuf : (if (start : Int) < (pre.length : Int) then buf ++ slice B start pre.length else buf) =
            buf ++ slice B start pre.length := by
          split
          · rfl
          · rw [show start = pre.length by omega, slice_empty]; simp
        simp only [encStep, hlt, not_true_eq_false, if_false, Int.toNat_natCast, hb, hc, if_true, hsafe,
          Bool.false_eq_true, hbuf, hlen2]
      · rw [slice_empty, utf8s_ascii (escChar c) (escChar_ascii hc), ← ht]; simp
  · obtain ⟨b, t, e, hb128, ht⟩ := utf8_lead (c := c) (by omega)
    have hlen : 2 ≤ (utf8 c).length := by
      have := List.length_pos_iff.mpr ht
      rw [e, List.length_cons]; omega
    have hdrop : List.drop pre.length B = utf8 c ++ post := by
      rw [hB, List.append_assoc, List.drop_left']; rfl
    refine ⟨buf, start, by simp; omega, ?_, ?_⟩
    · have hne : ¬ (((c : Nat) : Int) = 65533 ∧ (((utf8 c).length : Nat) : Int) = 1) := by omega
      have hb' : ¬ b < 128 := by omega
      simp only [encStep, hlt, not_true_eq_false, if_false, Int.toNat_natCast, hb b t e, hb', hdrop,
        decodeRune_utf8 c (by omega) hsc, hne, hlen2]
    · rw [hsl, escChar_lit (by omega) (by omega) (by omega)]; simp [utf8s_singleton]

/-- the loop of encodeString from a rune boundary `i = len(pre)`: with the bytes `buf ++ s[start:i]`
    behind it (`buf` written, `s[start:i]` pending), it ends at `len(s)` having produced them followed
    by the UTF-8 of the README escapes of the remaining code points -/
theorem enc_loop (B : Bytes) : ∀ (rest : Str) (pre buf : Bytes) (start fuel : Nat),
    B = pre ++ utf8s rest → start ≤ pre.length → rest.length ≤ fuel → rest.all isScalar = true →
    ∃ buf' start',
      forFuel (encStep B) fuel (none, buf, (start : Int), (pre.length : Int)) =
        (none, buf', ((start' : Nat) : Int), ((B.length : Nat) : Int)) ∧
      buf' ++ List.drop start' B = buf ++ slice B start pre.length ++ utf8s (escS rest)
  | [], pre, buf, start, fuel, hB, hst, _, _ => by
    have hlen : B.length = pre.length := by rw [hB]; simp [utf8s_nil]
    refine ⟨buf, start, ?_, ?_⟩
    · cases fuel with
      | zero => simp [forFuel, hlen]
      | succ f => simp [forFuel, encStep, hlen]
    · rw [← hlen, slice_full]; simp [utf8s_nil, escS]
  | c :: cs, pre, buf, start, fuel, hB, hst, hf, hsc => by
    obtain ⟨f, rfl⟩ : ∃ f, fuel = f + 1 := ⟨fuel - 1, by simp at hf; omega⟩
    have hsc' : isScalar c = true ∧ cs.all isScalar = true := by simpa using hsc
    rw [utf8s_cons, ← List.append_assoc] at hB
    obtain ⟨buf₁, start₁, hst₁, hstep, hout⟩ := encStep_at B pre (utf8s cs) buf c start hB hst hsc'.1
    obtain ⟨buf', start', h2, h3⟩ :=
      enc_loop B cs (pre ++ utf8 c) buf₁ start₁ f hB hst₁ (by simp at hf; omega) hsc'.2
    refine ⟨buf', start', ?_, ?_⟩
    · rw [forFuel, hstep]; exact h2
    · rw [h3, hout, escS_cons, utf8s_append, List.append_assoc]

/-- hexadecimal digits read most significant first, as a fold: what the loop of escapedUnit computes -/
def hexFold : List Nat → Nat → Option Nat
  | [], r => some r
  | c :: cs, r => match hexDigit c with
    | some v => hexFold cs (r * 16 + v)
    | none => none

abbrev HexSt := Option Int × Int

/-- one round of `for _, c := range data[2:6]` -/
def hexStep (c : Nat) (s : HexSt) : ForInStep HexSt :=
  if 48 ≤ c ∧ c ≤ 57 then .yield (none, intOr (s.2 * 2 ^ Int.toNat 4) (Int.ofNat (c - 48)))
  else if 97 ≤ c ∧ c ≤ 102 then .yield (none, intOr (s.2 * 2 ^ Int.toNat 4) (Int.ofNat (c - 87)))
  else if 65 ≤ c ∧ c ≤ 70 then .yield (none, intOr (s.2 * 2 ^ Int.toNat 4) (Int.ofNat (c - 55)))
  else .done (some (-1), s.2)

theorem hexStep_eq (c : Nat) (r : Nat) :
    hexStep c (none, (r : Int)) = match hexDigit c with
      | some v => .yield (none, ((r * 16 + v : Nat) : Int))
      | none => .done (some (-1), (r : Int)) := by
  simp only [hexStep, hexDigit, Bool.and_eq_true, decide_eq_true_eq]
  split
  · rw [intOr_step r _ (by omega)]
  · split
    · rw [intOr_step r _ (by omega)]; congr 4; omega
    · split
      · rw [intOr_step r _ (by omega)]; congr 4; omega
      · rfl

theorem hex_loop : ∀ (l : List Nat) (r : Nat),
    match hexFold l r with
    | some r' => forList hexStep l (none, (r : Int)) = (none, (r' : Int))
    | none => (forList hexStep l (none, (r : Int))).1 = some (-1)
  | [], r => by simp [hexFold, forList]
  | c :: cs, r => by
    simp only [forList, hexStep_eq, hexFold]
    cases hexDigit c with
    | none => rfl
    | some v => exact hex_loop cs (r * 16 + v)

theorem hexLoop_bind (f : Nat → HexSt → Id (ForInStep HexSt)) (hf : ∀ c s, f c s = pure (hexStep c s)) (l : List Nat)
    (k : HexSt → Id Int) (hk : ∀ s, k s = match s.1 with | some r => pure r | none => pure s.2) :
    (forIn (m := Id) l (none, 0) f >>= k) = (match hexFold l 0 with
      | some r' => ((r' : Nat) : Int)
      | none => (-1 : Int) : Int) := by
  rw [forIn_pure _ _ f _ hf, pure_bind, hk, show ((0 : Int)) = ((0 : Nat) : Int) from rfl]
  have h := hex_loop l 0
  cases hh : hexFold l 0 <;> rw [hh] at h <;> simp only at h <;> rw [h] <;> rfl

theorem escapedUnit_eq_hexFold (a b c d : Nat) (rest : Bytes) :
    C14n.escapedUnit (0x5C :: 0x75 :: a :: b :: c :: d :: rest) = hexFold [a, b, c, d] 0 := by
  simp only [hexFold, C14n.escapedUnit]
  cases hexDigit a <;> cases hexDigit b <;> cases hexDigit c <;> cases hexDigit d <;> simp

/-- Go's rune result of escapedUnit for the model's optional code unit -/
def unitInt : Option Nat → Int
  | some u => ((u : Nat) : Int)
  | none => -1

theorem isSurrogate_unitInt (o : Option Nat) : GoBytes.isSurrogate (unitInt o) = C14n.isSurrogate o := by
  cases o with
  | none => simp [unitInt, GoBytes.isSurrogate, C14n.isSurrogate]
  | some u =>
    simp only [unitInt, GoBytes.isSurrogate, C14n.isSurrogate]
    have hi : (0xD800 ≤ ((u : Nat) : Int) ∧ ((u : Nat) : Int) < 0xE000) ↔ (0xD800 ≤ u ∧ u < 0xE000) := by omega
    by_cases h : 0xD800 ≤ u ∧ u < 0xE000
    · have h2 := hi.mpr h
      simp [h, h2]
    · have h2 : ¬ (0xD800 ≤ ((u : Nat) : Int) ∧ ((u : Nat) : Int) < 0xE000) := fun x => h (hi.mp x)
      have h3 : (decide (0xD800 ≤ u) && decide (u < 0xE000)) = false := by
        rw [Bool.eq_false_iff]; simpa using h
      rw [h3]; exact decide_eq_false h2

theorem decodeRune16_unitInt (o1 o2 : Option Nat) : (decodeRune16 (unitInt o1) (unitInt o2) = 65533) ↔ pairOK o1 o2 = false := by
  cases o1 with
  | none => simp [unitInt, decodeRune16, pairOK]
  | some a =>
    cases o2 with
    | none => simp [unitInt, decodeRune16, pairOK]
    | some b =>
      simp only [unitInt, decodeRune16, pairOK]
      by_cases h : 0xD800 ≤ ((a : Nat) : Int) ∧ ((a : Nat) : Int) < 0xDC00 ∧ 0xDC00 ≤ ((b : Nat) : Int) ∧ ((b : Nat) : Int) < 0xE000
      · simp only [h, and_self, if_true]
        have h' : (decide (0xD800 ≤ a) && decide (a < 0xDC00) && decide (0xDC00 ≤ b) && decide (b < 0xE000)) = true := by
          simp; omega
        rw [h']
        constructor
        · intro he; omega
        · intro hf; cases hf
      · simp only [h, if_false]
        have h' : (decide (0xD800 ≤ a) && decide (a < 0xDC00) && decide (0xDC00 ≤ b) && decide (b < 0xE000)) = false := by
          rw [Bool.eq_false_iff]; simp; omega
        rw [h']; simp

abbrev ChkSt := Option Err × Int

/-- one round of the loop of checkEncoding, with escapedUnit as the parameter `eu` -/
def chkStep (eu : Bytes → Int) (data : Bytes) (s : ChkSt) : ForInStep ChkSt :=
  if ¬ s.2 < (data.length : Int) then .done (none, s.2)
  else if data[s.2.toNat]! ≠ 92 then .yield (none, s.2 + 1)
  else if ¬ GoBytes.isSurrogate (eu (List.drop s.2.toNat data)) = true then .yield (none, s.2 + 1 + 1)
  else if decodeRune16 (eu (List.drop s.2.toNat data)) (eu (List.drop (s.2 + 1 + 5).toNat data)) = 65533 then
    .done (some (GoStr.errNew "invalid surrogate pair in unicode escape"), s.2 + 1)
  else .yield (none, s.2 + 1 + 6 + 1)

/-- what the loop leaves in its early-return slot -/
def chkRes (b : Bool) : Option Err :=
  if b then none else some (GoStr.errNew "invalid surrogate pair in unicode escape")

/-- one round at a byte `b` of the text, in the model's terms: the case distinction of `surrogatesPaired` -/
theorem chkStep_at (eu : Bytes → Int) (heu : ∀ b, eu b = unitInt (C14n.escapedUnit b)) (pre : Bytes) (b : Nat)
    (rest : Bytes) :
    chkStep eu (pre ++ b :: rest) (none, (pre.length : Int)) =
      if b ≠ 92 then .yield (none, (pre.length : Int) + 1)
      else if C14n.isSurrogate (C14n.escapedUnit (b :: rest)) = false then .yield (none, (pre.length : Int) + 1 + 1)
      else if pairOK (C14n.escapedUnit (b :: rest)) (C14n.escapedUnit (rest.drop 5)) = false then
        .done (chkRes false, (pre.length : Int) + 1)
      else .yield (none, (pre.length : Int) + 1 + 6 + 1) := by
  have hlt : (pre.length : Int) < ((pre ++ b :: rest).length : Int) := by simp; omega
  have e6 : ((pre.length : Int) + 1 + 5).toNat = pre.length + 6 := by omega
  have hdrop6 : List.drop (pre.length + 6) (pre ++ b :: rest) = List.drop 5 rest := by
    rw [← List.drop_drop, List.drop_left']
    · rfl
    · rfl
  simp only [chkStep, hlt, not_true_eq_false, if_false, Int.toNat_natCast, e6, heu, List.drop_left', hdrop6,
    isSurrogate_unitInt, decodeRune16_unitInt, Bool.not_eq_true, chkRes, Bool.false_eq_true]
  simp

/-- the loop from index `len(pre) + skip`: it ends without an error exactly when the model's scan passes -/
theorem chk_loop (eu : Bytes → Int) (heu : ∀ b, eu b = unitInt (C14n.escapedUnit b)) (data : Bytes) :
    ∀ (rest pre : Bytes) (skip fuel : Nat), data = pre ++ rest → rest.length ≤ fuel + skip →
      (forFuel (chkStep eu data) fuel (none, (pre.length : Int) + skip)).1 = chkRes (surrogatesPaired skip rest)
  | [], pre, skip, fuel, hd, _ => by
    have hlen : (data.length : Int) = pre.length := by rw [hd]; simp
    cases fuel with
    | zero => simp [forFuel, surrogatesPaired, chkRes]
    | succ f =>
      have : ¬ (pre.length : Int) + skip < data.length := by omega
      simp [forFuel, chkStep, this, surrogatesPaired, chkRes]
  | b :: rest, pre, skip + 1, fuel, hd, hf => by
    have := chk_loop eu heu data rest (pre ++ [b]) skip fuel (by rw [hd]; simp) (by simp at hf; omega)
    rw [surrogatesPaired, ← this]; congr 3; simp; omega
  | b :: rest, pre, 0, fuel, hd, hf => by
    obtain ⟨f, rfl⟩ : ∃ f, fuel = f + 1 := ⟨fuel - 1, by simp at hf; omega⟩
    have next := fun skip h => chk_loop eu heu data rest (pre ++ [b]) skip f (by rw [hd]; simp) h
    have idx : ∀ k : Nat, (pre.length : Int) + 1 + k = ((pre ++ [b]).length : Int) + k := by intro k; simp
    subst hd
    rw [forFuel, Int.natCast_zero, Int.add_zero, chkStep_at eu heu, surrogatesPaired]
    by_cases hb : b = 92
    · subst hb
      simp only [ne_eq, not_true_eq_false, if_false, bne_self_eq_false, Bool.false_eq_true]
      cases hs : C14n.isSurrogate (C14n.escapedUnit (92 :: rest))
      · simpa [idx, Int.add_assoc] using next 1 (by simp at hf; omega)
      · cases hp : pairOK (C14n.escapedUnit (92 :: rest)) (C14n.escapedUnit (rest.drop 5))
        · rfl
        · simpa [idx, Int.add_assoc] using next 7 (by simp at hf; omega)
    · have hne : (b != 92) = true := by simpa using hb
      simpa [hb, hne, idx] using next 0 (by simp at hf; omega)

end GoblVerif.C14nSrc
