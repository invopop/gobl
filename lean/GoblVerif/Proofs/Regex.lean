/-
  Correctness of the derivative matcher of Model/Regex.lean against the usual
  inductive semantics of regular expressions:

      matchL r s = true ↔ Matches r s

  and, on that semantics, the derived forms `plus` / `opt`, expressions all of whose classes lie
  inside one class (`RE.within`), expressions of fixed length (`RE.fixedLen`).
  (core Lean only; no Mathlib needed).
-/
import GoblVerif.Model.Regex

namespace GoblVerif.Regex
open RE

/-- the language of a regular expression -/
inductive Matches : RE → List Nat → Prop
  | eps : Matches .eps []
  | cls {k : CClass} {c : Nat} : k.mem c = true → Matches (.cls k) [c]
  | cat {a b : RE} {s t : List Nat} : Matches a s → Matches b t → Matches (.cat a b) (s ++ t)
  | altL {a b : RE} {s : List Nat} : Matches a s → Matches (.alt a b) s
  | altR {a b : RE} {s : List Nat} : Matches b s → Matches (.alt a b) s
  | starNil {a : RE} : Matches (.star a) []
  | starCons {a : RE} {s t : List Nat} : Matches a s → Matches (.star a) t → Matches (.star a) (s ++ t)

theorem not_matches_empty {s : List Nat} : ¬ Matches .empty s := by
  intro h; cases h

theorem matches_eps {s : List Nat} : Matches .eps s ↔ s = [] := by
  constructor
  · intro h; cases h; rfl
  · intro h; subst h; exact .eps

theorem matches_cls {k : CClass} {s : List Nat} : Matches (.cls k) s ↔ ∃ c, s = [c] ∧ k.mem c = true := by
  constructor
  · intro h; cases h with | cls hc => exact ⟨_, rfl, hc⟩
  · rintro ⟨c, rfl, hc⟩; exact .cls hc

theorem matches_cat {a b : RE} {s : List Nat} :
    Matches (.cat a b) s ↔ ∃ s1 s2, s = s1 ++ s2 ∧ Matches a s1 ∧ Matches b s2 := by
  constructor
  · intro h; cases h with | cat h1 h2 => exact ⟨_, _, rfl, h1, h2⟩
  · rintro ⟨s1, s2, rfl, h1, h2⟩; exact .cat h1 h2

theorem matches_alt {a b : RE} {s : List Nat} : Matches (.alt a b) s ↔ Matches a s ∨ Matches b s := by
  constructor
  · intro h
    cases h with
    | altL h => exact .inl h
    | altR h => exact .inr h
  · rintro (h | h)
    · exact .altL h
    · exact .altR h

theorem nullable_iff (r : RE) : nullable r = true ↔ Matches r [] := by
  induction r with
  | empty => simp [nullable, not_matches_empty]
  | eps => simp [nullable, matches_eps]
  | cls k => simp [nullable, matches_cls]
  | cat a b iha ihb =>
    simp only [nullable, Bool.and_eq_true, iha, ihb, matches_cat]
    constructor
    · rintro ⟨h1, h2⟩; exact ⟨[], [], rfl, h1, h2⟩
    · rintro ⟨s1, s2, h, h1, h2⟩
      have h' := h.symm
      rw [List.append_eq_nil_iff] at h'
      obtain ⟨rfl, rfl⟩ := h'
      exact ⟨h1, h2⟩
  | alt a b iha ihb => simp [nullable, iha, ihb, matches_alt]
  | star a _ => simp only [nullable, true_iff]; exact .starNil

theorem mkCat_iff {a b : RE} {s : List Nat} : Matches (mkCat a b) s ↔ Matches (.cat a b) s := by
  unfold mkCat
  split
  · rename_i h; subst h; simp [matches_cat, not_matches_empty]
  · split
    · rename_i h; subst h; simp [matches_cat, not_matches_empty]
    · split
      · rename_i h; subst h
        simp only [matches_cat, matches_eps]
        exact ⟨fun h => ⟨[], s, rfl, rfl, h⟩, fun ⟨_, _, hs, h1, h⟩ => by simpa [hs, h1] using h⟩
      · exact Iff.rfl

theorem mkAlt_iff {a b : RE} {s : List Nat} : Matches (mkAlt a b) s ↔ Matches (.alt a b) s := by
  unfold mkAlt
  split
  · rename_i h; subst h; simp [matches_alt, not_matches_empty]
  · split
    · rename_i h; subst h; simp [matches_alt, not_matches_empty]
    · split
      · rename_i h; subst h; simp [matches_alt]
      · exact Iff.rfl

theorem matches_cat_cons {a b : RE} {c : Nat} {s : List Nat} :
    Matches (.cat a b) (c :: s) ↔
      (∃ s1 s2, s = s1 ++ s2 ∧ Matches a (c :: s1) ∧ Matches b s2) ∨ (Matches a [] ∧ Matches b (c :: s)) := by
  simp only [matches_cat, List.cons_eq_append_iff]
  constructor
  · rintro ⟨s1, s2, ⟨rfl, rfl⟩ | ⟨s1, rfl, rfl⟩, h1, h2⟩
    · exact .inr ⟨h1, h2⟩
    · exact .inl ⟨s1, s2, rfl, h1, h2⟩
  · rintro (⟨s1, s2, rfl, h1, h2⟩ | ⟨h1, h2⟩)
    · exact ⟨c :: s1, s2, .inr ⟨s1, rfl, rfl⟩, h1, h2⟩
    · exact ⟨[], c :: s, .inl ⟨rfl, rfl⟩, h1, h2⟩

theorem matches_star_cons {a : RE} {c : Nat} {s : List Nat} :
    Matches (.star a) (c :: s) ↔ ∃ s1 s2, s = s1 ++ s2 ∧ Matches a (c :: s1) ∧ Matches (.star a) s2 := by
  constructor
  · generalize hr : RE.star a = r, hw : c :: s = w
    intro h
    induction h with
    | starCons h1 h2 _ ih2 =>
      cases hr
      rcases List.cons_eq_append_iff.mp hw with ⟨rfl, rfl⟩ | ⟨s1, rfl, rfl⟩
      · exact ih2 rfl rfl
      · exact ⟨s1, _, rfl, h1, h2⟩
    | starNil => cases hw
    | _ => cases hr
  · rintro ⟨s1, s2, rfl, h1, h2⟩
    exact Matches.starCons h1 h2

theorem deriv_iff (c : Nat) (r : RE) : ∀ s, Matches (deriv c r) s ↔ Matches r (c :: s) := by
  induction r with
  | empty => intro s; simp [deriv, not_matches_empty]
  | eps => intro s; simp [deriv, not_matches_empty, matches_eps]
  | cls k =>
    intro s
    simp only [deriv, matches_cls, List.cons.injEq]
    split
    · rename_i h
      simp only [matches_eps]
      exact ⟨fun hs => ⟨c, ⟨rfl, hs⟩, h⟩, fun ⟨_, hs, _⟩ => hs.2⟩
    · rename_i h
      exact ⟨fun h' => absurd h' not_matches_empty, fun ⟨_, hs, hm⟩ => absurd (hs.1 ▸ hm) h⟩
  | cat a b iha ihb =>
    intro s
    have left : Matches (mkCat (deriv c a) b) s ↔ ∃ s1 s2, s = s1 ++ s2 ∧ Matches a (c :: s1) ∧ Matches b s2 := by
      simp only [mkCat_iff, matches_cat, iha]
    rw [matches_cat_cons]
    simp only [deriv]
    split
    · rename_i hn
      simp [mkAlt_iff, matches_alt, left, ihb s, (nullable_iff a).mp hn]
    · rename_i hn
      simp [left, mt (nullable_iff a).mpr hn]
  | alt a b iha ihb =>
    intro s
    simp only [deriv, mkAlt_iff, matches_alt, iha s, ihb s]
  | star a iha =>
    intro s
    simp only [deriv, mkCat_iff, matches_cat, matches_star_cons, iha]

/-- the matcher decides the language -/
theorem matchL_iff (r : RE) (s : List Nat) : matchL r s = true ↔ Matches r s := by
  induction s generalizing r with
  | nil => exact nullable_iff r
  | cons c cs ih => rw [matchL, ih, deriv_iff]

/-! ### building blocks used by the leaf theorems -/

theorem matches_opt_nil {a : RE} : Matches (RE.opt a) [] := .altL .eps
theorem matches_opt_some {a : RE} {s : List Nat} (h : Matches a s) : Matches (RE.opt a) s := .altR h

theorem matches_star_of_plus {a : RE} {s : List Nat} (h : Matches (RE.plus a) s) : Matches (.star a) s := by
  obtain ⟨s1, s2, rfl, h1, h2⟩ := matches_cat.mp h
  exact .starCons h1 h2

theorem matches_plus_cons {a : RE} {c : Nat} {s : List Nat} (h1 : Matches a [c]) (h2 : Matches (.star a) s) :
    Matches (RE.plus a) (c :: s) := matches_cat.mpr ⟨[c], s, rfl, h1, h2⟩

theorem matches_star_of_all {a : RE} {s : List Nat} (h : ∀ c ∈ s, Matches a [c]) : Matches (.star a) s := by
  induction s with
  | nil => exact .starNil
  | cons c cs ih =>
    exact Matches.starCons (s := [c]) (h c (List.mem_cons_self ..)) (ih fun x hx => h x (List.mem_cons_of_mem _ hx))

theorem matches_plus_of_all {a : RE} {s : List Nat} (hne : s ≠ []) (h : ∀ c ∈ s, Matches a [c]) :
    Matches (RE.plus a) s := by
  cases s with
  | nil => exact absurd rfl hne
  | cons c cs =>
    exact matches_plus_cons (h c (List.mem_cons_self ..)) (matches_star_of_all fun x hx => h x (List.mem_cons_of_mem _ hx))

theorem CClass.mem_iff {k : CClass} (hk : k.neg = false) {c : Nat} :
    k.mem c = true ↔ ∃ r ∈ k.ranges, r.1 ≤ c ∧ c ≤ r.2 := by
  simp [CClass.mem, hk]

theorem single_matches (c : Nat) : Matches (.cls ⟨[(c, c)], false⟩) [c] :=
  .cls ((CClass.mem_iff rfl).mpr ⟨(c, c), .head _, Nat.le_refl c, Nat.le_refl c⟩)

/-- every range of `a` lies inside one range of `K` (neither class negated) -/
def CClass.sub (a K : CClass) : Bool :=
  !a.neg && !K.neg && a.ranges.all fun r => K.ranges.any fun q => q.1 ≤ r.1 && r.2 ≤ q.2

theorem CClass.sub_mem {a K : CClass} (h : a.sub K = true) {c : Nat} (hc : a.mem c = true) : K.mem c = true := by
  simp only [CClass.sub, Bool.and_eq_true, Bool.not_eq_true', List.all_eq_true, List.any_eq_true,
    decide_eq_true_eq] at h
  obtain ⟨⟨ha, hK⟩, hr⟩ := h
  obtain ⟨r, hrm, h1, h2⟩ := (CClass.mem_iff ha).mp hc
  obtain ⟨q, hqm, h3, h4⟩ := hr r hrm
  exact (CClass.mem_iff hK).mpr ⟨q, hqm, Nat.le_trans h3 h1, Nat.le_trans h2 h4⟩

/-- every character class of the expression lies inside `K` -/
def RE.within (K : CClass) : RE → Bool
  | .empty => true
  | .eps => true
  | .cls k => k.sub K
  | .cat a b => within K a && within K b
  | .alt a b => within K a && within K b
  | .star a => within K a

theorem within_chars {K : CClass} {r : RE} {s : List Nat} (hm : Matches r s) :
    r.within K = true → ∀ c ∈ s, K.mem c = true := by
  induction hm with
  | eps => intro _ c hc; cases hc
  | cls hk =>
    intro hw c hc
    simp only [List.mem_singleton] at hc
    subst hc
    exact CClass.sub_mem hw hk
  | cat _ _ iha ihb =>
    intro hw c hc
    simp only [RE.within, Bool.and_eq_true] at hw
    rcases List.mem_append.mp hc with h | h
    · exact iha hw.1 c h
    · exact ihb hw.2 c h
  | altL _ ih =>
    intro hw
    simp only [RE.within, Bool.and_eq_true] at hw
    exact ih hw.1
  | altR _ ih =>
    intro hw
    simp only [RE.within, Bool.and_eq_true] at hw
    exact ih hw.2
  | starNil => intro _ c hc; cases hc
  | starCons _ _ iha ihb =>
    intro hw c hc
    rcases List.mem_append.mp hc with h | h
    · exact iha (by simpa [RE.within] using hw) c h
    · exact ihb hw c h

/-- a word of an expression that does not accept the empty word and whose classes all lie in `K`
    is a word of `[K]+` -/
theorem matchL_plus_cls_of_within {K : CClass} {r : RE} {s : List Nat} (hm : r.matchL s = true)
    (hw : r.within K = true) (hn : r.nullable = false) : (RE.plus (.cls K)).matchL s = true := by
  rw [matchL_iff] at hm ⊢
  have hne : s ≠ [] := by
    intro h
    subst h
    have := (nullable_iff r).mpr hm
    rw [hn] at this
    cases this
  exact matches_plus_of_all hne (fun c hc => Matches.cls (within_chars hm hw c hc))

/-- the length of every word, for expressions made of classes and concatenation -/
def RE.fixedLen : RE → Option Nat
  | .eps => some 0
  | .cls _ => some 1
  | .cat a b => match fixedLen a, fixedLen b with
    | some m, some n => some (m + n)
    | _, _ => none
  | _ => none

theorem fixedLen_length {r : RE} {s : List Nat} (hm : Matches r s) : ∀ n, r.fixedLen = some n → s.length = n := by
  induction hm with
  | eps => intro n h; simp only [RE.fixedLen, Option.some.injEq] at h; simp [← h]
  | cls _ => intro n h; simp only [RE.fixedLen, Option.some.injEq] at h; simp [← h]
  | @cat a b s t _ _ iha ihb =>
    intro n h
    simp only [RE.fixedLen] at h
    split at h
    · rename_i m k hm' hk'
      simp only [Option.some.injEq] at h
      rw [List.length_append, iha m hm', ihb k hk', h]
    · cases h
  | altL _ _ => intro n h; simp [RE.fixedLen] at h
  | altR _ _ => intro n h; simp [RE.fixedLen] at h
  | starNil => intro n h; simp [RE.fixedLen] at h
  | starCons _ _ _ _ => intro n h; simp [RE.fixedLen] at h

end GoblVerif.Regex
