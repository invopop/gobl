/-
  Helper lemmas for C06, MinimalString: trailing zeros of the decimals and a
  left-over point are removed; what remains is again a sign and a decimal text,
  and the parser reads it as the same number (`amountMinimalString_parse`).
-/
import GoblVerif.Proofs.Codec
import GoblVerif.Proofs.Num

namespace GoblVerif.Codec
open GoblVerif GoblVerif.Spec.C06

theorem dropWhile_zero_spec (R : Text) :
    R = List.replicate (R.length - (R.dropWhile (· == '0')).length) '0' ++ R.dropWhile (· == '0') := by
  induction R with
  | nil => rfl
  | cons c R ih =>
    by_cases hc : c = '0'
    · subst hc
      simp only [List.dropWhile_cons, beq_self_eq_true, if_true, List.length_cons]
      have hle : (R.dropWhile (· == '0')).length ≤ R.length := (List.dropWhile_sublist _).length_le
      have : R.length + 1 - (R.dropWhile (· == '0')).length = (R.length - (R.dropWhile (· == '0')).length) + 1 := by omega
      rw [this, List.replicate_succ, List.cons_append, ← ih]
    · have : (c == '0') = false := by simp [hc]
      simp [this]

theorem trimRightZeros_spec (M : Text) :
    M = trimRightZeros M ++ List.replicate (M.length - (trimRightZeros M).length) '0' := by
  have h := dropWhile_zero_spec M.reverse
  unfold trimRightZeros
  have h2 := congrArg List.reverse h
  simp only [List.reverse_reverse, List.reverse_append, List.reverse_replicate, List.length_reverse] at h2
  simpa using h2

theorem dropWhile_append_stop (p : Char → Bool) (l : Text) (c : Char) (r : Text) (hc : p c = false) :
    (l ++ c :: r).dropWhile p = l.dropWhile p ++ c :: r := by
  induction l with
  | nil => simp [hc]
  | cons x l ih =>
    by_cases hx : p x = true
    · simp [hx, ih]
    · simp [hx]

theorem trimRightZeros_dot (X M : Text) : trimRightZeros (X ++ '.' :: M) = X ++ '.' :: trimRightZeros M := by
  unfold trimRightZeros
  have : (X ++ '.' :: M).reverse = M.reverse ++ '.' :: X.reverse := by simp
  rw [this, dropWhile_append_stop _ _ _ _ (by decide)]
  simp

theorem trimSuffixDot_dot (X M : Text) (hM : M.all isDigitC = true) :
    trimSuffixDot (X ++ '.' :: M) = if M = [] then X else X ++ '.' :: M := by
  unfold trimSuffixDot
  rcases List.eq_nil_or_concat M with h | ⟨t, d, h⟩
  · subst h
    rw [List.getLast?_append]
    simp
  · subst h
    have hd : isDigitC d = true := by
      simp only [List.concat_eq_append, List.all_append, Bool.and_eq_true, List.all_cons, List.all_nil, Bool.and_true] at hM
      exact hM.2
    have hne : d ≠ '.' := (isDigitC_not_sign d hd).2.2.1
    have e1 : X ++ '.' :: t.concat d = (X ++ '.' :: t) ++ [d] := by simp
    have hl : (X ++ '.' :: t.concat d).getLast? = some d := by rw [e1, List.getLast?_append]; rfl
    rw [hl]
    simp [hne]

theorem natOfDigits_append_zeros (s : Text) (k : Nat) :
    natOfDigits (s ++ List.replicate k '0') = natOfDigits s * 10 ^ k := by
  rw [natOfDigits_append]
  have := natOfDigits_zeros k []
  simp only [List.append_nil] at this
  rw [this]; simp [natOfDigits]

theorem sg_mul (n : Bool) (a : Nat) (b : Int) : sg n a * b = (if n then -((a : Int) * b) else (a : Int) * b) := by
  cases n <;> simp [sg]

/-- `MinimalString` on the written text -/
def minimalText (s : Text) : Text := if !s.contains '.' then s else trimSuffixDot (trimRightZeros s)

theorem IsDec.minimal {s : Text} {n : Bool} {A M : Text} (h : IsDec s n A M) :
    IsDec (minimalText s) n A (trimRightZeros M) := by
  obtain ⟨rfl, hA, hM⟩ := h
  have hall : (trimRightZeros M).all isDigitC = true := by
    have := trimRightZeros_spec M
    rw [this, List.all_append, Bool.and_eq_true] at hM
    exact hM.1
  refine ⟨?_, hA, hall⟩
  unfold minimalText
  by_cases h0 : M = []
  · subst h0
    have : (sgn n (dec A [])).contains '.' = false := by
      rw [dec, if_pos rfl, List.append_nil, List.contains_eq_mem, decide_eq_false_iff_not]
      exact fun h => sgn_nodot n A (isDigits_nodot A hA) _ h rfl
    rw [this]; rfl
  · have hc : (sgn n A ++ '.' :: M).contains '.' = true := by simp
    rw [dec, if_neg h0, sgn_append, hc, trimRightZeros_dot, trimSuffixDot_dot _ _ hall, dec, sgn_append]
    by_cases h1 : trimRightZeros M = [] <;> simp [h1]

theorem decVal_append_zeros (A M : Text) (k : Nat) :
    decVal A (M ++ List.replicate k '0') = decVal A M * 10 ^ k := by
  unfold decVal
  rw [natOfDigits_append_zeros, List.length_append, List.length_replicate, pow_add]
  ring

theorem amountMinimalString_parse (v : Int) (e : Nat) (he : e ≤ 18)
    (hlo : -(2 : Int) ^ 63 ≤ v) (hhi : v < (2 : Int) ^ 63) :
    ∃ A M b, IsDec (amountMinimalString ⟨v, e⟩) (decide (v < 0)) A M ∧
      amountFromString (amountMinimalString ⟨v, e⟩) = .ok b ∧ b.toRat = (⟨v, e⟩ : Amount).toRat := by
  obtain ⟨A, M, hs, hlen, hval⟩ := amountToString_dec v e he hlo hhi
  have hd : IsDec (amountMinimalString ⟨v, e⟩) _ A (trimRightZeros M) := hs.minimal
  clear hs
  have hsg := sg_natAbs v
  have hlim := natAbs_le_lim v hlo hhi
  generalize decide (v < 0) = n at *
  have hspec := trimRightZeros_spec M
  generalize trimRightZeros M = M' at hspec hd
  generalize M.length - M'.length = k at hspec
  subst hspec
  rw [decVal_append_zeros] at hval
  rw [List.length_append, List.length_replicate] at hlen
  have hle : decVal A M' ≤ v.natAbs := by
    rw [← hval]; exact Nat.le_mul_of_pos_right _ (Nat.pow_pos (by decide))
  refine ⟨A, M', ⟨sg n (decVal A M'), M'.length⟩, hd, (hd.parse _).mpr ⟨by omega, hle.trans hlim, rfl⟩, ?_⟩
  have hv : v = sg n (decVal A M') * pow10 k := by
    rw [← hsg, ← hval, sg_mul]
    unfold sg pow10
    split <;> push_cast <;> rfl
  rw [← hlen, hv]
  exact (toRat_scale _ _ k).symm
end GoblVerif.Codec
