/-
  Decimal notation.  Core Lean has the theory: `Nat.toDigits 10 n` are the digits of `n`, `Nat.ofDigitChars 10 s 0`
  is the number a digit string writes, with `Nat.toDigits_eq_if`, `Nat.ofDigitChars_ten_toDigits`,
  `Nat.length_toDigits_le_iff`, `Nat.isDigit_of_mem_toDigits`, `Nat.ofDigitChars_append`.  The models write
  the same function four times, with three spellings of a digit (a `Char`, its code, `Char.ofNat (48 + d)`) and
  three shapes of recursion; each proof file shows once that its function is `(Nat.toDigits 10 n).map spelling`.
  Here is what core does not say: no leading zero, a fixed width, and the recursion two of the models share.
-/
namespace GoblVerif.Digits

theorem toDigits_eq_if (n : Nat) :
    Nat.toDigits 10 n = if n < 10 then [n.digitChar] else Nat.toDigits 10 (n / 10) ++ [(n % 10).digitChar] :=
  Nat.toDigits_eq_if (by decide)

/-- no leading zero, except for `0` itself -/
theorem head_toDigits : ∀ (n : Nat), 0 < n → (Nat.toDigits 10 n).head? ≠ some '0' := by
  intro n
  induction n using Nat.strongRecOn with
  | _ n ih =>
    intro h
    rw [toDigits_eq_if]
    split
    · simp; omega
    · have := ih (n / 10) (by omega) (by omega)
      cases hd : Nat.toDigits 10 (n / 10) with
      | nil => exact absurd hd Nat.toDigits_ne_nil
      | cons a t => simpa [hd] using this

/-- the code of every digit written is one of `'0'` … `'9'` -/
theorem toNat_mem_toDigits {n : Nat} {c : Char} (h : c ∈ Nat.toDigits 10 n) : 48 ≤ c.toNat ∧ c.toNat ≤ 57 :=
  Char.isDigit_iff_toNat.mp (Nat.isDigit_of_mem_toDigits (by decide) (by decide) h)

/-! ### a fixed width (`%02d`, `%04d`) -/

/-- the `w` low decimal digits of `n`, most significant first -/
def lowDigits : Nat → Nat → List Char
  | 0, _ => []
  | w + 1, n => lowDigits w (n / 10) ++ [(n % 10).digitChar]

theorem lowDigits_zero : ∀ w, lowDigits w 0 = List.replicate w '0'
  | 0 => rfl
  | w + 1 => by simp [lowDigits, lowDigits_zero w, List.replicate_succ']

/-- padding with zeros to a width the number fits gives exactly its low digits -/
theorem pad_toDigits : ∀ (w n : Nat), n < 10 ^ (w + 1) →
    List.replicate (w + 1 - (Nat.toDigits 10 n).length) '0' ++ Nat.toDigits 10 n = lowDigits (w + 1) n
  | 0, n, h => by
    have h10 : n < 10 := h
    simp [Nat.toDigits_of_lt_base h10, lowDigits, Nat.mod_eq_of_lt h10]
  | w + 1, n, h => by
    by_cases h10 : n < 10
    · have h0 : Nat.digitChar 0 = '0' := rfl
      simp [Nat.toDigits_of_lt_base h10, lowDigits, lowDigits_zero, Nat.mod_eq_of_lt h10, Nat.div_eq_of_lt h10, h0,
        List.replicate_succ']
    · rw [toDigits_eq_if, if_neg h10, lowDigits,
        ← pad_toDigits w (n / 10) (by rw [Nat.pow_succ] at h; omega), List.length_append]
      simp

/-- The recursion with fuel that writes the last digit last (`natToDigitsF` of Model/Codec.lean,
`natDigitsF` of Model/SchemaLeaves.lean): `enc` is the model's spelling of a digit, `e` reads it off core's. -/
theorem fuelSnoc_eq {α : Type} (enc : Nat → α) (e : Char → α) (he : ∀ d, d < 10 → enc d = e d.digitChar)
    (F : Nat → Nat → List α) (zero : ∀ n, F 0 n = [enc (n % 10)])
    (succ : ∀ f n, F (f + 1) n = if n < 10 then [enc n] else F f (n / 10) ++ [enc (n % 10)]) :
    ∀ f n, n ≤ f → F f n = (Nat.toDigits 10 n).map e
  | 0, n, h => by
    obtain rfl : n = 0 := by omega
    rw [zero, he _ (by decide)]; rfl
  | f + 1, n, h => by
    rw [succ, toDigits_eq_if]
    split
    · rw [he n ‹_›]; rfl
    · rw [fuelSnoc_eq enc e he F zero succ f (n / 10) (by omega), he _ (Nat.mod_lt _ (by decide)), List.map_append]; rfl

end GoblVerif.Digits
