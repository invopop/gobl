/-
  BillCalcSrc (proofs): the regenerated translation of /repo/bill (Generated/BillCalcSrc.lean)
  against the functions of Model/Calc.lean (that of /repo/pay, Generated/PayCalcSrc.lean, is tied in Props/C01.lean).  The functions that only Props/C01.lean speaks of are proved equal to the
  model there, in `namespace Src`; here is what Props/C01.lean and Props/C03.lean share: the
  conversions between the emitted Go structures (LineDiscount, SubLine, Line, Item) and the
  model's records, and the chain from `calculateLineDiscounts` to `calculateLine`.
-/
import GoblVerif.Generated.BillCalcSrc
import GoblVerif.Proofs.GoSemList
import GoblVerif.Proofs.CalcBasics

namespace GoblVerif.Proofs.BillCalcSrc
open GoblVerif GoblVerif.Calc GoblVerif.CalcSrc GoblVerif.GoSem GoblVerif.Generated

@[simp] theorem some_get! {α : Type} [Inhabited α] (x : α) : (some x).get! = x := rfl

theorem matchPrecision_add (o : Ops) (s x : Amount) : add o (matchPrecision s x) x = accum o s x := rfl

theorem toModel_ok {α β : Type} (f : α → β) (a : α) : toModel f (.ok a) = .ok (f a) := rfl

theorem toModel_error {α β : Type} (f : α → β) (e : GoErr) : toModel f (.error e) = .error (errOf e) := rfl

theorem toModel_pure {α β : Type} (f : α → β) (a : α) : toModel f (pure a) = .ok (f a) := rfl

theorem toModel_bind {α β γ : Type} (f : β → γ) (x : Except GoErr α) (k : α → Except GoErr β) :
    toModel f (x >>= k) = match x with
      | .ok a => toModel f (k a)
      | .error e => .error (errOf e) := by
  cases x <;> rfl

theorem errOf_at (k : String) (e : GoErr) : errOf (GoErr.at k e) = errOf e := rfl

theorem toModel_mapError {α β : Type} (f : α → β) (w : GoErr → GoErr) (hw : ∀ e, errOf (w e) = errOf e)
    (x : Except GoErr α) : toModel f (Except.mapError w x) = toModel f x := by
  cases x with
  | ok a => rfl
  | error e => exact congrArg Except.error (hw e)

/-- an error loop over `l.zipIdx` whose step wraps the error under the index, read as the model's recursion -/
theorem mapE_model {α β α' β' : Type} (F : α → Except GoErr α') (G : β → Except CalcErr β') (f : α → β) (f' : α' → β')
    (w : Nat → GoErr → GoErr) (hw : ∀ i e, errOf (w i e) = errOf e) (l : List α)
    (h : ∀ x ∈ l, toModel f' (F x) = G (f x)) (k : Nat) :
    toModel (List.map f') (mapE (fun x : α × Nat => Except.mapError (w x.2) (F x.1)) (l.zipIdx k)) = mapE G (l.map f) := by
  induction l generalizing k with
  | nil => rfl
  | cons a l ih =>
    simp only [List.zipIdx_cons, List.map_cons, mapE]
    rw [← h a (List.mem_cons_self ..), ← ih (fun x hx => h x (List.mem_cons_of_mem _ hx)) (k + 1)]
    generalize mapE (fun x : α × Nat => Except.mapError (w x.2) (F x.1)) (l.zipIdx (k + 1)) = r
    cases F a with
    | error e => simp [toModel_error, Except.mapError, hw]
    | ok y => cases r <;> rfl

/-- `mapE` is `mapOk` of Proofs/MapOk.lean, the same text under two names -/
theorem mapE_eq_mapOk {ε α β : Type} (f : α → Except ε β) (l : List α) : mapE f l = mapOk f l := by
  induction l with
  | nil => rfl
  | cons a l ih =>
    rw [mapE, mapOk, ih]
    cases f a with
    | error e => rfl
    | ok y => cases mapOk f l <;> rfl

/-! ## line discounts and charges -/

/-- a Go `LineDiscount` as the model's row (a discount has neither rate nor quantity) -/
def toAdj (d : BillCalcSrc.LineDiscount) : LineAdj := ⟨d.Percent, d.Base, d.Amount, none, none⟩
def ofAdj (a : LineAdj) : BillCalcSrc.LineDiscount := ⟨a.base, a.percent, a.amount⟩

theorem ofAdj_toAdj (d : BillCalcSrc.LineDiscount) : ofAdj (toAdj d) = d := rfl

theorem toAdj_ofAdj_row (o : Ops) (r : Rule) (c : Nat) (sum : Amount) (d : BillCalcSrc.LineDiscount) :
    toAdj (ofAdj (discountRow o r c sum (toAdj d))) = discountRow o r c sum (toAdj d) := by
  obtain ⟨b, p, a⟩ := d
  simp only [discountRow, adjUp, adjPct, toAdj, ofAdj]
  cases p with
  | none => rfl
  | some p => cases hz : pctIsZero p <;> cases b <;> simp [hz]

/-- an EFFECT LOOP of go2lean_effects.go (rebuilds the list it ranges over while threading a state); the rows do not
    depend on the running total, so it is a `map` beside a fold -/
theorem calculateLineDiscounts_eq (o : Ops) (sub : String → Nat) (ds : List BillCalcSrc.LineDiscount)
    (sum total : Amount) (cur rr : String) :
    let r := BillCalcSrc.calculateLineDiscounts o sub ds sum total cur rr
    (r.2.map toAdj, r.1) = lineDiscounts o (ruleOf rr) (sub cur) sum (ds.map toAdj) total := by
  unfold BillCalcSrc.calculateLineDiscounts
  simp only [forIn_list_id, bind_pure_comp]
  simp only [Id.run, id_pure]
  rw [forList_effect _ (fun s x => Calc.sub o s (discountRow o (ruleOf rr) (sub cur) sum (toAdj x)).amount)
      (fun x => ofAdj (discountRow o (ruleOf rr) (sub cur) sum (toAdj x))), lineDiscounts_eq]
  · simp [List.foldl_map, Function.comp_def, toAdj_ofAdj_row]
  · intro ⟨b, p, a⟩ s
    cases p with
    | none => rfl
    | some p =>
      dsimp +instances only [discountRow, adjPct, toAdj, some_get!]
      cases pctIsZero p <;> cases b <;> rfl

theorem calculateLineCharges_eq (o : Ops) (sub : String → Nat) (cs : List LineAdj)
    (q sum total : Amount) (cur rr : String) :
    let r := BillCalcSrc.calculateLineCharges o sub cs q sum total cur rr
    (r.2, r.1) = lineCharges o (ruleOf rr) (sub cur) q sum cs total := by
  unfold BillCalcSrc.calculateLineCharges
  simp only [forIn_list_id, bind_pure_comp]
  simp only [Id.run, id_pure]
  rw [forList_effect _ (fun s x => add o s (chargeRow o (ruleOf rr) (sub cur) q sum x).amount)
      (fun x => chargeRow o (ruleOf rr) (sub cur) q sum x), lineCharges_eq]
  · simp [List.foldl_map]
  · intro ⟨p, b, a, rt, qt⟩ s
    cases p with
    | none => cases rt <;> cases qt <;> rfl
    | some p =>
      dsimp +instances only [chargeRow, adjPct, some_get!]
      cases pctIsZero p <;> cases b <;> cases rt <;> cases qt <;> rfl

/-- a Go sub-line as the model's record; `fI` converts the item (the model's item also carries the subunits of its currency) -/
def toSubLine (fI : BillCalcSrc.Item → Item) (sl : BillCalcSrc.SubLine) : SubLine :=
  { qty := sl.Quantity, item := sl.Item.map fI, discounts := sl.Discounts.map toAdj, charges := sl.Charges,
    sum := sl.Sum, total := sl.Total }

/-- a Go line as the model's record (`Substituted` has no counterpart in the model: no effect on any total) -/
def toLine (fI : BillCalcSrc.Item → Item) (l : BillCalcSrc.Line) : Line :=
  { qty := l.Quantity, item := l.Item.map fI, discounts := l.Discounts.map toAdj, charges := l.Charges,
    breakdown := l.Breakdown.map (toSubLine fI), taxes := l.Taxes, sum := l.Sum, total := l.Total }

theorem determineSubLinePrecision_eq (o : Ops) (sub : String → Nat) (fI : BillCalcSrc.Item → Item)
    (hfI : ∀ it, (fI it).price = it.Price) (sls : List BillCalcSrc.SubLine) :
    BillCalcSrc.determineSubLinePrecision o sub sls = subLinePrecision (sls.map (toSubLine fI)) := by
  unfold BillCalcSrc.determineSubLinePrecision subLinePrecision
  simp only [forIn_list_id, pure_bind]
  rw [List.foldl_map]
  refine forList_eq_foldl _ _ (fun ⟨q, it, sm, ds, cs, tt⟩ e => ?_) _ _
  cases it with
  | none => rfl
  | some it =>
    -- both sides keep the larger of `e` and the exponent of the price, where there is one
    have := hfI it
    obtain ⟨cur, pr, alts⟩ := it
    cases pr <;> simp_all [toSubLine] <;> split <;> rfl

/-! ## the error-returning functions of bill/line_calculate.go (go2lean_errfn.go) -/

def toAlt (a : BillCalcSrc.CurAmount) : String × Amount := (a.Currency, a.Value)

/-- a Go item as the model's: the model's item carries the subunits of its currency (the document's when it names none) -/
def toItem (sub : String → Nat) (cur : String) (it : BillCalcSrc.Item) : Item :=
  { price := it.Price, cur := it.Currency, sub := sub (if it.Currency = "" then cur else it.Currency),
    alts := it.AltPrices.map toAlt }

/-- the model's exchange rates carry the subunits of their destination currency (`XRate.toSub`, an input of the model)
    as the currency table has them (Go reads `er.To.Def()`) -/
def RatesSub (sub : String → Nat) (rates : List XRate) : Prop := ∀ r ∈ rates, r.toSub = sub r.to

theorem convertRates_eq (o : Ops) (sub : String → Nat) (rates : List XRate) (hr : RatesSub sub rates)
    (f t : String) (h : f ≠ t) (a : Amount) :
    convertRates o sub rates f t a = (findRate rates f t).map (fun r => convert o r a) := by
  unfold convertRates
  simp only [h, if_false]
  cases hf : findRate rates f t with
  | none => rfl
  | some r =>
    -- the rate found carries the subunits of its destination already (`hr`): overwriting them changes nothing
    have hm : r ∈ rates := List.mem_of_find?_eq_some hf
    have := hr r hm
    obtain ⟨a1, a2, a3, a4⟩ := r
    simp_all

/-- the item after the alternative price `x` in the document's currency has been taken -/
def altItem (sub : String → Nat) (ic : String) (p0 : Amount) (x : BillCalcSrc.CurAmount) : BillCalcSrc.Item :=
  { Currency := x.Currency, Price := some (matchPrecision x.Value ⟨0, sub x.Currency⟩),
    AltPrices := [⟨ic, matchPrecision p0 ⟨0, sub ic⟩⟩] }

theorem find?_toAlt (alts : List BillCalcSrc.CurAmount) (cur : String) :
    (alts.map toAlt).find? (fun ap => ap.1 == cur) = (alts.find? fun x => decide (x.Currency = cur)).map toAlt := by
  rw [List.find?_map]; congr 2

theorem calculateLineItemPrice_eq (o : Ops) (sub : String → Nat) (it : BillCalcSrc.Item) (p0 : Amount)
    (hp : it.Price = some p0) (cur : String) (rates : List XRate) (hr : RatesSub sub rates) :
    toModel (toItem sub cur) (BillCalcSrc.calculateLineItemPrice o sub it cur rates)
      = itemPrice o cur (sub cur) rates (toItem sub cur it) p0 := by
  obtain ⟨ic, pr, alts⟩ := it
  simp only at hp
  subst hp
  unfold BillCalcSrc.calculateLineItemPrice itemPrice
  simp only [Option.isNone_some, Bool.false_eq_true, if_false, some_get!]
  by_cases h1 : ic = ""
  · subst h1
    simp [toModel_pure, toItem, matchPrecision]
  · by_cases h2 : ic = cur
    · subst h2
      simp [toModel_pure, toItem, matchPrecision, h1]
    · simp only [h1, h2, if_false, or_self]
      rw [forIn_pure _ _ _ (fun (x : BillCalcSrc.CurAmount) s => if x.Currency = cur then
            .done (some (altItem sub ic p0 x), altItem sub ic p0 x, matchPrecision x.Value ⟨0, sub x.Currency⟩)
          else .yield (none, s.2)) (fun x s => by split <;> rfl),
        forList_first (fun x : BillCalcSrc.CurAmount => x.Currency = cur) _ _ _ (fun _ => rfl)]
      simp only [toItem, h1, if_false, find?_toAlt]
      cases hf : alts.find? (fun x => decide (x.Currency = cur)) with
      | some ap =>
        have hc : ap.Currency = cur := by simpa using List.find?_some hf
        simp only [Option.map_some, Option.getD_some, pure_bind]
        simp [toModel_pure, toItem, toAlt, matchPrecision, hc, h1, h2, altItem]
      | none =>
        simp only [Option.map_none, Option.getD_none, pure_bind, bind_pure_comp]
        rw [convertRates_eq o sub rates hr ic cur h2]
        cases hfr : findRate rates ic cur with
        | none => simp [toModel_error, errOf, GoErr.leaf, noRateFormat, throw, throwThe, MonadExceptOf.throw, Functor.map, Except.map, h1, h2]
        | some r => simp [toModel_pure, toItem, toAlt, matchPrecision, h1, h2]

theorem ruleOf_precise (rr : String) : (ruleOf rr == Rule.precise) = decide (rr = "precise") := by
  unfold ruleOf
  by_cases h : rr = "precise"
  · subst h; rfl
  · by_cases h2 : rr = "currency"
    · subst h2; rfl
    · simp [h, h2]

/-- `calculateSubLine` and `calculateLine` from the call of `calculateLineItemPrice` on: an error is handed up, and
    what follows (`k`) is run with an item that has a price -/
theorem toModel_priced {γ γ' : Type} {o : Ops} {sub : String → Nat} {cur : String} {rates : List XRate} {it : Item}
    {p0 : Amount} {fm : γ → γ'} {x : Except GoErr BillCalcSrc.Item} {k : BillCalcSrc.Item → Except GoErr γ}
    (K : Item → Amount → γ') (hx : toModel (toItem sub cur) x = itemPrice o cur (sub cur) rates it p0)
    (hk : ∀ t0 p, t0.Price = some p → toModel fm (k t0) = .ok (K (toItem sub cur t0) p)) :
    toModel fm (x >>= k) = match itemPrice o cur (sub cur) rates it p0 with
      | .error e => .error e
      | .ok it2 => .ok (K it2 (it2.price.getD p0)) := by
  rw [toModel_bind, ← hx]
  cases x with
  | error e => rfl
  | ok t0 =>
    obtain ⟨p, hp⟩ : ∃ p, t0.Price = some p := (itemPrice_some hx.symm).2
    simp only [toModel_ok, hk t0 p hp, toItem, hp, Option.getD_some]

/-- the tail that `calculateSubLine` and `calculateLine` share, from a unit price on -/
theorem tail_figures (o : Ops) (sub : String → Nat) (ds : List BillCalcSrc.LineDiscount) (cs : List LineAdj)
    (qty price : Amount) (cur rr : String) :
    let sum := applyRoundingRule o sub rr cur (o.mul price qty)
    let t1 := BillCalcSrc.calculateLineDiscounts o sub ds sum sum cur rr
    let t2 := BillCalcSrc.calculateLineCharges o sub cs qty sum t1.1 cur rr
    (⟨sum, t1.2.map toAdj, t2.2, t2.1⟩ : Figures) = figures o (sub cur) (ruleOf rr) qty price (ds.map toAdj) cs := by
  have hd := calculateLineDiscounts_eq o sub ds
  have hc := calculateLineCharges_eq o sub cs qty
  simp only at hd hc
  simp only [figures, applyRoundingRule, ← hd, ← hc]

theorem calculateSubLine_eq (o : Ops) (sub : String → Nat) (sl : BillCalcSrc.SubLine) (cur : String)
    (rates : List XRate) (rr : String) (hr : RatesSub sub rates) :
    toModel (toSubLine (toItem sub cur)) (BillCalcSrc.calculateSubLine o sub sl cur rates rr)
      = calcSubLine o cur (sub cur) rates (ruleOf rr) (toSubLine (toItem sub cur) sl) := by
  obtain ⟨q, it, sm, ds, cs, tt⟩ := sl
  rw [calcSubLine_eq]
  unfold BillCalcSrc.calculateSubLine
  cases it with
  | none => rfl
  | some it =>
    cases hp : it.Price with
    | none => simp [toModel_pure, toSubLine, toItem, hp]
    | some p0 =>
      simp only [toSubLine, Option.map_some, toItem, hp, Option.isNone_some, Bool.false_eq_true, if_false, some_get!]
      have hi := calculateLineItemPrice_eq o sub it p0 hp cur rates hr
      simp only [toItem, hp] at hi
      refine toModel_priced
        (subOut o (sub cur) (ruleOf rr) (toSubLine (toItem sub cur) ⟨q, some it, sm, ds, cs, tt⟩)) hi fun t0 p hp' => ?_
      have hf := fun price => (tail_figures o sub ds cs q price cur rr).symm
      rcases em (rr = "precise") with rfl | hpr
      · simp [toModel_pure, subOut, hp', ruleOf_precise, E, hf, toSubLine, toItem]
      · simp [toModel_pure, subOut, hpr, hp', ruleOf_precise, hf, toSubLine, toItem]

/-! ## `calculateLine`

`calculateLine` is cut in two: the loop over the breakdown (`bdBody`, read by
`bdBody_eq` and `foldl_bdUpd`) and the part after it (`lineFinish`, a copy of the generated text from
`if l.Item.Price == nil` on; `calculateLine_shape` proves that the regenerated definition IS that
composition, so a change of the Go function breaks it).  On the model's side `calcLine_eq` of
Proofs/CalcBasics.lean is the same cut: the match on `calcSubLines`, and after it `modelFinish` at the item
`lineItem` gives; `lineFinish_eq` ties the two second halves.  The loop over
`l.Substituted` is outside: the model has no substituted sub-lines (hypothesis
`l.Substituted = []`). -/

open GoblVerif.Generated.BillCalcSrc (CurAmount calculateLineItemPrice calculateLineDiscounts calculateLineCharges calculateSubLine determineSubLinePrecision)

/-- the part of `calculateLine` after the breakdown -/
def lineFinish (o : GoblVerif.Calc.Ops) (sub : String → Nat) (l : BillCalcSrc.Line) (cur : String) (rates : List GoblVerif.Calc.XRate) (rr : String) : Except GoblVerif.CalcSrc.GoErr BillCalcSrc.Line := do
  let mut l := l
  let zero : GoblVerif.Amount := (GoblVerif.Amount.mk 0 ((some (sub cur) : Option Nat).get!))
  if l.Item.get!.Price.isNone = true then
    l := { l with Item := some { l.Item.get! with AltPrices := ([] : List CurAmount) } }
    l := { l with Sum := (none : Option GoblVerif.Amount) }
    l := { l with Total := (none : Option GoblVerif.Amount) }
    return l
  let t6 ← Except.mapError (fun err_2 => GoblVerif.CalcSrc.GoErr.at "item" err_2) (calculateLineItemPrice o sub l.Item.get! cur rates)
  l := { l with Item := some t6 }
  let mut exp : Nat := zero.exp
  if rr = "precise" then
    exp := exp + (2 : Nat)
  let price : GoblVerif.Amount := GoblVerif.Calc.up l.Item.get!.Price.get! exp
  let mut sum : GoblVerif.Amount := o.mul price l.Quantity
  sum := GoblVerif.CalcSrc.applyRoundingRule o sub rr cur sum
  let mut total : GoblVerif.Amount := sum
  let t7 := calculateLineDiscounts o sub l.Discounts sum total cur rr
  total := t7.1
  l := { l with Discounts := t7.2 }
  let t8 := calculateLineCharges o sub l.Charges l.Quantity sum total cur rr
  total := t8.1
  l := { l with Charges := t8.2 }
  l := { l with Sum := some sum }
  l := { l with Total := some total }
  return l

/-- the body of the breakdown loop -/
def bdBody (o : Ops) (sub : String → Nat) (cur : String) (rates : List XRate) (rr : String) (it4 : BillCalcSrc.SubLine × Nat) (s : Amount × Bool × List BillCalcSrc.SubLine) :
    Except GoErr (ForInStep (Amount × Bool × List BillCalcSrc.SubLine)) := do
  let t5 ← Except.mapError (fun err => GoErr.at "breakdown" (GoErr.at (toString (it4.2 : Int)) err))
      (calculateSubLine o sub it4.1 cur rates rr)
  if t5.Total.isSome = true then
    pure (ForInStep.yield (add o (matchPrecision s.1 t5.Total.get!) t5.Total.get!, true, s.2.2 ++ [t5]))
  else pure (ForInStep.yield (s.1, s.2.1, s.2.2 ++ [t5]))

/-- the line handed to the finishing part after the breakdown loop ended in state `s` -/
def afterBd (o : Ops) (sub : String → Nat) (cur : String) (l : BillCalcSrc.Line) (s : Amount × Bool × List BillCalcSrc.SubLine) : BillCalcSrc.Line :=
  if s.2.1 = true then
    { l with Breakdown := s.2.2,
             Item := some ⟨cur, some (o.rescale s.1 (determineSubLinePrecision o sub s.2.2)), []⟩ }
  else { l with Breakdown := s.2.2 }

/-- for an empty breakdown the loop hands on its initial state, and `afterBd` the line itself -/
theorem calculateLine_shape (o : Ops) (sub : String → Nat) (l : BillCalcSrc.Line) (it : BillCalcSrc.Item) (cur : String)
    (rates : List XRate) (rr : String) (hi : l.Item = some it) (hs : l.Substituted = []) :
    BillCalcSrc.calculateLine o sub l cur rates rr = (do
      let s ← forIn l.Breakdown.zipIdx ((⟨0, sub cur⟩ : Amount), false, ([] : List BillCalcSrc.SubLine)) (bdBody o sub cur rates rr)
      lineFinish o sub (afterBd o sub cur l s) cur rates rr) := by
  obtain ⟨q, it', bd, sm, ds, cs, tx, tt, sb⟩ := l
  simp only at hi hs
  subst hi hs
  cases bd with
  | nil => rfl
  | cons a b =>
    have hl : (0 : Int) < (a :: b).length := by simp
    unfold BillCalcSrc.calculateLine
    simp only [Option.isNone_some, Bool.false_eq_true, if_false, List.length_nil, Int.natCast_zero, Int.lt_irrefl, gt_iff_lt, hl, if_true]
    show _ = bind _ _
    congr 1
    funext s
    obtain ⟨np, hp, acc⟩ := s
    cases hp
    · simp only [afterBd, Bool.false_eq_true, if_false]
      unfold lineFinish
      rfl
    · simp only [afterBd,  if_true]
      unfold lineFinish
      rfl

/-! ### the loop over the breakdown, and the model's recursion -/

def bdStep (o : Ops) (sub : String → Nat) (cur : String) (rates : List XRate) (rr : String) (x : BillCalcSrc.SubLine × Nat) :
    Except GoErr BillCalcSrc.SubLine :=
  Except.mapError (fun err => GoErr.at "breakdown" (GoErr.at (toString (x.2 : Int)) err))
    (calculateSubLine o sub x.1 cur rates rr)

def bdUpd (o : Ops) (s : Amount × Bool × List BillCalcSrc.SubLine) (y : BillCalcSrc.SubLine) :
    Amount × Bool × List BillCalcSrc.SubLine :=
  match y.Total with
  | some t => (accum o s.1 t, true, s.2.2 ++ [y])
  | none => (s.1, s.2.1, s.2.2 ++ [y])

theorem bdBody_eq (o : Ops) (sub : String → Nat) (cur : String) (rates : List XRate) (rr : String)
    (x : BillCalcSrc.SubLine × Nat) (s : Amount × Bool × List BillCalcSrc.SubLine) :
    bdBody o sub cur rates rr x s = (bdStep o sub cur rates rr x).map fun y => .yield (bdUpd o s y) := by
  unfold bdBody
  change (bind (bdStep o sub cur rates rr x) _) = _
  cases bdStep o sub cur rates rr x with
  | error e => rfl
  | ok y => cases hy : y.Total <;> simp [bdUpd, hy, Except.map, bind, Except.bind, pure, Except.pure, matchPrecision_add]

theorem foldl_bdUpd (o : Ops) (ys : List BillCalcSrc.SubLine) (np : Amount) (hp : Bool) (acc : List BillCalcSrc.SubLine) :
    ys.foldl (bdUpd o) (np, hp, acc) =
      ((ys.filterMap (·.Total)).foldl (accum o) np, (hp || !(ys.filterMap (·.Total)).isEmpty), acc ++ ys) := by
  induction ys generalizing np hp acc with
  | nil => simp
  | cons y ys ih => cases hy : y.Total <;> simp [bdUpd, hy, ih]

/-! ### the finishing part against the model -/

/-- the part of `Calc.calcLine` after the breakdown, as `calcLine_eq` of Proofs/CalcBasics.lean has it: `it1` is the
    item (`lineItem`: replaced when the breakdown gave a price), `bd` the calculated breakdown -/
def modelFinish (o : Ops) (cur : String) (c : Nat) (rates : List XRate) (r : Rule) (l : Calc.Line) (it1 : Item)
    (bd : List Calc.SubLine) : Except CalcErr Calc.Line :=
  match it1.price with
  | none => .ok { l with item := some { it1 with alts := [] }, breakdown := bd, sum := none, total := none }
  | some p0 =>
    match itemPrice o cur c rates it1 p0 with
    | .error e => .error e
    | .ok it2 => .ok (lineOut o c r l bd it2 (it2.price.getD p0))

theorem lineFinish_eq (o : Ops) (sub : String → Nat) (l : BillCalcSrc.Line) (it : BillCalcSrc.Item) (cur : String)
    (rates : List XRate) (rr : String) (hr : RatesSub sub rates) (hi : l.Item = some it) (m : Calc.Line)
    (hq : m.qty = l.Quantity) (hd : m.discounts = l.Discounts.map toAdj) (hc : m.charges = l.Charges)
    (ht : m.taxes = l.Taxes) :
    toModel (toLine (toItem sub cur)) (lineFinish o sub l cur rates rr)
      = modelFinish o cur (sub cur) rates (ruleOf rr) m (toItem sub cur it)
          (l.Breakdown.map (toSubLine (toItem sub cur))) := by
  obtain ⟨q, it', bd, sm, ds, cs, tx, tt, sb⟩ := l
  obtain ⟨mq, mi, md, mc, mb, mt, ms, mtt⟩ := m
  simp only at hi hq hd hc ht
  subst hi hq hd hc ht
  unfold lineFinish modelFinish
  cases hp : it.Price with
  | none => simp [toModel_pure, toLine, toItem, hp]
  | some p0 =>
    have hi := (toModel_mapError _ (GoErr.at "item") (errOf_at "item") _).trans
      (calculateLineItemPrice_eq o sub it p0 hp cur rates hr)
    simp only [toItem, hp, Option.isNone_some, Bool.false_eq_true, if_false, some_get!]
    simp only [toItem, hp] at hi
    refine toModel_priced
      (lineOut o (sub cur) (ruleOf rr) ⟨mq, mi, ds.map toAdj, mc, mb, mt, ms, mtt⟩ (bd.map (toSubLine (toItem sub cur)))) hi
      fun t0 p hp' => ?_
    have hf := fun price => (tail_figures o sub ds mc mq price cur rr).symm
    rcases em (rr = "precise") with rfl | hpr
    · simp [toModel_pure, lineOut, hp', ruleOf_precise, E, hf, toLine, toItem]
    · simp [toModel_pure, lineOut, hpr, hp', ruleOf_precise, hf, toLine, toItem]

theorem filterMap_total_toSubLine (fI : BillCalcSrc.Item → Item) (ys : List BillCalcSrc.SubLine) :
    (ys.map (toSubLine fI)).filterMap (·.total) = ys.filterMap (·.Total) := by
  rw [List.filterMap_map]; rfl

/-- `calculateLine` = `Calc.calcLine`, for every line without substituted sub-lines (the model has none) -/
theorem calculateLine_eq (o : Ops) (sub : String → Nat) (l : BillCalcSrc.Line) (cur : String)
    (rates : List XRate) (rr : String) (hr : RatesSub sub rates) (hs : l.Substituted = []) :
    toModel (toLine (toItem sub cur)) (BillCalcSrc.calculateLine o sub l cur rates rr)
      = calcLine o cur (sub cur) rates (ruleOf rr) (toLine (toItem sub cur) l) := by
  cases hI : l.Item with
  | none =>
    obtain ⟨q, it', bd, sm, ds, cs, tx, tt, sb⟩ := l
    simp only at hI
    subst hI
    simp [BillCalcSrc.calculateLine, calcLine, toModel_pure, toLine]
  | some it =>
    have hmi : (toLine (toItem sub cur) l).item = some (toItem sub cur it) := by simp [toLine, hI]
    have hsl : toModel (List.map (toSubLine (toItem sub cur))) (mapE (bdStep o sub cur rates rr) l.Breakdown.zipIdx) = _ :=
      mapE_model (fun sl => BillCalcSrc.calculateSubLine o sub sl cur rates rr)
        (calcSubLine o cur (sub cur) rates (ruleOf rr)) (toSubLine (toItem sub cur)) (toSubLine (toItem sub cur))
        (fun i err => GoErr.at "breakdown" (GoErr.at (toString (i : Int)) err)) (fun _ _ => rfl)
        l.Breakdown (fun sl _ => calculateSubLine_eq o sub sl cur rates rr hr) 0
    have hbm : (toLine (toItem sub cur) l).breakdown = l.Breakdown.map (toSubLine (toItem sub cur)) := rfl
    rw [calcLine_eq, hmi]
    dsimp only
    rw [calcSubLines_eq, ← mapE_eq_mapOk, hbm, ← hsl, calculateLine_shape o sub l it cur rates rr hI hs,
      forIn_except_foldl (bdStep o sub cur rates rr) (bdUpd o) _ (bdBody_eq o sub cur rates rr)]
    change toModel _ (bind (Except.map _ (mapE (bdStep o sub cur rates rr) l.Breakdown.zipIdx)) _) = _
    cases hys : mapE (bdStep o sub cur rates rr) l.Breakdown.zipIdx with
    | error e => rfl
    | ok ys =>
      simp only [foldl_bdUpd, Except.map, bind, Except.bind, toModel_ok, Bool.false_or, List.nil_append]
      -- what follows the match on `calcSubLines` in `calcLine_eq` is `modelFinish` at the item `lineItem` gives
      change _ = modelFinish o cur (sub cur) rates (ruleOf rr) (toLine (toItem sub cur) l)
        (lineItem o cur (sub cur) (toLine (toItem sub cur) l) (ys.map (toSubLine (toItem sub cur))) (toItem sub cur it)) _
      rw [lineItem, filterMap_total_toSubLine]
      cases ht : (ys.filterMap (·.Total)).isEmpty with
      | true =>
        simp only [afterBd, Bool.not_true, Bool.false_eq_true, if_false, if_true, Bool.or_true]
        rw [lineFinish_eq o sub { l with Breakdown := ys } it cur rates rr hr hI (toLine (toItem sub cur) l) rfl rfl rfl rfl]
      | false =>
        -- a sub-line with a total: the breakdown is not empty
        have hbe : (toLine (toItem sub cur) l).breakdown.isEmpty = false := by
          cases hbb : l.Breakdown with
          | nil => rw [hbb] at hys; cases hys; simp at ht
          | cons a b => rw [hbm, hbb]; rfl
        simp only [afterBd, Bool.not_false, if_true, Bool.false_eq_true, if_false, hbe, Bool.or_false]
        rw [lineFinish_eq o sub { l with Breakdown := ys, Item := some ⟨cur, some _, []⟩ } ⟨cur, some _, []⟩
            cur rates rr hr rfl (toLine (toItem sub cur) l) rfl rfl rfl rfl,
          determineSubLinePrecision_eq o sub (toItem sub cur) (fun _ => rfl)]
        simp [toItem]

end GoblVerif.Proofs.BillCalcSrc
