/-
  Order independence of the accumulations: the sums (`foldl_accum_perm`, `optSum_perm`) and the tax groups.
  The invariant of the accumulation says what the groups of a category are in terms of the contributions
  alone, so reordering the rows permutes them (`basesOf_perm`) and a key has one base (`basesOf_functional`);
  every shown figure of a group, and what it adds to its category, is a function of its key and base
  (`groupView_rateAmounts`, `taxedAmount_rateAmounts`).
-/
import GoblVerif.Proofs.CalcGroups
import Mathlib.Data.List.Perm.Basic

namespace GoblVerif.Calc
open GoblVerif.Spec.C02

theorem accum_right_comm (z x y : Amount) :
    accum exactOps (accum exactOps z x) y = accum exactOps (accum exactOps z y) x := by
  apply amount_eq_of_toRat
  · simp only [accum_exp]; omega
  · simp only [accum_toRat]; ring

instance : RightCommutative (accum exactOps) := ⟨accum_right_comm⟩

theorem foldl_accum_perm (xs ys : List Amount) (h : xs.Perm ys) (z : Amount) :
    xs.foldl (accum exactOps) z = ys.foldl (accum exactOps) z :=
  h.foldl_eq z

theorem optSum_perm (c : ℕ) {xs ys : List Amount} (h : xs.Perm ys) : optSum exactOps c xs = optSum exactOps c ys := by
  unfold optSum
  rw [show xs.isEmpty = ys.isEmpty by cases xs <;> cases ys <;> simp_all, foldl_accum_perm xs ys h]

def findGroup (cat : String) (k : Key) (cats : List CatTotal) : Option RateTotal :=
  (cats.find? (fun ct => ct.code == cat)).bind (fun ct => ct.rates.find? (fun rt => rtKey rt = k))

/-- base, amount and surcharge amount of a group (an exempt group has no surcharge amount: matching
ignores the surcharge of exempt combos, and the regimes never give them one) -/
def groupView (rt : RateTotal) : Amount × Amount × Option Amount :=
  (rt.base, rt.amount, match rt.percent with | some _ => rt.surcharge.map (·.2) | none => none)

/-- the amount of category `cat` as a rational (0 when the summary has no such category).  `Spec.C02.catAmountQ`,
in scope here as well, is another thing: what the specification computes for a category from the contributions. -/
def catAmountQ (cat : String) (cats : List CatTotal) : ℚ :=
  ((cats.find? (fun ct => ct.code == cat)).map (fun ct => ct.amount.toRat)).getD 0

/-- the groups of the (first) category with code `cat` -/
def catGroups (cat : String) (cats : List CatTotal) : List RateTotal :=
  ((cats.find? (fun ct => ct.code == cat)).map (·.rates)).getD []

/-- key and base of the groups of a category: what the accumulation determines, up to the order of the rows -/
def basesOf (cat : String) (cats : List CatTotal) : List (Key × Amount) :=
  (catGroups cat cats).map fun rt => (rtKey rt, rt.base)

theorem findGroup_eq (cat : String) (k : Key) (cats : List CatTotal) :
    findGroup cat k cats = (catGroups cat cats).find? (fun rt => rtKey rt = k) := by
  unfold findGroup catGroups
  cases cats.find? (fun ct => ct.code == cat) <;> rfl

theorem catGroups_cases (cat : String) (cats : List CatTotal) :
    ((∀ ct ∈ cats, ct.code ≠ cat) ∧ catGroups cat cats = []) ∨
      ∃ ct ∈ cats, ct.code = cat ∧ catGroups cat cats = ct.rates := by
  unfold catGroups
  cases hf : cats.find? (fun ct => ct.code == cat) with
  | none => exact .inl ⟨fun ct hct => by simpa using List.find?_eq_none.mp hf ct hct, rfl⟩
  | some ct => exact .inr ⟨ct, List.mem_of_find?_eq_some hf, by simpa using List.find?_some hf, rfl⟩

theorem find?_code_catAmounts (r : Rule) (c : ℕ) (cat : String) (cats : List CatTotal) :
    (cats.map (catAmounts exactOps r c)).find? (fun ct => ct.code == cat) =
      (cats.find? (fun ct => ct.code == cat)).map (catAmounts exactOps r c) := by
  rw [List.find?_map]; rfl

theorem catGroups_catAmounts (r : Rule) (c : ℕ) (cat : String) (cats : List CatTotal) :
    catGroups cat (cats.map (catAmounts exactOps r c)) = (catGroups cat cats).map (rateAmounts exactOps · c) := by
  unfold catGroups
  rw [find?_code_catAmounts]
  cases cats.find? (fun ct => ct.code == cat) <;> rfl

theorem mem_basesOf {r : Rule} {c : ℕ} {ws : List Contribution} {cats : List CatTotal} (h : SummaryInv r c ws cats)
    (cat : String) (k : Key) (b : Amount) :
    (k, b) ∈ basesOf cat cats ↔
      groupOf ws cat k ≠ [] ∧ b.toRat = baseQ (groupOf ws cat k) ∧ b.exp = workExp c (groupOf ws cat k) := by
  unfold basesOf
  rcases catGroups_cases cat cats with ⟨hno, hg⟩ | ⟨ct, hct, rfl, hg⟩ <;> rw [hg]
  · have : groupOf ws cat k = [] := groupOf_nil_of_absent ws cat k fun w hw hwc => by
      obtain ⟨ct, hct, hcc⟩ := List.mem_map.mp (h.covered w hw)
      exact absurd (hcc.trans hwc) (hno ct hct)
    simp [this]
  · obtain ⟨_, h2, h3, h4⟩ := h.each ct hct
    simp only [List.mem_map, Prod.mk.injEq]
    constructor
    · rintro ⟨rt, hrt, rfl, rfl⟩
      exact ⟨h4 rt hrt, (h2 rt hrt).value, (h2 rt hrt).exp⟩
    · rintro ⟨hne, hq, he⟩
      obtain ⟨w, hw⟩ := List.exists_mem_of_ne_nil _ hne
      obtain ⟨x, hx, rfl⟩ := List.mem_map.mp hw
      obtain ⟨hxc, hxk⟩ : x.cat = ct.code ∧ x.key = k := by simpa using (List.mem_filter.mp hx).2
      obtain ⟨rt, hrt, hrk⟩ := List.mem_map.mp (h3 x (List.mem_filter.mp hx).1 hxc)
      have hk : rtKey rt = k := hrk.trans hxk
      refine ⟨rt, hrt, hk, amount_eq_of_toRat _ _ ?_ ?_⟩
      · rw [(h2 rt hrt).exp, he, ← hk]; rfl
      · rw [(h2 rt hrt).value, hq, ← hk]; rfl

theorem basesOf_functional {r : Rule} {c : ℕ} {ws : List Contribution} {cats : List CatTotal} (h : SummaryInv r c ws cats)
    {cat : String} {k : Key} {b b' : Amount} (hb : (k, b) ∈ basesOf cat cats) (hb' : (k, b') ∈ basesOf cat cats) :
    b = b' := by
  obtain ⟨-, q, e⟩ := (mem_basesOf h cat k b).mp hb
  obtain ⟨-, q', e'⟩ := (mem_basesOf h cat k b').mp hb'
  exact amount_eq_of_toRat _ _ (e.trans e'.symm) (q.trans q'.symm)

theorem nodup_basesOf {r : Rule} {c : ℕ} {ws : List Contribution} {cats : List CatTotal} (h : SummaryInv r c ws cats)
    (cat : String) : (basesOf cat cats).Nodup := by
  unfold basesOf
  rcases catGroups_cases cat cats with ⟨-, hg⟩ | ⟨ct, hct, -, hg⟩ <;> rw [hg]
  · exact List.nodup_nil
  · refine (List.pairwise_map.mp (h.each ct hct).keys).imp ?_ |> List.pairwise_map.mpr
    exact fun hab e => hab (congrArg Prod.fst e)

instance : RightCommutative (fun (e : ℕ) (a : Amount) => max e a.exp) := ⟨fun e a b => by omega⟩

theorem basesOf_perm (r : Rule) (c : ℕ) (cat : String) (rows rows' : List Row) (h : rows.Perm rows') :
    (basesOf cat (baseRateTotals exactOps r c rows)).Perm (basesOf cat (baseRateTotals exactOps r c rows')) := by
  have I := baseRateTotals_summaryInv r c rows
  have I' := baseRateTotals_summaryInv r c rows'
  rw [List.perm_ext_iff_of_nodup (nodup_basesOf I cat) (nodup_basesOf I' cat)]
  rintro ⟨k, b⟩
  have hg : (groupOf (contribsOf r c rows) cat k).Perm (groupOf (contribsOf r c rows') cat k) :=
    (((h.flatMap_right _).map _).filter _).map _
  rw [mem_basesOf I, mem_basesOf I', show baseQ _ = baseQ _ from (hg.map _).sum_eq,
    show workExp c _ = workExp c _ from hg.foldl_eq c]
  exact and_congr_left' (not_congr ⟨fun e => (e ▸ hg).symm.eq_nil, fun e => (e ▸ hg).eq_nil⟩)

theorem findGroup_some {cat : String} {k : Key} {cats : List CatTotal} {rt : RateTotal}
    (h : findGroup cat k cats = some rt) : rtKey rt = k ∧ (k, rt.base) ∈ basesOf cat cats := by
  rw [findGroup_eq] at h
  have hk : rtKey rt = k := by simpa using List.find?_some h
  exact ⟨hk, List.mem_map.mpr ⟨rt, List.mem_of_find?_eq_some h, by rw [hk]⟩⟩

theorem findGroup_none {cat : String} {k : Key} {cats : List CatTotal}
    (h : findGroup cat k cats = none) (b : Amount) : (k, b) ∉ basesOf cat cats := by
  rw [findGroup_eq] at h
  rintro hm
  obtain ⟨rt, hrt, e⟩ := List.mem_map.mp hm
  simpa [(Prod.mk.inj e).1] using List.find?_eq_none.mp h rt hrt

theorem findGroup_catAmounts (r : Rule) (c : ℕ) (cat : String) (k : Key) (cats : List CatTotal) :
    findGroup cat k (cats.map (catAmounts exactOps r c)) =
      (findGroup cat k cats).map (rateAmounts exactOps · c) := by
  rw [findGroup_eq, findGroup_eq, catGroups_catAmounts, List.find?_map]
  refine congrArg (Option.map _) (congrArg (List.find? · _) (funext fun rt => ?_))
  rw [Function.comp_apply, rateAmounts_key]

/-- the figures a group with key `x.1` and base `x.2` shows -/
def viewOf (c : ℕ) (x : Key × Amount) : Amount × Amount × Option Amount :=
  match x.1.2.2 with
  | none => (x.2, ⟨0, c⟩, none)
  | some (p, s) => (x.2, rnd x.2.exp (x.2.toRat * p), s.map fun sp => rnd x.2.exp (x.2.toRat * sp))

theorem groupView_rateAmounts (rt : RateTotal) (c : ℕ) :
    groupView (rateAmounts exactOps rt c) = viewOf c (rtKey rt, rt.base) := by
  unfold groupView rateAmounts viewOf rtKey
  cases rt.percent with
  | none => rfl
  | some p => cases rt.surcharge <;> simp [pctOf_rnd]

/-- what a group with key `k` and base `b` adds to its category -/
def taxedOfBase (r : Rule) (c : ℕ) (x : Key × Amount) : ℚ :=
  match x.1.2.2 with
  | none => 0
  | some _ => contrib r c (viewOf c x).2.1

theorem taxedAmount_rateAmounts (r : Rule) (c : ℕ) (rt : RateTotal) :
    taxedAmount r c (rateAmounts exactOps rt c) = taxedOfBase r c (rtKey rt, rt.base) := by
  unfold taxedAmount taxedOfBase
  rw [← groupView_rateAmounts]
  unfold rateAmounts rtKey groupView
  cases rt.percent <;> rfl

theorem catAmountQ_eq (r : Rule) (c : ℕ) (cat : String) (cats : List CatTotal) :
    catAmountQ cat (cats.map (catAmounts exactOps r c)) = ((basesOf cat cats).map (taxedOfBase r c)).sum := by
  unfold catAmountQ basesOf catGroups
  rw [find?_code_catAmounts]
  cases cats.find? (fun ct => ct.code == cat) with
  | none => simp
  | some ct =>
    simp only [Option.map_some, Option.getD_some]
    rw [catAmounts_amount, show (catAmounts exactOps r c ct).rates = ct.rates.map (rateAmounts exactOps · c) from rfl,
      List.map_map, List.map_map]
    exact congrArg List.sum (List.map_congr_left fun rt _ => taxedAmount_rateAmounts r c rt)

end GoblVerif.Calc
