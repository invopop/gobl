/-
  Helper lemmas for C08: when `Validate`, `digest` and `calculate` of Model/Digest.lean answer what, and
  the edits named by the property (a value altered, a member added or removed, array elements reordered —
  Model/JsonEdit.lean) on the list views of objects (`_K`) and arrays (`_L`).

  The view used throughout: `norm (.obj kvs)` is the stable sort of `nmems`, the list of what `norm` keeps of
  each member (nothing of a null member, the name and the content of the value otherwise); `norm (.arr xs)`
  is the list of the contents of the elements, in order.  The `wf_…` lemmas carry the side condition of C07's
  injectivity, well-formed float digits, through the edits.
-/
import GoblVerif.Model.JsonEdit
import GoblVerif.Model.Digest
import GoblVerif.Proofs.C14nNorm

namespace GoblVerif.Proofs.DigestEdits
open GoblVerif GoblVerif.Spec.C07 GoblVerif.Edit GoblVerif.Proofs.C14n GoblVerif.C14n GoblVerif.Digest

/-! ## the verdicts of `Validate` -/

theorem digest_eq_some (h : Hash) (d : J) (x : Dig) :
    digest h d = some x ↔ ∃ b, canon d = some b ∧ sha256Digest h b = x := by
  simp [digest]

theorem equals_iff (d1 d2 : Dig) : d1.equals d2 = true ↔ d1 = d2 := by
  cases d1; cases d2; simp [Dig.equals]

theorem validate_ok_iff (h : Hash) (docValid : J → Bool) (e : Env) :
    validate h docValid e = .ok ↔ docValid e.doc = true ∧ ∃ dg, e.dig = some dg ∧ digest h e.doc = some dg := by
  unfold validate verifyDigest
  cases e.dig <;> cases docValid e.doc <;> cases digest h e.doc <;> simp [equals_iff]
  exact eq_comm

theorem validate_digest_iff (h : Hash) (docValid : J → Bool) (e : Env) :
    validate h docValid e = .digest ↔
      docValid e.doc = true ∧ ∃ d1 d2, e.dig = some d1 ∧ digest h e.doc = some d2 ∧ d1 ≠ d2 := by
  unfold validate verifyDigest
  cases e.dig <;> cases docValid e.doc <;> cases digest h e.doc <;> simp [equals_iff]

theorem calculate_eq_some (h : Hash) (docCalc : J → Option J) (e0 e : Env) :
    calculate h docCalc e0 = some e ↔
      ∃ d dg, docCalc e0.doc = some d ∧ digest h d = some dg ∧ e = { dig := some dg, doc := d } := by
  unfold calculate
  cases docCalc e0.doc with
  | none => simp
  | some d => cases hd : digest h d <;> simp [hd, eq_comm (a := e)]

/-! ## what `norm` keeps of the members of an object -/

/-- two objects whose member lists differ in at most one place, where each has
    one member or none: they have the same content iff the same is kept there -/
theorem norm_obj_mid_iff (k1 k2 : KL) (a b : List (Str × J)) (x y : Option (Str × J))
    (h1 : k1.toList = a ++ (x.toList ++ b)) (h2 : k2.toList = a ++ (y.toList ++ b)) :
    norm (.obj k1) = norm (.obj k2) ↔ x.bind nmem = y.bind nmem := by
  have e (z : Option (Str × J)) : nmems z.toList = (z.bind nmem).toList := by
    cases z with
    | none => rfl
    | some v => rw [Option.toList_some, nmems_cons]; simp [nmems]
  refine ⟨fun h => ?_, fun h => (norm_obj_eq k1 k2).mpr ?_⟩
  · have p := norm_obj_perm _ _ h
    rw [h1, h2, nmems_append, nmems_append, nmems_append, nmems_append, List.perm_append_left_iff,
      List.perm_append_right_iff, e, e] at p
    -- lists of at most one element
    cases hx : x.bind nmem <;> cases hy : y.bind nmem <;> simp_all
  · rw [h1, h2, nmems_append, nmems_append, nmems_append, nmems_append, e, e, h]

/-! ## addressing a member -/

theorem get?_split_K (k : Str) : ∀ (kvs : KL) (w : J), KL.get? k kvs = some w →
    ∃ a b, kvs.toList = a ++ (k, w) :: b ∧ (∀ q ∈ a, q.1 ≠ k) ∧
      (∀ w', (KL.set k w' kvs).toList = a ++ (k, w') :: b) ∧ (KL.erase k kvs).toList = a ++ b
  | .nil, w, h => by simp [KL.get?] at h
  | .cons k' v r, w, h => by
    by_cases hk : k' = k
    · subst hk
      cases (by simpa [KL.get?] using h : v = w)
      exact ⟨[], r.toList, by simp [KL.toList], by simp, by simp [KL.set, KL.toList], by simp [KL.erase]⟩
    · simp only [KL.get?, hk, if_false] at h
      obtain ⟨a, b, h1, h2, h3, h4⟩ := get?_split_K k r w h
      exact ⟨(k', v) :: a, b, by simp [KL.toList, h1], by simpa [hk] using h2,
        by simp [KL.set, hk, KL.toList, h3], by simp [KL.erase, hk, KL.toList, h4]⟩

theorem toList_insertAt_K : ∀ (n : Nat) (k : Str) (v : J) (kvs : KL),
    (KL.insertAt n k v kvs).toList = kvs.toList.take n ++ (k, v) :: kvs.toList.drop n
  | 0, k, v, kvs => by simp [KL.insertAt, KL.toList]
  | n + 1, k, v, .nil => by simp [KL.insertAt, KL.toList]
  | n + 1, k, v, .cons k' v' r => by simp [KL.insertAt, KL.toList, toList_insertAt_K n k v r]

/-! ## arrays are ordered -/

theorem get?_toList_L : ∀ (i : Nat) (xs : JL), JL.get? i xs = xs.toList[i]?
  | _, .nil => by simp [JL.get?, JL.toList]
  | 0, .cons x xs => by simp [JL.get?, JL.toList]
  | i + 1, .cons x xs => by simp [JL.get?, JL.toList, get?_toList_L i xs]

theorem toList_set_L : ∀ (i : Nat) (v : J) (xs : JL), (JL.set i v xs).toList = xs.toList.set i v
  | _, _, .nil => by simp [JL.set, JL.toList]
  | 0, v, .cons x xs => by simp [JL.set, JL.toList]
  | i + 1, v, .cons x xs => by simp [JL.set, JL.toList, toList_set_L i v xs]

theorem norm_arr_position (xs ys : JL) (i : Nat) (a b : J) (h : norm (.arr xs) = norm (.arr ys))
    (hx : JL.get? i xs = some a) (hy : JL.get? i ys = some b) : norm a = norm b := by
  rw [get?_toList_L] at hx hy
  have e := congrArg (·[i]?) ((norm_arr_eq xs ys).mp h)
  simpa [hx, hy] using e

theorem norm_arr_set_iff (i : Nat) (xs : JL) (w w' : J) (hg : JL.get? i xs = some w) :
    norm (.arr (JL.set i w' xs)) = norm (.arr xs) ↔ norm w' = norm w := by
  refine ⟨fun h => norm_arr_position _ _ i w' w h ?_ hg, fun h => ?_⟩
  · rw [get?_toList_L] at hg ⊢
    simp [toList_set_L, (List.getElem?_eq_some_iff.mp hg).1]
  · rw [get?_toList_L] at hg
    obtain ⟨hi, rfl⟩ := List.getElem?_eq_some_iff.mp hg
    rw [norm_arr_eq, toList_set_L, List.map_set, h]
    have := List.set_getElem_self (as := xs.toList.map norm) (i := i) (by simpa using hi)
    rwa [List.getElem_map] at this

theorem norm_arr_length (xs ys : JL) (h : norm (.arr xs) = norm (.arr ys)) :
    xs.toList.length = ys.toList.length := by
  simpa using congrArg List.length ((norm_arr_eq xs ys).mp h)

/-! ## paths -/

theorem get?_key (k : Str) (p : Path) (d v : J) : J.get? (.key k :: p) d = some v ↔
    ∃ kvs w, d = .obj kvs ∧ KL.get? k kvs = some w ∧ J.get? p w = some v := by
  cases d with
  | obj kvs => cases h : KL.get? k kvs <;> simp [J.get?, h]
  | _ => simp [J.get?]

theorem get?_idx (i : Nat) (p : Path) (d v : J) : J.get? (.idx i :: p) d = some v ↔
    ∃ xs w, d = .arr xs ∧ JL.get? i xs = some w ∧ J.get? p w = some v := by
  cases d with
  | arr xs => cases h : JL.get? i xs <;> simp [J.get?, h]
  | _ => simp [J.get?]

/-! ## a member under a name used once -/

theorem filter_key_once (k : Str) (kvs : KL) (w : J) (hg : KL.get? k kvs = some w)
    (h1 : (kvs.toList.filter (fun q => q.1 = k)).length = 1) : kvs.toList.filter (fun q => q.1 = k) = [(k, w)] := by
  obtain ⟨a, b, e, ha, _, _⟩ := get?_split_K k kvs w hg
  have fa : a.filter (fun q => q.1 = k) = [] := List.filter_eq_nil_iff.mpr fun q hq => by simpa using ha q hq
  rw [e, List.filter_append, fa, List.nil_append, List.filter_cons] at h1 ⊢
  simp only [decide_true, if_true, List.length_cons] at h1 ⊢
  have fb : b.filter (fun q => q.1 = k) = [] := List.eq_nil_of_length_eq_zero (by omega)
  rw [fb]

theorem obj_member_content (k : Str) (a b : KL) (w1 w2 : J) (h : norm (.obj a) = norm (.obj b))
    (ha : (a.toList.filter (fun q => q.1 = k)).length = 1)
    (hb : (b.toList.filter (fun q => q.1 = k)).length = 1)
    (g1 : KL.get? k a = some w1) (g2 : KL.get? k b = some w2) : norm w1 = norm w2 := by
  -- what is kept under the name `k` on either side
  have p := (norm_obj_perm a b h).filter (fun q => q.1 = k)
  rw [filter_nmems, filter_nmems, filter_key_once k a w1 g1 ha, filter_key_once k b w2 g2 hb] at p
  cases h1 : nmem (k, w1) <;> cases h2 : nmem (k, w2) <;> simp [nmems, h1, h2] at p
  · rw [(isNull_iff w1).mp ((nmem_none_iff _).mp h1), (isNull_iff w2).mp ((nmem_none_iff _).mp h2)]
  · exact (nmem_eq_iff k w2 w1).mp (by rw [h1, h2, p])

/-! ## well-formed float digits are kept by every edit -/

theorem wf_get?_K (k : Str) (kvs : KL) (w : J) (h : KL.get? k kvs = some w) (hw : kvs.wf = true) : w.wf = true := by
  obtain ⟨a, b, e, _⟩ := get?_split_K k kvs w h
  exact (wfK_iff kvs).mp hw (k, w) (by simp [e])

theorem wf_set_K (k : Str) (kvs : KL) (w w' : J) (h : KL.get? k kvs = some w) (h' : w'.wf = true)
    (hw : kvs.wf = true) : (KL.set k w' kvs).wf = true := by
  obtain ⟨a, b, e, _, e', _⟩ := get?_split_K k kvs w h
  simp only [wfK_iff, e, e', List.forall_mem_append, List.forall_mem_cons] at hw ⊢
  exact ⟨hw.1, h', hw.2.2⟩

theorem wf_erase (k : Str) (kvs : KL) (w : J) (h : KL.get? k kvs = some w) (hw : kvs.wf = true) :
    (KL.erase k kvs).wf = true := by
  obtain ⟨a, b, e, _, _, e'⟩ := get?_split_K k kvs w h
  simp only [wfK_iff, e, e', List.forall_mem_append, List.forall_mem_cons] at hw ⊢
  exact ⟨hw.1, hw.2.2⟩

theorem wf_insertAt (k : Str) (v : J) (hv : v.wf = true) (n : Nat) (kvs : KL) (hw : kvs.wf = true) :
    (KL.insertAt n k v kvs).wf = true := by
  rw [wfK_iff, ← List.take_append_drop n kvs.toList] at hw
  simp only [wfK_iff, toList_insertAt_K, List.forall_mem_append, List.forall_mem_cons] at hw ⊢
  exact ⟨hw.1, hv, hw.2⟩

theorem wf_get?_L (i : Nat) (xs : JL) (w : J) (h : JL.get? i xs = some w) (hw : xs.wf = true) : w.wf = true := by
  rw [get?_toList_L] at h
  rw [wfL_all, List.all_eq_true] at hw
  exact hw w (List.mem_of_getElem? h)

theorem wf_set_L (w' : J) (h' : w'.wf = true) (i : Nat) (xs : JL) (hw : xs.wf = true) : (JL.set i w' xs).wf = true := by
  rw [wfL_all, List.all_eq_true] at hw ⊢
  intro x hx
  rw [toList_set_L] at hx
  exact (List.mem_or_eq_of_mem_set hx).elim (hw x) fun e => e ▸ h'

theorem wf_swap (i j : Nat) (xs : JL) (hw : xs.wf = true) : (JL.swap i j xs).wf = true := by
  unfold JL.swap
  split
  · rename_i a b hi hj
    exact wf_set_L a (wf_get?_L i xs a hi hw) j _ (wf_set_L b (wf_get?_L j xs b hj hw) i xs hw)
  · exact hw

theorem wf_get? (p : Path) (d v : J) (h : J.get? p d = some v) (hw : d.wf = true) : v.wf = true := by
  induction p generalizing d with
  | nil => cases h; exact hw
  | cons s p ih =>
    cases s with
    | key k =>
      obtain ⟨kvs, w, rfl, hk, hp⟩ := (get?_key k p d v).mp h
      exact ih w hp (wf_get?_K k kvs w hk hw)
    | idx i =>
      obtain ⟨xs, w, rfl, hk, hp⟩ := (get?_idx i p d v).mp h
      exact ih w hp (wf_get?_L i xs w hk hw)

theorem wf_set (v' : J) (h' : v'.wf = true) (p : Path) (d : J) (hw : d.wf = true) : (J.set p v' d).wf = true := by
  induction p generalizing d with
  | nil => exact h'
  | cons s p ih =>
    -- a step that does not exist leaves the document as it is
    cases s <;> cases d <;> try exact hw
    · rename_i k kvs
      simp only [J.set]
      split
      · rename_i w hk
        exact wf_set_K k kvs w _ hk (ih w (wf_get?_K k kvs w hk hw)) hw
      · exact hw
    · rename_i i xs
      simp only [J.set]
      split
      · rename_i w hk
        exact wf_set_L _ (ih w (wf_get?_L i xs w hk hw)) i xs hw
      · exact hw

/-! ## `J.beq` is equality (the oracle of Spec/C08 compares contents with it) -/

mutual
theorem J_beq_iff : ∀ a b : J, J.beq a b = true ↔ a = b
  | .atom a, .atom b => by simp [J.beq]
  | .arr xs, .arr ys => by simp [J.beq, JL_beq_iff xs ys]
  | .obj xs, .obj ys => by simp [J.beq, KL_beq_iff xs ys]
  | .atom _, .arr _ | .atom _, .obj _ | .arr _, .atom _ | .arr _, .obj _ | .obj _, .atom _ | .obj _, .arr _ => by
    simp [J.beq]
theorem JL_beq_iff : ∀ a b : JL, JL.beq a b = true ↔ a = b
  | .nil, .nil => by simp [JL.beq]
  | .cons x xs, .cons y ys => by simp [JL.beq, J_beq_iff x y, JL_beq_iff xs ys]
  | .nil, .cons _ _ | .cons _ _, .nil => by simp [JL.beq]
theorem KL_beq_iff : ∀ a b : KL, KL.beq a b = true ↔ a = b
  | .nil, .nil => by simp [KL.beq]
  | .cons k v r, .cons k' v' r' => by simp [KL.beq, J_beq_iff v v', KL_beq_iff r r', and_assoc]
  | .nil, .cons _ _ _ | .cons _ _ _, .nil => by simp [KL.beq]
end

/-- decided by evaluating `J.beq` -/
instance : DecidableEq J := fun a b => decidable_of_iff _ (J_beq_iff a b)

end GoblVerif.Proofs.DigestEdits
