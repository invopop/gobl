/-
  Fixpoint of calculate ∘ present ∘ re-read.  A calculated line is reproduced
  when its presented (rounded) form is calculated again, provided no fixed
  discount/charge amount is finer than the line is presented with.  The
  complement is one in-place rounding seen two ways: the next calculation
  differs (known finding `fixed-amount-finer-than-presented`,
  `Props.C04.fixed_amount_finer_than_price_is_not_a_fixpoint`), and so does
  `Invert`, which recalculates (`invert-after-in-place-rounding`).
-/
import GoblVerif.Proofs.CalcBasics

namespace GoblVerif.Calc

/-- the amount is recomputed from a non-zero percentage, whatever is stored -/
abbrev Recomputed (percent : Option Pct) : Prop := ∃ p, percent = some p ∧ pctIsZero p = false

theorem adjPct_fixed (r : Rule) (c : ℕ) (sum : Amount) {d : LineAdj} (h : ¬ Recomputed d.percent) :
    adjPct exactOps r c sum d = d := by
  unfold adjPct
  cases hp : d.percent with
  | none => rfl
  | some p => simp [show pctIsZero p = true by simpa [hp] using h]

theorem docAdj_fixed (r : Rule) (c : ℕ) (sum : Amount) {x : DocAdj} (h : ¬ Recomputed x.percent) :
    docAdj exactOps r c sum x = { x with amount := applyRule exactOps r c x.amount } := by
  unfold docAdj
  cases hp : x.percent with
  | none => simp [hp]
  | some p => simp [hp, show pctIsZero p = true by simpa [hp] using h]

/-- a discount whose stored amount survives presentation at `e` decimals: it is recomputed from a
percentage, or its fixed amount has at most `e` decimals -/
def DiscountStable (e : ℕ) (d : LineAdj) : Prop :=
  (∃ p, d.percent = some p ∧ pctIsZero p = false) ∨ d.amount.exp ≤ e

/-- a charge is also recomputed when it has a rate -/
def ChargeStable (e : ℕ) (d : LineAdj) : Prop :=
  (∃ p, d.percent = some p ∧ pctIsZero p = false) ∨ d.rate.isSome ∨ d.amount.exp ≤ e

theorem DiscountStable.mono {e e' : ℕ} {d : LineAdj} (h : DiscountStable e d) (he : e ≤ e') : DiscountStable e' d :=
  h.imp_right fun h => Nat.le_trans h he

theorem ChargeStable.mono {e e' : ℕ} {d : LineAdj} (h : ChargeStable e d) (he : e ≤ e') : ChargeStable e' d :=
  h.imp_right (Or.imp_right fun h => Nat.le_trans h he)

theorem discountRow_round (r : Rule) (c e : ℕ) (sum : Amount) (d : LineAdj) (hce : c ≤ e) (hs : DiscountStable e d) :
    discountRow exactOps r c sum (roundAdj exactOps e (discountRow exactOps r c sum d)) = discountRow exactOps r c sum d := by
  unfold discountRow
  by_cases hp : Recomputed d.percent
  · obtain ⟨p, hp, hz⟩ := hp
    cases hb : d.base <;> simp [adjPct, adjUp, roundAdj, hp, hz, hb, up_up]
  · -- a fixed amount: not finer than `e`, so presenting it changes nothing
    rw [adjPct_fixed r c sum hp, adjPct_fixed r c sum (d := roundAdj exactOps e (adjUp c d)) hp]
    simp only [adjUp, roundAdj]
    rw [down_self _ e (by rw [up_exp]; have := hs.resolve_left hp; omega), up_up]

theorem chargeRow_round (r : Rule) (c e : ℕ) (qty sum : Amount) (d : LineAdj) (hce : c ≤ e) (hs : ChargeStable e d) :
    chargeRow exactOps r c qty sum (roundAdj exactOps e (chargeRow exactOps r c qty sum d)) =
      chargeRow exactOps r c qty sum d := by
  unfold chargeRow
  cases hr : d.rate with
  | some rt =>
    -- the amount is recomputed from rate × quantity whatever was stored
    rcases d with ⟨_ | p, b, _, _, _⟩ <;> simp only at hr <;> subst hr
    · simp [adjPct, adjUp, roundAdj, adjRate]
    · by_cases hz : pctIsZero p = true <;> cases b <;> simp [adjPct, adjUp, roundAdj, adjRate, hz, up_up]
  | none =>
    -- without a rate a charge row is calculated like a discount row
    have hcd : ∀ x : LineAdj, x.rate = none →
        adjUp c (adjRate exactOps qty (adjPct exactOps r c sum x)) = adjUp c (adjPct exactOps r c sum x) :=
      fun x hx => by simp [adjRate, (adjPct_rate r c sum x).trans hx]
    rw [hcd d hr]
    refine (hcd _ ?_).trans (discountRow_round r c e sum d hce (hs.imp_right fun h => h.resolve_left (by simp [hr])))
    exact (adjPct_rate r c sum d).trans hr

theorem figures_round (r : Rule) (c e : ℕ) (qty price : Amount) (ds cs : List LineAdj) (hce : c ≤ e)
    (hd : ∀ d ∈ ds, DiscountStable e d) (hc : ∀ d ∈ cs, ChargeStable e d) :
    figures exactOps c r qty price ((figures exactOps c r qty price ds cs).discounts.map (roundAdj exactOps e))
        ((figures exactOps c r qty price ds cs).charges.map (roundAdj exactOps e)) =
      figures exactOps c r qty price ds cs := by
  have hmap (step : LineAdj → LineAdj) (xs : List LineAdj) (h : ∀ d ∈ xs, step (roundAdj exactOps e (step d)) = step d) :
      ((xs.map step).map (roundAdj exactOps e)).map step = xs.map step := by
    simp only [List.map_map]
    exact List.map_congr_left h
  simp only [figures_eq]
  rw [hmap _ ds fun d h => discountRow_round r c e _ d hce (hd d h),
    hmap _ cs fun d h => chargeRow_round r c e qty _ d hce (hc d h)]

theorem step_idem (c : ℕ) (step : LineAdj → LineAdj)
    (h : ∀ e d, c ≤ e → d.amount.exp ≤ e → step (roundAdj exactOps e (step d)) = step d) (d : LineAdj) :
    step (step d) = step d := by
  have := h (max c (max d.amount.exp (step d).amount.exp)) d (by omega) (by omega)
  rwa [show roundAdj exactOps _ (step d) = step d by simp only [roundAdj]; rw [down_self _ _ (by omega)]] at this

theorem figures_idem (r : Rule) (c : ℕ) (qty price : Amount) (ds cs : List LineAdj) :
    figures exactOps c r qty price (figures exactOps c r qty price ds cs).discounts
        (figures exactOps c r qty price ds cs).charges =
      figures exactOps c r qty price ds cs := by
  have hmap (step : LineAdj → LineAdj) (xs : List LineAdj) (h : ∀ d, step (step d) = step d) :
      (xs.map step).map step = xs.map step := by
    simp [h]
  simp only [figures_eq]
  rw [hmap _ ds (step_idem c _ fun e d h1 h2 => discountRow_round r c e _ d h1 (.inr h2)),
    hmap _ cs (step_idem c _ fun e d h1 h2 => chargeRow_round r c e qty _ d h1 (.inr (.inr h2)))]

/-! ### sub-lines -/

/-- in the document's currency -/
abbrev Item.home (cur : String) (it : Item) : Prop := (it.cur == "" || it.cur == cur) = true

/-- a sub-line without item carries no figures -/
abbrev SubLine.Bare (sl : SubLine) : Prop := sl.item = none → sl.sum = none ∧ sl.total = none

/-- what the fixpoint asks of a sub-line -/
def SubFixable (cur : String) (sl : SubLine) : Prop :=
  (∀ it, sl.item = some it → it.price.isSome → it.home cur) ∧ sl.Bare

/-- a sub-line priced in the document currency -/
def SubLineStable (cur : String) (sl : SubLine) : Prop :=
  ∃ it p, sl.item = some it ∧ it.price = some p ∧ (it.cur == "" || it.cur == cur) = true

theorem SubLineStable.subFixable {cur : String} {sl : SubLine} (h : SubLineStable cur sl) : SubFixable cur sl := by
  obtain ⟨it, p, hi, -, hcur⟩ := h
  exact ⟨fun it' hi' _ => by cases hi.symm.trans hi'; exact hcur, fun h => by simp [hi] at h⟩

/-- `f` is what presentation does to the stored sum and total (it rounds them); `id` gives plain idempotence. -/
theorem calcSubLine_refix (cur : String) (c : ℕ) (rates : List XRate) (r : Rule) {sl sl2 : SubLine}
    (h0 : SubFixable cur sl) (h : calcSubLine exactOps cur c rates r sl = .ok sl2) (f : Amount → Amount) :
    calcSubLine exactOps cur c rates r { sl2 with sum := sl2.sum.map f, total := sl2.total.map f } = .ok sl2 := by
  rcases calcSubLine_out _ _ _ _ _ h with ⟨hi, rfl⟩ | ⟨it, hi, hp, rfl⟩ | ⟨it, p0, it', hi, hp, hip, rfl⟩
  · obtain ⟨hs, ht⟩ := h0.2 hi
    cases sl2
    simp only at hs ht
    subst hs ht
    exact h
  · simp [calcSubLine_eq, hi, hp]
  · have hc := h0.1 it hi (by simp [hp])
    rw [itemPrice_same cur c rates it p0 hc] at hip
    cases hip
    simp only [calcSubLine_eq, subOut, itemPrice_same cur c rates { it with price := some (up p0 it.sub) } _ hc,
      Option.getD_some, up_up, figures_idem]

/-- the sub-line has an item with a price -/
def SubPriced (sl : SubLine) : Bool :=
  match sl.item with
  | some it => it.price.isSome
  | none => false

theorem subPriced_iff (sl : SubLine) : SubPriced sl = true ↔ ∃ it q, sl.item = some it ∧ it.price = some q := by
  rcases sl with ⟨_, _ | ⟨_ | q, _, _, _⟩, _, _, _, _⟩ <;> simp [SubPriced]

/-- `determineSubLinePrecision` is the largest number of decimals of a sub-line price -/
theorem subLinePrecision_le_iff (sls : List SubLine) (n : ℕ) :
    subLinePrecision sls ≤ n ↔ ∀ sl ∈ sls, ∀ it q, sl.item = some it → it.price = some q → q.exp ≤ n := by
  have h (z : ℕ) : sls.foldl (fun e sl =>
      match sl.item with
      | some it => match it.price with
        | some p => if p.exp > e then p.exp else e
        | none => e
      | none => e) z ≤ n ↔ z ≤ n ∧ ∀ sl ∈ sls, ∀ it q, sl.item = some it → it.price = some q → q.exp ≤ n := by
    induction sls generalizing z with
    | nil => simp
    | cons sl sls ih =>
      rw [List.foldl_cons, ih, List.forall_mem_cons, ← and_assoc]
      refine and_congr_left fun _ => ?_
      rcases sl with ⟨_, _ | ⟨_ | q, _, _, _⟩, _, _, _, _⟩
      · simp
      · exact ⟨fun h => ⟨h, by rintro _ _ ⟨⟩ ⟨⟩⟩, fun h => h.1⟩
      · constructor
        · intro h
          simp only at h
          refine ⟨by split_ifs at h <;> omega, ?_⟩
          rintro _ _ ⟨⟩ ⟨⟩
          split_ifs at h <;> omega
        · rintro ⟨hz, h⟩
          have := h _ q rfl rfl
          simp only
          split_ifs <;> omega
  exact (h 0).trans (by simp)

theorem le_subLinePrecision (sls : List SubLine) (sl : SubLine) (it : Item) (q : Amount) (hm : sl ∈ sls)
    (hi : sl.item = some it) (hq : it.price = some q) : q.exp ≤ subLinePrecision sls :=
  (subLinePrecision_le_iff sls _).mp (Nat.le_refl _) sl hm it q hi hq

theorem calcSubLine_priced (cur : String) (c : ℕ) (rates : List XRate) (r : Rule) {sl sl2 : SubLine}
    (hb : sl.Bare) (h : calcSubLine exactOps cur c rates r sl = .ok sl2) :
    sl2.total.isSome = SubPriced sl ∧ SubPriced sl2 = SubPriced sl := by
  rcases calcSubLine_out _ _ _ _ _ h with ⟨hi, rfl⟩ | ⟨it, hi, hp, rfl⟩ | ⟨it, p0, it', hi, hp, hip, rfl⟩
  · simp [SubPriced, hi, hb hi]
  · simp [SubPriced, hi, hp]
  · obtain ⟨-, p1, hp1⟩ := itemPrice_some hip
    simp [SubPriced, subOut, hi, hp, hp1]

theorem calcSubLines_keeps (cur : String) (c : ℕ) (rates : List XRate) (r : Rule) {sls bd : List SubLine}
    (hb : ∀ sl ∈ sls, sl.Bare) (h : calcSubLines exactOps cur c rates r sls = .ok bd) :
    (bd.filterMap (·.total)).isEmpty = !(sls.any SubPriced) ∧ bd.any SubPriced = sls.any SubPriced ∧
    bd.isEmpty = sls.isEmpty := by
  rw [calcSubLines_ok_iff] at h
  induction h with
  | nil => simp
  | @cons sl sl2 _ _ h _ ih =>
    obtain ⟨h1, h2⟩ := calcSubLine_priced cur c rates r (hb sl (by simp)) h
    obtain ⟨i1, i2, -⟩ := ih fun x hx => hb x (by simp [hx])
    cases ht : sl2.total <;> simp_all

theorem subLinePrecision_calc_le (cur : String) (c : ℕ) (rates : List XRate) (r : Rule) {sls bd : List SubLine}
    (h0 : ∀ sl ∈ sls, SubFixable cur sl) (h : calcSubLines exactOps cur c rates r sls = .ok bd) :
    subLinePrecision sls ≤ subLinePrecision bd := by
  rw [subLinePrecision_le_iff]
  intro sl hm it q hi hq
  obtain ⟨sl2, hm2, hc⟩ := calcSubLines_mem_left h hm
  -- a price in the document's currency does not lose decimals in a calculation
  simp only [calcSubLine_eq, hi, hq, itemPrice_same cur c rates it q ((h0 sl hm).1 it hi (by simp [hq])),
    Except.ok.injEq] at hc
  subst hc
  exact Nat.le_trans (by rw [up_exp]; omega) (le_subLinePrecision bd _ _ _ hm2 rfl rfl)

/-- a line is priced by its sub-lines exactly when one of them is priced -/
theorem lineItem_cond (cur : String) (c : ℕ) (rates : List XRate) (r : Rule) (l : Line) (bd : List SubLine)
    (hb : ∀ sl ∈ l.breakdown, sl.Bare) (hbd : calcSubLines exactOps cur c rates r l.breakdown = .ok bd) :
    (l.breakdown.isEmpty || (bd.filterMap (·.total)).isEmpty) = !(l.breakdown.any SubPriced) := by
  rw [(calcSubLines_keeps cur c rates r hb hbd).1]
  cases l.breakdown <;> simp

/-! ### lines -/

/-- calculating the line and presenting it, then calculating again, reproduces the calculated line -/
def LineFix (cur : String) (c : ℕ) (rates : List XRate) (r : Rule) (l : Line) : Prop :=
  ∀ l2, calcLine exactOps cur c rates r l = .ok l2 → calcLine exactOps cur c rates r (roundLine exactOps l2) = .ok l2

theorem lineOut_round (r : Rule) (c : ℕ) (l : Line) (bd : List SubLine) (it2 : Item) (p q : Amount)
    (hq : it2.price = some q) (hce : c ≤ q.exp)
    (hd : ∀ d ∈ l.discounts, DiscountStable q.exp d) (hc : ∀ d ∈ l.charges, ChargeStable q.exp d) :
    lineOut exactOps c r (roundLine exactOps (lineOut exactOps c r l bd it2 p)) bd it2 p =
      lineOut exactOps c r l bd it2 p := by
  simp only [lineOut, roundLine, hq, figures_round r c q.exp _ _ _ _ hce hd hc]

/-- the number of decimals a priced line will be presented with, as far as the line itself shows; the price the
calculation stores has at least as many (`Fixable.at_price`) -/
def shownExp (c : ℕ) (l : Line) (it : Item) : Option ℕ :=
  if l.breakdown.any SubPriced then some (max (subLinePrecision l.breakdown) c)
  else it.price.map fun p => max p.exp it.sub

/-- the visible condition under which a line is reproduced (`lineFix_of`); `LineStable` (an input line) and `Settled`
(a line in memory, Proofs/CalcSettled.lean) are the two ways it comes about -/
def Fixable (cur : String) (c : ℕ) (l : Line) : Prop :=
  ∀ it, l.item = some it →
    (∀ sl ∈ l.breakdown, SubFixable cur sl) ∧
    ∀ e, shownExp c l it = some e →
      (l.breakdown.any SubPriced = false → it.home cur) ∧ c ≤ e ∧
      (∀ d ∈ l.discounts, DiscountStable e d) ∧ (∀ d ∈ l.charges, ChargeStable e d)

theorem Fixable.at_price {cur : String} {c : ℕ} {rates : List XRate} {r : Rule} {l : Line} {it0 : Item}
    {bd : List SubLine} {p0 : Amount} (h : Fixable cur c l) (hi : l.item = some it0)
    (hbd : calcSubLines exactOps cur c rates r l.breakdown = .ok bd)
    (hp : (lineItem exactOps cur c l bd it0).price = some p0) :
    (lineItem exactOps cur c l bd it0).home cur ∧ c ≤ max p0.exp (lineItem exactOps cur c l bd it0).sub ∧
    (∀ d ∈ l.discounts, DiscountStable (max p0.exp (lineItem exactOps cur c l bd it0).sub) d) ∧
    (∀ d ∈ l.charges, ChargeStable (max p0.exp (lineItem exactOps cur c l bd it0).sub) d) := by
  obtain ⟨hsub, hrest⟩ := h it0 hi
  have hcond := lineItem_cond cur c rates r l bd (fun sl h => (hsub sl h).2) hbd
  by_cases hany : l.breakdown.any SubPriced = true
  · -- priced from the breakdown, whose precision only grows in the calculation
    obtain ⟨-, hce, hd, hc⟩ := hrest _ (by rw [shownExp, if_pos hany])
    rw [lineItem_priced _ _ _ _ (by simp [hcond, hany])] at hp ⊢
    cases hp
    have hslp := subLinePrecision_calc_le cur c rates r hsub hbd
    simp only [exact_rescale, rescaleX_exp]
    exact ⟨by simp, by omega, fun d hd' => (hd d hd').mono (by omega), fun d hd' => (hc d hd').mono (by omega)⟩
  · rw [lineItem_own _ _ _ _ (by simp [hcond, hany])] at hp ⊢
    obtain ⟨hcur, h⟩ := hrest _ (by rw [shownExp, if_neg hany, hp]; rfl)
    exact ⟨hcur (by simpa using hany), h⟩

theorem lineFix_of (cur : String) (c : ℕ) (rates : List XRate) (r : Rule) (l : Line)
    (h : Fixable cur c l) : LineFix cur c rates r l := by
  intro l2 h2
  cases hi : l.item with
  | none =>
    cases calcLine_no_item _ _ _ _ _ h2 hi
    simp [roundLine, hi, h2]
  | some it0 =>
    obtain ⟨hsub, -⟩ := h it0 hi
    obtain ⟨bd, hbd, hout⟩ := calcLine_out _ _ _ _ _ h2 hi
    -- the sub-lines are reproduced whatever presentation did to their sums and totals
    have hbd2 (f : Amount → Amount) : calcSubLines exactOps cur c rates r
        (bd.map fun sl => { sl with sum := sl.sum.map f, total := sl.total.map f }) = .ok bd := by
      rw [calcSubLines_eq] at hbd ⊢
      exact mapOk_refix hbd fun sl hsl _ hc => calcSubLine_refix cur c rates r (hsub sl hsl) hc f
    have hlen : bd.isEmpty = l.breakdown.isEmpty := (calcSubLines_keeps cur c rates r (fun sl h => (hsub sl h).2) hbd).2.2
    have hcond := lineItem_cond cur c rates r l bd (fun sl h => (hsub sl h).2) hbd
    rcases hout with ⟨hp, rfl⟩ | ⟨p0, it2, hp, hip, rfl⟩
    · -- no price: presentation leaves the line alone, and the item is the line's own again
      have hany : l.breakdown.any SubPriced = false := by
        by_contra hn
        simp [lineItem, hcond, hn] at hp
      have hb := hbd2 id
      simp only [Option.map_id, id, List.map_id'] at hb
      rw [lineItem_own _ _ _ _ (by simp [hcond, hany])] at hp ⊢
      simp [roundLine, hp, calcLine_eq, hb, lineItem, hlen, hcond, hany]
    · obtain ⟨hcur, hce, hd, hc⟩ := h.at_price hi hbd hp
      rw [itemPrice_same cur c rates _ p0 hcur] at hip
      cases hip
      obtain ⟨it1, hit1⟩ : ∃ it1, it1 = lineItem exactOps cur c l bd it0 := ⟨_, rfl⟩
      rw [← hit1] at hp hcur hce hd hc ⊢
      simp only [Option.getD_some]
      -- `it1` with its price raised is the stored item, `q` the stored price
      generalize hq : up p0 it1.sub = q
      have hqe : q.exp = max p0.exp it1.sub := by rw [← hq, up_exp]
      rw [← hqe] at hce hd hc
      refine Eq.trans ?_ (congrArg _ (lineOut_round r c l bd { it1 with price := some q } q q rfl hce hd hc))
      have hitem : (roundLine exactOps (lineOut exactOps c r l bd { it1 with price := some q } q)).item =
          some { it1 with price := some q } := by simp [roundLine, lineOut]
      have hbrk : (roundLine exactOps (lineOut exactOps c r l bd { it1 with price := some q } q)).breakdown =
          bd.map (roundSubLine exactOps q.exp) := by simp [roundLine, lineOut]
      generalize roundLine exactOps (lineOut exactOps c r l bd { it1 with price := some q } q) = l' at hitem hbrk ⊢
      have hb : calcSubLines exactOps cur c rates r l'.breakdown = .ok bd := hbrk ▸ hbd2 (down exactOps · q.exp)
      subst hq
      cases hgo : (l.breakdown.isEmpty || (bd.filterMap (·.total)).isEmpty)
      · -- priced by its sub-lines: the same item is built from their totals
        have : lineItem exactOps cur c l' bd { it1 with price := some (up p0 it1.sub) } = it1 := by
          simp [hit1, lineItem, hbrk, hlen, hgo]
        rw [calcLine_of_price hitem hb (by rw [this]; exact hp) (by rw [this]; exact hcur), this]
      · -- priced on its own: the stored item is taken as it is
        have : lineItem exactOps cur c l' bd { it1 with price := some (up p0 it1.sub) } = { it1 with price := some (up p0 it1.sub) } := by
          simp [lineItem, hbrk, hlen, hgo]
        rw [calcLine_of_price hitem hb (by rw [this]) (by rw [this]; exact hcur), this]
        simp only [up_up]

/-- a line the second calculation reproduces: no breakdown, and either no item at all or a priced item in
the document currency whose fixed discount/charge amounts are not finer than the line is presented with -/
def LineStable (cur : String) (c : ℕ) (l : Line) : Prop :=
  (l.breakdown = [] ∧
    match l.item with
    | none => True
    | some it => ∃ p, it.price = some p ∧ (it.cur == "" || it.cur == cur) = true ∧ c ≤ it.sub ∧
        (∀ d ∈ l.discounts, DiscountStable (max p.exp it.sub) d) ∧
        (∀ d ∈ l.charges, ChargeStable (max p.exp it.sub) d)) ∨
  -- or: priced by a breakdown of sub-lines in the document currency, own fixed amounts at currency precision
  (l.breakdown ≠ [] ∧ (∃ it0, l.item = some it0) ∧ (∀ sl ∈ l.breakdown, SubLineStable cur sl) ∧
    (∀ d ∈ l.discounts, DiscountStable c d) ∧ (∀ d ∈ l.charges, ChargeStable c d))

theorem LineStable.fixable {cur : String} {c : ℕ} {l : Line} (h : LineStable cur c l) : Fixable cur c l := by
  intro it hi
  rcases h with ⟨hb, hitm⟩ | ⟨hne, -, hsl, hd, hc⟩
  · rw [hi] at hitm
    obtain ⟨p, hp, hcur, hsub, hd, hc⟩ := hitm
    refine ⟨by simp [hb], fun e he => ?_⟩
    simp only [shownExp, hb, List.any_nil, Bool.false_eq_true, if_false, hp, Option.map_some, Option.some.injEq] at he
    subst he
    exact ⟨fun _ => hcur, by omega, hd, hc⟩
  · -- every sub-line is priced, so the line is priced by them
    have hany : l.breakdown.any SubPriced = true := by
      obtain ⟨sl, sls, hl⟩ := List.exists_cons_of_ne_nil hne
      obtain ⟨its, p, h1, h2, -⟩ := hsl sl (by simp [hl])
      exact List.any_eq_true.mpr ⟨sl, by simp [hl], (subPriced_iff sl).mpr ⟨its, p, h1, h2⟩⟩
    refine ⟨fun sl hm => (hsl sl hm).subFixable, fun e he => ?_⟩
    simp only [shownExp, hany, if_true, Option.some.injEq] at he
    subst he
    exact ⟨by simp [hany], by omega, fun d h => (hd d h).mono (by omega), fun d h => (hc d h).mono (by omega)⟩

/-! ### document discounts and charges, advances, due dates -/

/-- a document discount/charge whose stored amount survives presentation -/
def DocAdjStable (c : ℕ) (x : DocAdj) : Prop :=
  (∃ p, x.percent = some p ∧ pctIsZero p = false) ∨ x.amount.exp ≤ c

/-- the number of decimals a document discount/charge is presented with (`Discount.round`) -/
def adjExp (c : ℕ) (x : DocAdj) : ℕ := match x.base with | some b => if b.exp > c then b.exp else c | none => c

theorem adjExp_ge (c : ℕ) (x : DocAdj) : c ≤ adjExp c x := by
  unfold adjExp
  split
  · split <;> omega
  · exact Nat.le_refl _

theorem roundDocAdj_eq (c : ℕ) (x : DocAdj) :
    roundDocAdj exactOps c x = { x with amount := down exactOps x.amount (adjExp c x) } := rfl

/-- the counterpart of `Fixable` for a document row (`DocAdjStable` implies it, and a row a calculation left in
memory meets it too): the rule is `currency` (amounts are rounded to the currency before they are stored), or the
amount comes from a percentage, or the fixed amount is not finer than the row is presented with — `adjExp`, which
an explicit base can raise above the currency's decimals -/
def DocAdjStable' (r : Rule) (c : ℕ) (x : DocAdj) : Prop :=
  r = .currency ∨ (∃ p, x.percent = some p ∧ pctIsZero p = false) ∨ x.amount.exp ≤ adjExp c x

theorem DocAdjStable.stable' {c : ℕ} {x : DocAdj} (h : DocAdjStable c x) (r : Rule) : DocAdjStable' r c x :=
  .inr (h.imp_right fun h => Nat.le_trans h (adjExp_ge _ x))

theorem applyRule_idem (r : Rule) (c : ℕ) (a : Amount) :
    applyRule exactOps r c (applyRule exactOps r c a) = applyRule exactOps r c a := by
  cases r <;> simp only [applyRule, up_up, exact_rescale, rescaleX_idem]

theorem docAdj_fix (r : Rule) (c : ℕ) (sum : Amount) (x : DocAdj) (hs : DocAdjStable' r c x) :
    docAdj exactOps r c sum (roundDocAdj exactOps c (docAdj exactOps r c sum x)) = docAdj exactOps r c sum x := by
  by_cases hp : Recomputed x.percent
  · -- the amount is recomputed from the percentage whatever was stored
    obtain ⟨p, hp, hz⟩ := hp
    cases hb : x.base <;> simp [docAdj, roundDocAdj, hp, hz, hb]
  · -- a fixed amount, with the rule applied not finer than the row is presented with: presenting it changes nothing
    have he : (applyRule exactOps r c x.amount).exp ≤ adjExp c x := by
      have := adjExp_ge c x
      cases r
      case currency => simpa [applyRule] using this
      all_goals
        have := (hs.resolve_left (by simp)).resolve_left hp
        simp only [applyRule, up_exp]
        omega
    rw [docAdj_fixed r c sum hp, roundDocAdj_eq]
    simp only [show adjExp c { x with amount := applyRule exactOps r c x.amount } = adjExp c x from rfl, down_self _ _ he]
    rw [docAdj_fixed r c sum (x := { x with amount := applyRule exactOps r c x.amount }) hp]
    simp only [applyRule_idem]

/-- an advance whose stored amount survives presentation -/
def AdvanceStable (c : ℕ) (a : Advance) : Prop := a.percent.isSome ∨ a.amount.exp ≤ c

theorem calcAdvance_fix (c : ℕ) (twt : Amount) (a : Advance) (hs : AdvanceStable c a) :
    calcAdvance exactOps c twt
        { calcAdvance exactOps c twt a with amount := exactOps.rescale (calcAdvance exactOps c twt a).amount c } =
      calcAdvance exactOps c twt a := by
  rcases a with ⟨_ | p, amt⟩
  · have he : (up amt c).exp = c := by
      rw [up_exp]
      have := hs.resolve_left (by simp)
      simp only at this
      omega
    simp only [calcAdvance, exact_rescale, rescaleX_self _ c he, up_up]
  · simp [calcAdvance]

theorem calcDue_idem (c : ℕ) (payable : Amount) (x : Due) :
    calcDue exactOps c payable (calcDue exactOps c payable x) = calcDue exactOps c payable x := by
  rcases x with ⟨_ | p, amt⟩
  · simp [calcDue, rescaleX_idem]
  · by_cases hz : pctIsZero p = true <;> simp [calcDue, hz, rescaleX_idem]

/-! ### the whole document -/

/-- the calculated and presented document read back as the input of the next calculation -/
def rereadDoc (d : Doc) (o : Out) : Doc :=
  { d with lines := o.lines, discounts := o.discounts, charges := o.charges, advances := o.advances, dues := o.dues }

/-- the rows of a document are fixpoints of calculate ∘ present -/
structure RowsFix (d : Doc) (p : Pre) : Prop where
  lines : calcLines exactOps d.cur d.c d.rates d.rule (p.lines.map (roundLine exactOps)) = .ok p.lines
  discounts : (p.discounts.map (roundDocAdj exactOps d.c)).map (docAdj exactOps d.rule d.c p.sum) = p.discounts
  charges : (p.charges.map (roundDocAdj exactOps d.c)).map (docAdj exactOps d.rule d.c p.sum) = p.charges

theorem rowsFix_of (d : Doc) (p : Pre) (hpre : pre exactOps d = .ok p)
    (hl : ∀ l ∈ d.lines, LineFix d.cur d.c d.rates d.rule l)
    (ha : ∀ x ∈ d.discounts ++ d.charges, DocAdjStable' d.rule d.c x) : RowsFix d p := by
  obtain ⟨lines, hlines, rfl⟩ := pre_ok_iff.mp hpre
  rw [calcLines_eq] at hlines
  refine ⟨(calcLines_eq ..).trans (mapOk_refix hlines hl), ?_, ?_⟩ <;>
    show List.map _ (List.map _ (List.map _ _)) = List.map _ _ <;> rw [List.map_map, List.map_map]
  · exact List.map_congr_left fun x hx => docAdj_fix d.rule d.c _ x (ha x (by simp [hx]))
  · exact List.map_congr_left fun x hx => docAdj_fix d.rule d.c _ x (ha x (by simp [hx]))

/-- **Recalculation.**  If the rows of `d` are fixpoints, the document read back from its result —
whatever `prices_include` and rounding it is then given — calculates to the same lines, document rows
and tax rows. -/
theorem calculate_reread (d : Doc) (p : Pre) (tx tx' : TaxTotal) (i' : Option String) (r' : Option Amount)
    (hpre : pre exactOps d = .ok p) (hne : p.rows.isEmpty = false) (hfix : RowsFix d p)
    (htx : taxTotal exactOps d.rule d.c i' p.rows = .ok tx') :
    calculate exactOps { rereadDoc d (finish exactOps d p tx) with includes := i', rounding := r' } =
      .ok (finish exactOps { rereadDoc d (finish exactOps d p tx) with includes := i', rounding := r' } p tx') :=
  calculate_of_pre _ p tx' (pre_congr d _ p hpre rfl rfl rfl rfl hfix.lines hfix.discounts hfix.charges) hne htx

theorem calculate_reread_eq (d : Doc) (p : Pre) (tx : TaxTotal) (i' : Option String)
    (hpre : pre exactOps d = .ok p) (hne : p.rows.isEmpty = false) (hfix : RowsFix d p)
    (htx : taxTotal exactOps d.rule d.c i' p.rows = .ok tx)
    (hti : taxIncluded i' tx = taxIncluded d.includes tx) (hsa : ∀ a ∈ d.advances, AdvanceStable d.c a) :
    calculate exactOps { rereadDoc d (finish exactOps d p tx) with includes := i', rounding := d.rounding } =
      .ok (finish exactOps d p tx) := by
  have hadv (twt : Amount) :
      ((d.advances.map (calcAdvance exactOps d.c twt)).map fun a => { a with amount := exactOps.rescale a.amount d.c }).map
          (calcAdvance exactOps d.c twt) = d.advances.map (calcAdvance exactOps d.c twt) := by
    rw [List.map_map, List.map_map]
    exact List.map_congr_left fun a ha => calcAdvance_fix d.c twt a (hsa a ha)
  rw [calculate_reread d p tx tx i' d.rounding hpre hne hfix htx]
  -- same `Pre` and tax summary: only the advances and due dates were read back
  simp only [finish, rawTotals, rereadDoc, hti]
  cases d.hasPayment
  · simp
  · simp only [if_true, hadv]
    congr 2
    rw [List.map_map]
    exact List.map_congr_left fun x _ => calcDue_idem d.c _ x

end GoblVerif.Calc
