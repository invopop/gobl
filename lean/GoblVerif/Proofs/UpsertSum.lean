/-
  What `updFirst` (Proofs/Upsert.lean) adds to a sum over the list.  Apart from Upsert.lean, which is core
  only, because sums in a commutative monoid come from Mathlib.
-/
import GoblVerif.Proofs.Upsert
import Mathlib.Algebra.BigOperators.Group.List.Basic

namespace GoblVerif
variable {α M : Type} {p : α → Bool} {f : α → α} {d : List α}

theorem sum_map_updFirst [AddCommMonoid M] (g : α → M) (δ : M) {l : List α}
    (hf : ∀ x ∈ l, p x = true → g (f x) = g x + δ) (hd : (d.map g).sum = δ) :
    ((updFirst p f d l).map g).sum = (l.map g).sum + δ := by
  rcases first_hit p l with h | ⟨pre, m, post, rfl, h, hm⟩
  · rw [updFirst_none h, List.map_append, List.sum_append, hd]
  · rw [updFirst_found h hm]
    simp only [List.map_append, List.map_cons, List.sum_append, List.sum_cons, hf m (by simp) hm]
    simp only [add_assoc, add_comm δ]

end GoblVerif
