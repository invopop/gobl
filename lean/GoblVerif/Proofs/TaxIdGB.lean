/-
  GB: `commercialCheck` (a port of a reference implementation: subtract 97 until non-positive, then the old and the
  "9755" check digits) against the published rule.
-/
import GoblVerif.Proofs.TaxIdDigits
namespace GoblVerif.TaxId
open GoblVerif.Spec.TaxId (digs dot num isDigits)

/-- `f` is fuel: the loop subtracts 97 while the value is positive, so it ends on the first value `≤ 0` -/
theorem GB.subLoop_eq (f : Nat) (c : Int) (h1 : -97 < c) (h2 : c ≤ 97 * f) :
    GB.subLoop f c = c - 97 * ((c + 96) / 97) := by
  induction f generalizing c with
  | zero => simp [GB.subLoop]; omega
  | succ f ih =>
    unfold GB.subLoop
    split
    · rw [ih (c - 97) (by omega) (by push_cast at h2 ⊢; omega)]; omega
    · omega


theorem GB.subLoop_nonpos (c : Int) : ¬ (GB.subLoop (Int.toNat c) c > 0) := by
  by_cases h : c ≤ 0
  · have : Int.toNat c = 0 := by omega
    rw [this]; simp only [GB.subLoop]; omega
  · rw [GB.subLoop_eq _ _ (by omega) (by omega)]; omega

/-- `for checkDigit > 0 { checkDigit -= 97 }` leaves minus the number that brings the sum up to a multiple of 97 -/
theorem GB.subLoop_sum (S : Nat) : GB.subLoop (S + 1) (S : Int) = -(((97 - S % 97) % 97 : Nat) : Int) := by
  rw [GB.subLoop_eq (S + 1) (S : Int) (by omega) (by push_cast; omega)]; omega

theorem GB.commercialCheck_eq (s : Str) (hd : s.all isDig = true) (hG : (s.take 2 == ['G', 'D']) = false)
    (hH : (s.take 2 == ['H', 'A']) = false) : GB.commercialCheck s = Spec.TaxId.GB.check s := by
  have e2 : atoi0 ((s.drop 7).take 2) = num (digs ((s.drop 7).take 2)) := atoi0_digits (all_take (all_drop hd 7) 2)
  simp only [GB.commercialCheck, Spec.TaxId.GB.check, hG, hH, Bool.false_eq_true, if_false, atoi0_digits hd,
    atoi0_digits (all_take hd 7), e2, wloop_eq_dot, GB.multipliers, Nat.zero_add, GB.subLoop_sum, digs_take, digs_drop]
  generalize num (digs s) = N
  generalize num ((digs s).take 7) = body
  generalize num (((digs s).drop 7).take 2) = cc
  generalize dot _ _ = S
  have h1 : (97 - S % 97) % 97 < 97 := Nat.mod_lt _ (by omega)
  have h2 : (S + (97 - S % 97) % 97) % 97 = 0 := by omega
  generalize (97 - S % 97) % 97 = cd at h1 h2
  have e : (if -(cd : Int) < 0 then 0 - -(cd : Int) else -(cd : Int)) = cd := by split <;> omega
  have ha : cd = cc ↔ cc ≤ 96 ∧ (S + cc) % 97 = 0 := by omega
  have hb : (if 55 ≤ cd then (cd : Int) - 55 else cd + 42) = cc ↔ cc ≤ 96 ∧ (S + cc + 55) % 97 = 0 := by split <;> omega
  rw [e, Bool.eq_iff_iff]
  by_cases hcc : cc ≤ 96 <;> simp [ha, hb, hcc]


theorem GB.fmt_eq_format (s : Str) : GB.fmt s = Spec.TaxId.GB.format s := by
  simp only [GB.fmt, matchSeq_rep, matchSeq_isCh2_digits, Spec.TaxId.GB.format, isDigits_eq]
  cases s.all isDig <;> cases (s.drop 2).all isDig <;> cases s.take 2 == ['G', 'D'] <;> cases s.take 2 == ['H', 'A'] <;> simp

theorem GB.of_format {s : Str} (hf : Spec.TaxId.GB.format s = true) :
    ((s.length = 9 ∨ s.length = 12) ∧ s.all isDig = true) ∨
    (s.length = 5 ∧ (s.take 2 = ['G', 'D'] ∨ s.take 2 = ['H', 'A']) ∧ (s.drop 2).all isDig = true) := by
  simpa [Spec.TaxId.GB.format, isDigits_eq, and_assoc] using hf

theorem GB.take_two_ne {s : Str} (hd : s.all isDig = true) (a b : Char) (ha : isDig a = false) :
    (s.take 2 == [a, b]) = false := by
  refine beq_false_of_ne fun e => ?_
  have := all_take hd 2
  rw [e] at this
  simp [ha] at this

theorem GB.regime_eq (s : Str) : GB.regime s = (Spec.TaxId.GB.format s && Spec.TaxId.GB.check s) := by
  simp only [GB.regime, if_not_false]
  refine and_congr_of_left (GB.fmt_eq_format s) fun hf => ?_
  rcases GB.of_format hf with ⟨-, hd⟩ | ⟨-, ht, hd2⟩
  · -- a number starts with neither `GD` nor `HA`
    have hG := GB.take_two_ne hd 'G' 'D' (by decide)
    have hH := GB.take_two_ne hd 'H' 'A' (by decide)
    simp [GB.commercialCheck_eq s hd hG hH, hG, hH]
  · rcases ht with ht | ht <;> simp [Spec.TaxId.GB.check, ht, atoi0_digits hd2]

theorem GB.gate_of_format {s : Str} (hf : Spec.TaxId.GB.format s = true) : gate s = true := by
  rw [← GB.fmt_eq_format, GB.fmt] at hf
  simp only [Bool.or_eq_true] at hf
  rcases hf with ((h | h) | h) | h <;>
    exact gate_of_matchSeq (by simp [rep]) (by simp +contextual [rep, isAZ09_of_isDig, isCh]; try decide) h

end GoblVerif.TaxId
