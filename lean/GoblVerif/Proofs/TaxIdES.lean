/-
  ES: the four patterns and three check routines (NIF, NIE, CIF) against the published rule.
-/
import GoblVerif.Proofs.TaxIdDigits
namespace GoblVerif.Props.C13
open GoblVerif.TaxId

theorem es_letters_eq : Spec.TaxId.ES.letters = ES.checkLetters := rfl
theorem es_ctrl_eq : Spec.TaxId.ES.controlLetters = ES.orgCheckLetters := rfl

end GoblVerif.Props.C13

namespace GoblVerif.TaxId
open GoblVerif.Props.C13 (es_ctrl_eq)
open GoblVerif.Spec.TaxId (digs dot num dg isDigits digitSum luhnValid luhnTotal)

theorem ES.letterAt_eq : ∀ k, k < 23 →
    Spec.TaxId.letterAt Spec.TaxId.ES.letters k = some (ES.checkLetters.getD k ' ') := by decide

theorem ES.checkLetter_beq (k : Nat) (hk : k < 23) (c : Char) :
    (ES.checkLetters.getD k ' ' == c) = (Spec.TaxId.letterAt Spec.TaxId.ES.letters k == some c) := by
  rw [ES.letterAt_eq k hk]; simp

/-- the check character read as a number (`verifyOrgCodeMatches`) -/
def ES.cdi (ch : Char) : Nat :=
  match indexOf? ch ES.orgCheckLetters with
  | some i => i
  | none => atoi0 [ch]

theorem ES.ctrl_letters : ∀ ch ∈ ES.orgCheckLetters, ∀ c, c < 10 →
    (c == ES.cdi ch) =
      ((isDig ch && dval ch == c) || Spec.TaxId.letterAt Spec.TaxId.ES.controlLetters c == some ch) := by
  decide

theorem ES.ctrl_notdig : ∀ ch ∈ ES.orgCheckLetters, isDig ch = false := by decide

theorem ES.ctrl_at : ∀ c, c < 10 → ∃ x ∈ ES.orgCheckLetters, Spec.TaxId.letterAt Spec.TaxId.ES.controlLetters c = some x := by
  decide

theorem ES.ctrl (ch : Char) (hc : ES.orgCheckCls ch = true) (c : Nat) (hc10 : c < 10) :
    (c == ES.cdi ch) =
      ((isDig ch && dval ch == c) || Spec.TaxId.letterAt Spec.TaxId.ES.controlLetters c == some ch) := by
  by_cases hd : isDig ch = true
  · have hn : ch ∉ ES.orgCheckLetters := fun hm => by
      have := ES.ctrl_notdig ch hm; simp [hd] at this
    obtain ⟨x, hx, hxe⟩ := ES.ctrl_at c hc10
    have hne : (x == ch) = false := by
      simp only [beq_eq_false_iff_ne, ne_eq]
      rintro rfl; exact hn hx
    unfold ES.cdi
    rw [indexOf?_none ch _ hn, hxe]
    simp [atoi0_single ch hd, hd, hne, eq_comm]
  · have hm : ch ∈ ES.orgCheckLetters := by
      simpa [ES.orgCheckCls, hd, inSet] using hc
    exact ES.ctrl_letters ch hm c hc10

theorem ES.tables_az : ∀ c ∈ ES.orgTypeLetters ++ ES.foreignTypeLetters ++ ES.otherTypeLetters ++ ES.checkLetters ++
    ES.orgCheckLetters, isAZ09 c = true := by decide

theorem ES.org_not_digit_foreign : ∀ c ∈ ES.orgTypeLetters, isDig c = false ∧ inSet ES.foreignTypeLetters c = false := by decide

theorem ES.cifTypes_eq (c : Char) :
    Spec.TaxId.ES.cifTypes.contains c = (inSet ES.orgTypeLetters c || inSet ES.otherTypeLetters c) := by
  rw [Bool.eq_iff_iff]
  simp [Spec.TaxId.ES.cifTypes, inSet, ES.orgTypeLetters, ES.otherTypeLetters, or_assoc]

theorem ES.nationalRe_eq (s : Str) : ES.nationalRe s = Spec.TaxId.ES.nifFormat s := matchSeq_digits_then 8 _ s

theorem ES.foreignRe_eq (s : Str) : ES.foreignRe s = Spec.TaxId.ES.nieFormat s := matchSeq_cls_digits_then _ 7 _ s

theorem ES.orgRe_or_otherRe_eq (s : Str) : (ES.orgRe s || ES.otherRe s) = Spec.TaxId.ES.cifFormat s := by
  rw [ES.orgRe, ES.otherRe, matchSeq_cls_digits_then, matchSeq_cls_digits_then]
  simp only [Spec.TaxId.ES.cifFormat, ES.cifTypes_eq, Spec.TaxId.ES.mid,
    Spec.TaxId.ES.last, ES.orgCheckCls, es_ctrl_eq, inSet, isDigits_eq]
  cases s.length == 9 <;> cases ES.orgTypeLetters.contains (s.getD 0 ' ') <;> cases ES.otherTypeLetters.contains (s.getD 0 ' ') <;> simp

theorem ES.isAZ09_of_orgCheckCls {c : Char} (h : ES.orgCheckCls c = true) : isAZ09 c = true := by
  by_cases hd : isDig c = true
  · exact isAZ09_of_isDig hd
  · exact ES.tables_az c (List.mem_append_right _ (by simpa [ES.orgCheckCls, hd, inSet] using h))

theorem ES.gate_of_format {s : Str} (hf : Spec.TaxId.ES.format s = true) : gate s = true := by
  simp only [Spec.TaxId.ES.format, ← ES.nationalRe_eq, ← ES.foreignRe_eq, ← ES.orgRe_or_otherRe_eq, Bool.or_eq_true] at hf
  have az (t : List Char) (ht : ∀ c ∈ t, c ∈ ES.orgTypeLetters ++ ES.foreignTypeLetters ++ ES.otherTypeLetters ++
      ES.checkLetters ++ ES.orgCheckLetters) : ∀ c ∈ t, isAZ09 c = true := fun c h => ES.tables_az c (ht c h)
  rcases hf with (h | h) | h | h <;> refine gate_of_matchSeq (by simp [rep]) ?_ h <;>
    simp +contextual [rep, isAZ09_of_isDig, ES.isAZ09_of_orgCheckCls, inSet]
  · exact az _ (by simp +contextual)
  · exact ⟨az _ (by simp +contextual), az _ (by simp +contextual)⟩
  · exact az _ (by simp +contextual)
  · exact az _ (by simp +contextual)

theorem ES.of_nationalRe {s : Str} (h : ES.nationalRe s = true) : s.length = 9 ∧ (s.take 8).all isDig = true := by
  simp only [ES.nationalRe, matchSeq_digits_then, Bool.and_eq_true, beq_iff_eq] at h
  exact h.1

/-- the three patterns `[letters]\d{7}[class]`: NIE and the two of the CIF -/
theorem ES.of_typedRe {ls : List Char} {q : Char → Bool} {s : Str} (h : matchSeq (inSet ls :: rep 7 isDig ++ [q]) s = true) :
    s.length = 9 ∧ s.getD 0 ' ' ∈ ls ∧ ((s.drop 1).take 7).all isDig = true ∧ q (s.getD 8 ' ') = true := by
  rw [matchSeq_cls_digits_then] at h
  simpa [inSet, and_assoc] using h

theorem ES.of_cifRe {s : Str} (h : (ES.orgRe s || ES.otherRe s) = true) :
    s.length = 9 ∧ ((s.drop 1).take 7).all isDig = true ∧ ES.orgCheckCls (s.getD 8 ' ') = true := by
  rcases (Bool.or_eq_true _ _).mp h with h | h <;> exact let ⟨hl, _, hd, h8⟩ := ES.of_typedRe h; ⟨hl, hd, h8⟩

/-- a code that starts with an entity letter is neither a NIF (it would start with a digit) nor a NIE (with `X`, `Y`, `Z`) -/
theorem ES.not_nif_nie_of_orgRe {s : Str} (h : ES.orgRe s = true) : ES.nationalRe s = false ∧ ES.foreignRe s = false := by
  obtain ⟨hl, h0, -⟩ := ES.of_typedRe h
  obtain ⟨hnd, hnf⟩ := ES.org_not_digit_foreign _ h0
  simp only [ES.nationalRe, ES.foreignRe, matchSeq_cls_digits_then, matchSeq_digits_then]
  cases s with
  | nil => simp at hl
  | cons c t => simp_all [inSet]

theorem ES.verifyNational_eq {s : Str} (h : ES.nationalRe s = true) : ES.verifyNational s = Spec.TaxId.ES.nifCheck s := by
  obtain ⟨hl, hd⟩ := ES.of_nationalRe h
  have hl8 : (s.take 8).length = 8 := by simp; omega
  have hz : (s.take 8 == List.replicate 8 '0') = (num (digs (s.take 8)) == 0) := by
    rw [Bool.eq_iff_iff, beq_iff_eq, beq_iff_eq, num_digs_eq_zero_iff hd, hl8]
  simp only [ES.verifyNational, Spec.TaxId.ES.nifCheck, Spec.TaxId.ES.last, hz, atoi0_digits hd]
  generalize num (digs (s.take 8)) = n
  rw [ES.checkLetter_beq (n % 23) (Nat.mod_lt _ (by omega))]
  cases h0 : (n == 0) <;> simp [bne, h0]

/-- the position of the type letter in `XYZ` is the digit the published rule puts in front of the number -/
theorem ES.foreign_index : ∀ c ∈ ES.foreignTypeLetters,
    (indexOf? c ES.foreignTypeLetters).getD 0 = (match c with | 'X' => 0 | 'Y' => 1 | _ => 2) := by decide

theorem ES.verifyForeign_eq {s : Str} (h : ES.foreignRe s = true) : ES.verifyForeign s = Spec.TaxId.ES.nieCheck s := by
  obtain ⟨hl, h0, hd, -⟩ := ES.of_typedRe h
  have hm : ((s.drop 1).take 7).length = 7 := by simp; omega
  simp only [ES.verifyForeign, Spec.TaxId.ES.nieCheck, Spec.TaxId.ES.last, Spec.TaxId.ES.mid, ES.foreign_index _ h0]
  generalize s.getD 0 ' ' = c0 at h0
  simp only [ES.foreignTypeLetters, List.mem_cons, List.not_mem_nil, or_false] at h0
  rcases h0 with rfl | rfl | rfl <;>
    rw [atoi0_digitChar_cons _ (by decide) _ hd, ES.checkLetter_beq _ (Nat.mod_lt _ (by omega)), hm] <;> rfl

/-- the parity loop of `verifyOrgCodeMatches` over seven digits is the published CIF sum -/
theorem ES.orgLoop_eq (m : Str) (hl : m.length = 7) (hd : m.all isDig = true) :
    ES.orgLoop (m.map fun v => atoi0 [v]) 0 0 0 =
      (let d := digs m; (dg d 2 + dg d 4 + dg d 6,
        digitSum (2 * dg d 1) + digitSum (2 * dg d 3) + digitSum (2 * dg d 5) + digitSum (2 * dg d 7))) := by
  match m, hl with
  | [c1, c2, c3, c4, c5, c6, c7], _ =>
    simp only [List.all_cons, List.all_nil, Bool.and_true, Bool.and_eq_true] at hd
    obtain ⟨d1, d2, d3, d4, d5, d6, d7⟩ := hd
    simp [ES.orgLoop, atoi0_single, d1, d2, d3, d4, d5, d6, d7, digs, dg, digitSum,
      luhn_dbl _ (dval_le_nine d1), luhn_dbl _ (dval_le_nine d3), luhn_dbl _ (dval_le_nine d5), luhn_dbl _ (dval_le_nine d7)]

theorem ES.verifyOrgMatches_eq {s : Str} (h : (ES.orgRe s || ES.otherRe s) = true) :
    ES.verifyOrgMatches s = Spec.TaxId.ES.cifCheck s := by
  obtain ⟨hl, hd, h8⟩ := ES.of_cifRe h
  have hloop := ES.orgLoop_eq ((s.drop 1).take 7) (by simp; omega) hd
  unfold ES.verifyOrgMatches
  simp only [hloop]
  exact ES.ctrl _ h8 _ (Nat.mod_lt _ (by omega))

theorem ES.regime_eq (s : Str) : ES.regime s = (Spec.TaxId.ES.format s && Spec.TaxId.ES.check s) := by
  simp only [ES.regime, Spec.TaxId.ES.format, Spec.TaxId.ES.check, ← ES.nationalRe_eq, ← ES.foreignRe_eq, ← ES.orgRe_or_otherRe_eq]
  by_cases hO : ES.orgRe s = true
  · simp [hO, ES.not_nif_nie_of_orgRe hO, ES.verifyOrgMatches_eq (s := s) (by simp [hO])]
  have hO' : ES.orgRe s = false := by simpa using hO
  by_cases hN : ES.nationalRe s = true
  · simp [hO', hN, ES.verifyNational_eq hN]
  have hN' : ES.nationalRe s = false := by simpa using hN
  by_cases hF : ES.foreignRe s = true
  · simp [hO', hN', hF, ES.verifyForeign_eq hF]
  have hF' : ES.foreignRe s = false := by simpa using hF
  by_cases hK : ES.otherRe s = true
  · simp [hO', hN', hF', hK, ES.verifyOrgMatches_eq (s := s) (by simp [hK])]
  · simp [hO', hN', hF', hK]

end GoblVerif.TaxId
