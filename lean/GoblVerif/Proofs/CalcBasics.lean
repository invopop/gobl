/-
  The recursions of Model/Calc.lean written as the list functions they are — a map that may fail, a map and a
  fold, update-the-first-match-or-append — for any rounding primitives unless `exactOps` is written.  `calculate`
  is three stages, each a traversal that may fail followed by a total function, so a success comes apart by
  equations.  That the operations which never round are exact (`toRat`) is Proofs/CalcExact.lean.
-/
import GoblVerif.Model.Calc
import GoblVerif.Proofs.Num
import GoblVerif.Proofs.Upsert
import GoblVerif.Proofs.MapOk

namespace GoblVerif.Calc

@[simp] theorem exact_mul (a b : Amount) : exactOps.mul a b = a.mulX b := rfl
@[simp] theorem exact_div (a b : Amount) : exactOps.div a b = a.divX b := rfl
@[simp] theorem exact_rescale (a : Amount) (e : Nat) : exactOps.rescale a e = a.rescaleX e := rfl

/-! ### exponents -/

theorem up_exp (a : Amount) (e : Nat) : (up a e).exp = max a.exp e := by
  unfold up; split
  · simp; omega
  · omega

theorem up_self (a : Amount) (e : Nat) (h : e ≤ a.exp) : up a e = a := by
  unfold up
  have : ¬ e > a.exp := by omega
  simp [this]

theorem rescaleX_idem (a : Amount) (c : ℕ) : (a.rescaleX c).rescaleX c = a.rescaleX c :=
  rescaleX_self _ c (rescaleX_exp _ _)

theorem up_up_le (a : Amount) (e1 e2 : ℕ) (h : e1 ≤ e2) : up (up a e1) e2 = up a e2 := by
  unfold up
  by_cases h1 : e1 > a.exp
  · have h2 : e2 > a.exp := by omega
    have h3 : e2 > e1 ∨ e2 = e1 := by omega
    rcases h3 with h3 | rfl
    · have e : e2 - a.exp = (e1 - a.exp) + (e2 - e1) := by omega
      simp only [h1, h2, h3, if_true, mul_assoc, e, pow10_add]
    · simp [h1]
  · simp only [h1, if_false]

theorem up_up (a : Amount) (e : ℕ) : up (up a e) e = up a e := up_up_le a e e le_rfl

theorem down_self {o : Ops} (a : Amount) (e : Nat) (h : a.exp ≤ e) : down o a e = a := by
  unfold down
  have : ¬ e < a.exp := by omega
  simp [this]

theorem down_exp_le (a : Amount) (e : ℕ) : (down exactOps a e).exp ≤ e := by
  unfold down
  split_ifs
  · simp
  · omega

@[simp] theorem add_exp (o : Ops) (a b : Amount) : (add o a b).exp = a.exp := rfl
@[simp] theorem sub_exp (o : Ops) (a b : Amount) : (sub o a b).exp = a.exp := rfl
@[simp] theorem neg_exp (a : Amount) : (neg a).exp = a.exp := rfl
@[simp] theorem pctOf_exp (p : Pct) (a : Amount) : (pctOf exactOps p a).exp = a.exp := rfl

theorem foldl_exp (op : Amount → Amount → Amount) (hop : ∀ a b, (op a b).exp = a.exp) (xs : List Amount) (z : Amount) :
    (xs.foldl op z).exp = z.exp := by
  induction xs generalizing z with
  | nil => rfl
  | cons x xs ih => rw [List.foldl_cons, ih, hop]

theorem neg_toRat (a : Amount) : (neg a).toRat = -a.toRat := toRat_neg a.value a.exp

theorem rnd_neg (e : ℕ) (q : ℚ) : rnd e (-q) = neg (rnd e q) := by
  simp [rnd, neg, roundTo_neg]

/-! ### amounts at a common exponent -/

theorem amount_eq_of_value {a b : Amount} (hv : a.value = b.value) (he : a.exp = b.exp) : a = b := by
  cases a; cases b; simp_all

theorem amtEq_same_exp (a b : Amount) (h : a.exp = b.exp) : amtEq a b = (a.value == b.value) := by
  unfold amtEq
  simp only [h, Nat.lt_irrefl, if_false]
  rw [up_self a b.exp (by omega), up_self b b.exp (by omega)]

theorem sub_same (a b : Amount) (h : b.exp = a.exp) :
    sub exactOps a b = ⟨a.value - b.value, a.exp⟩ := by
  unfold sub
  rw [exact_rescale, rescaleX_self b a.exp h]

theorem calcLines_eq (o : Ops) (cur : String) (c : Nat) (rates : List XRate) (r : Rule) (ls : List Line) :
    calcLines o cur c rates r ls = mapOk (calcLine o cur c rates r) ls := by
  induction ls with
  | nil => rfl
  | cons l ls ih =>
    simp only [calcLines, mapOk, ih]
    cases calcLine o cur c rates r l with
    | error e => rfl
    | ok y => cases mapOk (calcLine o cur c rates r) ls <;> rfl

theorem calcSubLines_eq (o : Ops) (cur : String) (c : Nat) (rates : List XRate) (r : Rule) (ls : List SubLine) :
    calcSubLines o cur c rates r ls = mapOk (calcSubLine o cur c rates r) ls := by
  induction ls with
  | nil => rfl
  | cons l ls ih =>
    simp only [calcSubLines, mapOk, ih]
    cases calcSubLine o cur c rates r l with
    | error e => rfl
    | ok y => cases mapOk (calcSubLine o cur c rates r) ls <;> rfl

theorem removeIncluded_eq (o : Ops) (k : String) (rows : List Row) :
    removeIncluded o k rows = mapOk (removeIncludedRow o k) rows := by
  induction rows with
  | nil => rfl
  | cons l ls ih =>
    simp only [removeIncluded, mapOk, ih]
    cases removeIncludedRow o k l with
    | error e => rfl
    | ok y => cases mapOk (removeIncludedRow o k) ls <;> rfl

section
variable (o : Ops) (cur : String) (c : ℕ) (rates : List XRate) (r : Rule)

theorem calcSubLines_ok_iff (sls bd : List SubLine) :
    calcSubLines o cur c rates r sls = .ok bd ↔
      List.Forall₂ (fun sl sl' => calcSubLine o cur c rates r sl = .ok sl') sls bd := by
  rw [calcSubLines_eq, mapOk_ok_iff]

theorem calcLines_ok_iff (ls out : List Line) :
    calcLines o cur c rates r ls = .ok out ↔
      List.Forall₂ (fun l l' => calcLine o cur c rates r l = .ok l') ls out := by
  rw [calcLines_eq, mapOk_ok_iff]

variable {o cur c rates r}

theorem calcLines_mem {ls out : List Line} (h : calcLines o cur c rates r ls = .ok out) {l1 : Line} (hl1 : l1 ∈ out) :
    ∃ l ∈ ls, calcLine o cur c rates r l = .ok l1 :=
  forall₂_of_mem_right ((calcLines_ok_iff ..).mp h) hl1

theorem calcLines_mem_left {ls out : List Line} (h : calcLines o cur c rates r ls = .ok out) {l : Line} (hl : l ∈ ls) :
    ∃ l1 ∈ out, calcLine o cur c rates r l = .ok l1 :=
  forall₂_of_mem_left ((calcLines_ok_iff ..).mp h) hl

theorem calcSubLines_mem {sls bd : List SubLine} (h : calcSubLines o cur c rates r sls = .ok bd) {sl1 : SubLine}
    (hm : sl1 ∈ bd) : ∃ sl ∈ sls, calcSubLine o cur c rates r sl = .ok sl1 :=
  forall₂_of_mem_right ((calcSubLines_ok_iff ..).mp h) hm

theorem calcSubLines_mem_left {sls bd : List SubLine} (h : calcSubLines o cur c rates r sls = .ok bd) {sl : SubLine}
    (hm : sl ∈ sls) : ∃ sl1 ∈ bd, calcSubLine o cur c rates r sl = .ok sl1 :=
  forall₂_of_mem_left ((calcSubLines_ok_iff ..).mp h) hm

end

/-! ### line discounts and charges

The rows do not depend on the running total: the loop is a `map` of the row step and a fold over the amounts. -/

/-- one row of `calculateLineDiscounts` -/
def discountRow (o : Ops) (r : Rule) (c : ℕ) (sum : Amount) (d : LineAdj) : LineAdj := adjUp c (adjPct o r c sum d)

/-- one row of `calculateLineCharges` -/
def chargeRow (o : Ops) (r : Rule) (c : ℕ) (qty sum : Amount) (d : LineAdj) : LineAdj :=
  adjUp c (adjRate o qty (adjPct o r c sum d))

theorem lineDiscounts_eq (o : Ops) (r : Rule) (c : Nat) (sum : Amount) (ds : List LineAdj) (total : Amount) :
    lineDiscounts o r c sum ds total =
      (ds.map (discountRow o r c sum), ((ds.map (discountRow o r c sum)).map (·.amount)).foldl (sub o) total) := by
  induction ds generalizing total with
  | nil => rfl
  | cons d ds ih => simp only [lineDiscounts, lineDiscountStep, discountRow, ih, List.map_cons, List.foldl_cons]

theorem lineCharges_eq (o : Ops) (r : Rule) (c : Nat) (qty sum : Amount) (ds : List LineAdj) (total : Amount) :
    lineCharges o r c qty sum ds total =
      (ds.map (chargeRow o r c qty sum), ((ds.map (chargeRow o r c qty sum)).map (·.amount)).foldl (add o) total) := by
  induction ds generalizing total with
  | nil => rfl
  | cons d ds ih => simp only [lineCharges, lineChargeStep, chargeRow, ih, List.map_cons, List.foldl_cons]

/-! ### the price of an item in the document's currency -/

/-- an item priced in the document's currency carries that currency's number of decimals (the encoding of `Item.sub`) -/
def ItemWF (cur : String) (c : ℕ) (it : Item) : Prop := (it.cur == "" || it.cur == cur) = true → c ≤ it.sub

/-- the encoding of an exchange rate: `toSub` is the number of decimals of the destination currency -/
def ratesOk (cur : String) (c : ℕ) (rates : List XRate) : Prop := ∀ r ∈ rates, r.to = cur → c ≤ r.toSub

theorem convert_exp (r : XRate) (a : Amount) : (convert exactOps r a).exp = r.toSub := by
  unfold convert
  dsimp only
  split_ifs <;> simp only [exact_mul, mulX_exp, up_exp] <;> omega

theorem itemPrice_same {o : Ops} (cur : String) (c : ℕ) (rates : List XRate) (it : Item) (p : Amount)
    (hcur : (it.cur == "" || it.cur == cur) = true) :
    itemPrice o cur c rates it p = .ok { it with price := some (up p it.sub) } := by
  unfold itemPrice
  simp only [hcur, if_true]

theorem itemPrice_some {o : Ops} {cur : String} {c : ℕ} {rates : List XRate} {it it2 : Item} {p : Amount}
    (h : itemPrice o cur c rates it p = .ok it2) :
    (it2.cur == "" || it2.cur == cur) = true ∧ ∃ p1, it2.price = some p1 := by
  unfold itemPrice at h
  split_ifs at h with hcur
  · cases h; exact ⟨hcur, _, rfl⟩
  · split at h
    · cases h; exact ⟨by simp, _, rfl⟩
    · split at h
      · cases h; exact ⟨by simp, _, rfl⟩
      · cases h

/-- the price is raised to the item's `sub`, or converted at a rate into `cur` -/
theorem itemPrice_dec {cur : String} {c : ℕ} {rates : List XRate} {it it2 : Item} {p : Amount}
    (h : itemPrice exactOps cur c rates it p = .ok it2) (hit : ItemWF cur c it) (hr : ratesOk cur c rates) :
    c ≤ it2.sub ∧ ∀ p1, it2.price = some p1 → c ≤ p1.exp := by
  unfold itemPrice at h
  split_ifs at h with hcur
  · cases h
    exact ⟨hit hcur, fun _ e => by cases e; rw [up_exp]; have := hit hcur; omega⟩
  · split at h
    · cases h
      exact ⟨Nat.le_refl _, fun _ e => by cases e; rw [up_exp]; omega⟩
    · split at h
      · rename_i r hf
        cases h
        refine ⟨Nat.le_refl _, fun _ e => ?_⟩
        cases e
        rw [convert_exp]
        have hp := List.find?_some hf
        simp only [Bool.and_eq_true, beq_iff_eq] at hp
        exact hr r (List.mem_of_find?_eq_some hf) hp.2
      · cases h

/-! ### a line: the walk to its item and price, then the figures -/

section
variable (o : Ops) (cur : String) (c : Nat) (rates : List XRate) (r : Rule)

/-- the figures of a line or sub-line -/
structure Figures where
  sum : Amount
  discounts : List LineAdj
  charges : List LineAdj
  total : Amount

def figures (qty price : Amount) (ds cs : List LineAdj) : Figures :=
  let sum := applyRule o r c (o.mul price qty)
  let D := lineDiscounts o r c sum ds sum
  let C := lineCharges o r c qty sum cs D.2
  { sum, discounts := D.1, charges := C.1, total := C.2 }

theorem figures_eq (qty price : Amount) (ds cs : List LineAdj) :
    figures o c r qty price ds cs =
      let sum := applyRule o r c (o.mul price qty)
      { sum, discounts := ds.map (discountRow o r c sum), charges := cs.map (chargeRow o r c qty sum),
        total := ((cs.map (chargeRow o r c qty sum)).map (·.amount)).foldl (add o)
          (((ds.map (discountRow o r c sum)).map (·.amount)).foldl (sub o) sum) } := by
  simp only [figures, lineDiscounts_eq, lineCharges_eq]

theorem figures_total_exp (qty price : Amount) (ds cs : List LineAdj) :
    (figures o c r qty price ds cs).total.exp = (figures o c r qty price ds cs).sum.exp := by
  simp only [figures_eq, foldl_exp _ (add_exp _), foldl_exp _ (sub_exp _)]

def subOut (sl : SubLine) (it' : Item) (p : Amount) : SubLine :=
  let f := figures o c r sl.qty (if r == .precise then up p (c + E) else p) sl.discounts sl.charges
  { sl with item := some it', discounts := f.discounts, charges := f.charges, sum := some f.sum, total := some f.total }

theorem calcSubLine_eq (sl : SubLine) :
    calcSubLine o cur c rates r sl =
      match sl.item with
      | none => .ok sl
      | some it =>
        match it.price with
        | none => .ok { sl with sum := none, total := none }
        | some p0 =>
          match itemPrice o cur c rates it p0 with
          | .error e => .error e
          | .ok it' => .ok (subOut o c r sl it' (it'.price.getD p0)) := by
  unfold calcSubLine subOut figures
  rfl

theorem calcSubLine_out {sl sl2 : SubLine} (h : calcSubLine o cur c rates r sl = .ok sl2) :
    (sl.item = none ∧ sl2 = sl) ∨
    (∃ it, sl.item = some it ∧ it.price = none ∧ sl2 = { sl with sum := none, total := none }) ∨
    ∃ it p0 it', sl.item = some it ∧ it.price = some p0 ∧ itemPrice o cur c rates it p0 = .ok it' ∧
      sl2 = subOut o c r sl it' (it'.price.getD p0) := by
  rw [calcSubLine_eq] at h
  split at h
  · exact .inl ⟨‹_›, by cases h; rfl⟩
  · split at h
    · exact .inr (.inl ⟨_, ‹_›, ‹_›, by cases h; rfl⟩)
    · split at h
      · cases h
      · exact .inr (.inr ⟨_, _, _, ‹_›, ‹_›, ‹_›, by cases h; rfl⟩)

/-- the item a line is priced with: its own, or — when sub-lines have totals — one priced with their sum -/
def lineItem (l : Line) (bd : List SubLine) (it0 : Item) : Item :=
  if l.breakdown.isEmpty || (bd.filterMap (·.total)).isEmpty then it0 else
  { it0 with cur := cur, sub := c,
             price := some (o.rescale ((bd.filterMap (·.total)).foldl (accum o) ⟨0, c⟩) (subLinePrecision bd)),
             alts := [] }

theorem lineItem_own {l : Line} {bd : List SubLine} (it0 : Item)
    (h : (l.breakdown.isEmpty || (bd.filterMap (·.total)).isEmpty) = true) : lineItem o cur c l bd it0 = it0 :=
  if_pos h

theorem lineItem_priced {l : Line} {bd : List SubLine} (it0 : Item)
    (h : (l.breakdown.isEmpty || (bd.filterMap (·.total)).isEmpty) = false) :
    lineItem o cur c l bd it0 =
      { it0 with cur := cur, sub := c,
                 price := some (o.rescale ((bd.filterMap (·.total)).foldl (accum o) ⟨0, c⟩) (subLinePrecision bd)),
                 alts := [] } :=
  if_neg (Bool.eq_false_iff.mp h)

theorem lineItem_dec (l : Line) (bd : List SubLine) {it0 : Item} (h : ItemWF cur c it0) :
    ItemWF cur c (lineItem o cur c l bd it0) := by
  unfold lineItem
  split
  · exact h
  · exact fun _ => Nat.le_refl c

def lineOut (l : Line) (bd : List SubLine) (it2 : Item) (p : Amount) : Line :=
  let f := figures o c r l.qty (up p (if r == .precise then c + E else c)) l.discounts l.charges
  { l with item := some it2, breakdown := bd, discounts := f.discounts, charges := f.charges,
           sum := some f.sum, total := some f.total }

theorem calcLine_eq (l : Line) :
    calcLine o cur c rates r l =
      match l.item with
      | none => .ok l
      | some it0 =>
        match calcSubLines o cur c rates r l.breakdown with
        | .error e => .error e
        | .ok bd =>
          match (lineItem o cur c l bd it0).price with
          | none => .ok { l with item := some { lineItem o cur c l bd it0 with alts := [] }, breakdown := bd,
                                 sum := none, total := none }
          | some p0 =>
            match itemPrice o cur c rates (lineItem o cur c l bd it0) p0 with
            | .error e => .error e
            | .ok it2 => .ok (lineOut o c r l bd it2 (it2.price.getD p0)) := by
  unfold calcLine lineItem lineOut figures
  rfl

theorem calcLine_no_item {l l1 : Line} (h : calcLine o cur c rates r l = .ok l1) (hi : l.item = none) : l1 = l := by
  simp only [calcLine, hi] at h
  exact (Except.ok.inj h).symm

theorem calcLine_out {l l1 : Line} {it0 : Item} (h : calcLine o cur c rates r l = .ok l1) (hi : l.item = some it0) :
    ∃ bd, calcSubLines o cur c rates r l.breakdown = .ok bd ∧
      (((lineItem o cur c l bd it0).price = none ∧
          l1 = { l with item := some { lineItem o cur c l bd it0 with alts := [] }, breakdown := bd,
                        sum := none, total := none }) ∨
        ∃ p0 it2, (lineItem o cur c l bd it0).price = some p0 ∧
          itemPrice o cur c rates (lineItem o cur c l bd it0) p0 = .ok it2 ∧
          l1 = lineOut o c r l bd it2 (it2.price.getD p0)) := by
  rw [calcLine_eq, hi] at h
  simp only at h
  split at h
  · cases h
  · refine ⟨_, ‹_›, ?_⟩
    split at h
    · exact .inl ⟨‹_›, by cases h; rfl⟩
    · split at h
      · cases h
      · exact .inr ⟨_, _, ‹_›, ‹_›, by cases h; rfl⟩

end

/-- the converse of `calcLine_out` for a line priced in the document's currency -/
theorem calcLine_of_price {o : Ops} {cur : String} {c : ℕ} {rates : List XRate} {r : Rule} {l : Line} {it0 : Item}
    {bd : List SubLine} {p0 : Amount} (hi : l.item = some it0)
    (hbd : calcSubLines o cur c rates r l.breakdown = .ok bd)
    (hp : (lineItem o cur c l bd it0).price = some p0)
    (hcur : ((lineItem o cur c l bd it0).cur == "" || (lineItem o cur c l bd it0).cur == cur) = true) :
    calcLine o cur c rates r l =
      .ok (lineOut o c r l bd { lineItem o cur c l bd it0 with
          price := some (up p0 (lineItem o cur c l bd it0).sub) } (up p0 (lineItem o cur c l bd it0).sub)) := by
  simp only [calcLine_eq, hi, hbd, hp, itemPrice_same cur c rates _ p0 hcur, Option.getD_some]

/-! ### what a step leaves alone -/

theorem map_eq_self {α : Type} {f : α → α} {l : List α} (h : ∀ x ∈ l, f x = x) : l.map f = l :=
  (List.map_congr_left h).trans (List.map_id l)

theorem calcDue_percent (o : Ops) (c : Nat) (payable : Amount) (x : Due) :
    (calcDue o c payable x).percent = x.percent := by
  unfold calcDue
  cases hp : x.percent with
  | none => simp [hp]
  | some p => by_cases hz : pctIsZero p = true <;> simp [hz, hp]

theorem adjPct_rate {o : Ops} (r : Rule) (c : ℕ) (sum : Amount) (d : LineAdj) : (adjPct o r c sum d).rate = d.rate := by
  unfold adjPct; split
  · split
    · rfl
    · split <;> rfl
  · rfl

theorem docAdj_keeps {o : Ops} (r : Rule) (c : ℕ) (sum : Amount) (x : DocAdj) :
    (docAdj o r c sum x).percent = x.percent ∧ (docAdj o r c sum x).taxes = x.taxes := by
  unfold docAdj
  split
  · split
    · exact ⟨rfl, rfl⟩
    · split <;> exact ⟨rfl, rfl⟩
  · exact ⟨rfl, rfl⟩

theorem docAdj_taxes {o : Ops} (r : Rule) (c : ℕ) (sum : Amount) (x : DocAdj) :
    (docAdj o r c sum x).taxes = x.taxes := (docAdj_keeps r c sum x).2

theorem prepareRow_taxes (c : ℕ) (rw : Row) : (prepareRow c rw).taxes = rw.taxes := by
  unfold prepareRow
  split <;> rfl

theorem calcLine_taxes {o : Ops} (cur : String) (c : ℕ) (rates : List XRate) (r : Rule) (l l1 : Line)
    (h : calcLine o cur c rates r l = .ok l1) : l1.taxes = l.taxes := by
  cases hi : l.item with
  | none => rw [calcLine_no_item _ _ _ _ _ h hi]
  | some it0 => obtain ⟨bd, -, ⟨-, rfl⟩ | ⟨_, _, -, -, rfl⟩⟩ := calcLine_out _ _ _ _ _ h hi <;> rfl

theorem roundLine_item_taxes (o : Ops) (l : Line) : (roundLine o l).item = l.item ∧ (roundLine o l).taxes = l.taxes := by
  unfold roundLine
  split
  · exact ⟨rfl, rfl⟩
  · split <;> exact ⟨rfl, rfl⟩

theorem roundLine_item (o : Ops) (l : Line) : (roundLine o l).item = l.item := (roundLine_item_taxes o l).1

theorem roundLine_taxes {o : Ops} (l : Line) : (roundLine o l).taxes = l.taxes := (roundLine_item_taxes o l).2

/-! ### a total that is presented only when there are rows

`calculateDiscountSum`, `calculateChargeSum` and `totalAdvance` are one function of the amounts. -/

def optSum (o : Ops) (c : ℕ) (xs : List Amount) : Option Amount :=
  if xs.isEmpty then none else some (xs.foldl (accum o) ⟨0, c⟩)

theorem adjSum_eq (o : Ops) (c : ℕ) (ds : List DocAdj) : adjSum o c ds = optSum o c (ds.map (·.amount)) := by
  simp only [adjSum, optSum, List.isEmpty_map]

theorem advanceTotal_eq (o : Ops) (c : ℕ) (as : List Advance) :
    advanceTotal o c as = optSum o c (as.map (·.amount)) := by
  simp only [advanceTotal, optSum, List.isEmpty_map]

theorem optSum_eq_none {o : Ops} {c : ℕ} {xs : List Amount} : optSum o c xs = none ↔ xs = [] := by
  cases xs <;> simp [optSum]

theorem optSum_eq_some {o : Ops} {c : ℕ} {xs : List Amount} {s : Amount} (h : optSum o c xs = some s) :
    s = xs.foldl (accum o) ⟨0, c⟩ := by
  unfold optSum at h
  split at h
  · cases h
  · exact (Option.some.inj h).symm

/-! ### update the first match, or append

`rateTotalFor` looks for the category with the combo's code and in it for the rate group that
`matches`, appending a new one where there is none; `calculateBaseRateTotals` then writes the base
through the pointer it got.  Both levels are this one function. -/

/-- the accumulation step of the tax summary (bases, category amounts and surcharges, the tax sum):
`acc.matchRoundingPrecision(x).Add(x)` -/
def taxStep (o : Ops) (r : Rule) (a x : Amount) : Amount := add o (mrp r a x) x

theorem taxStep_of_ne (o : Ops) {r : Rule} (hr : r ≠ .currency) : taxStep o r = accum o := by
  cases r <;> first | rfl | exact absurd rfl hr

theorem addToRates_eq (o : Ops) (r : Rule) (c : Nat) (cb : Combo) (t : Amount) (rts : List RateTotal) :
    addToRates o r c cb t rts =
      upsert (rtMatches · cb) (fun rt => { rt with base := taxStep o r rt.base t })
        { newRate c cb with base := taxStep o r (newRate c cb).base t } rts :=
  eq_updFirst _ rfl (fun _ _ => rfl) rts

theorem addToCats_eq (o : Ops) (r : Rule) (c : Nat) (cb : Combo) (t : Amount) (cats : List CatTotal) :
    addToCats o r c cb t cats =
      upsert (·.code == cb.cat) (fun ct => { ct with rates := addToRates o r c cb t ct.rates })
        { code := cb.cat, retained := cb.retained, rates := addToRates o r c cb t [], amount := ⟨0, c⟩, surcharge := none,
          precise := ⟨0, c⟩ }
        cats :=
  eq_updFirst _ rfl (fun _ _ => rfl) cats

/-- the (combo, total) pairs in the order `calculateBaseRateTotals` visits them -/
def pairsOf (rows : List Row) : List (Combo × Amount) :=
  rows.flatMap (fun rw => rw.taxes.map (fun cb => (cb, rw.total)))

theorem baseRateTotals_eq (o : Ops) (r : Rule) (c : Nat) (rows : List Row) :
    baseRateTotals o r c rows = (pairsOf rows).foldl (fun cats x => addToCats o r c x.1 x.2 cats) [] := by
  unfold baseRateTotals
  generalize ([] : List CatTotal) = cats
  induction rows generalizing cats with
  | nil => rfl
  | cons rw rows ih =>
    simp only [List.foldl_cons, pairsOf, List.flatMap_cons, List.foldl_append]
    rw [ih, List.foldl_map]
    rfl

theorem baseRateTotals_ind {o : Ops} {r : Rule} {c : ℕ} {rows : List Row} (I : List (Combo × Amount) → List CatTotal → Prop)
    (h0 : I [] [])
    (step : ∀ ps x cats, x ∈ pairsOf rows → I ps cats → I (ps ++ [x]) (addToCats o r c x.1 x.2 cats)) :
    I (pairsOf rows) (baseRateTotals o r c rows) := by
  rw [baseRateTotals_eq]
  generalize pairsOf rows = l at step
  suffices ∀ ps cats, I ps cats → I (ps ++ l) (l.foldl (fun cats x => addToCats o r c x.1 x.2 cats) cats) by
    simpa using this [] [] h0
  induction l with
  | nil => intro ps cats h; simpa using h
  | cons x l ih =>
    intro ps cats h
    simpa using ih (fun ps y cats hy => step ps y cats (by simp [hy])) _ _ (step ps x cats (by simp) h)

theorem baseRateTotals_forall {o : Ops} {r : Rule} {c : ℕ} {rows : List Row} (P : String → Bool → Prop)
    (h : ∀ rw ∈ rows, ∀ cb ∈ rw.taxes, P cb.cat cb.retained) :
    ∀ ct ∈ baseRateTotals o r c rows, P ct.code ct.retained := by
  refine baseRateTotals_ind (fun _ cats => ∀ ct ∈ cats, P ct.code ct.retained) (fun _ h => by simp at h)
    fun _ x cats hx hc => ?_
  simp only [pairsOf, List.mem_flatMap, List.mem_map] at hx
  obtain ⟨rw, hrw, cb, hcb, rfl⟩ := hx
  rw [addToCats_eq]
  exact forall_updFirst hc (fun ct hct _ => hc ct hct) (by simpa using h rw hrw cb hcb)

theorem baseRateTotals_retained {ret : String → Bool} (o : Ops) (r : Rule) (c : ℕ) (rows : List Row)
    (h : ∀ rw ∈ rows, ∀ cb ∈ rw.taxes, cb.retained = ret cb.cat) :
    ∀ ct ∈ baseRateTotals o r c rows, ct.retained = ret ct.code :=
  baseRateTotals_forall (fun k b => b = ret k) h

/-! ### the three stages of `calculate`

Each is a traversal that may fail followed by a total function: `calcLines` then `preOf`, `preparedRows` then
`taxSummary`, `pre` then `outOf`.  Taking a success apart, putting one together, exchanging the document for one
that reads the same (`pre_congr`) and commuting with a map are then facts about `Except.map` / `Except.bind`. -/

section
variable (o : Ops)

/-- sum − discounts + charges, each of the two only when there are such rows -/
def total2Of (sum : Amount) (dsum csum : Option Amount) : Amount :=
  let total1 := match dsum with | some x => sub o sum x | none => sum
  match csum with | some x => add o total1 x | none => total1

theorem total2Of_exp (sum : Amount) (dsum csum : Option Amount) : (total2Of o sum dsum csum).exp = sum.exp := by
  unfold total2Of
  split <;> split <;> rfl

theorem rawTotals_exps (d : Doc) (p : Pre) (tx : TaxTotal) :
    let t := rawTotals o d p tx
    t.total.exp = p.total2.exp ∧ t.totalWithTax.exp = p.total2.exp ∧ t.payable.exp = p.total2.exp ∧
    ∀ x, t.due = some x → x.exp = p.total2.exp := by
  have h1 : (rawTotals o d p tx).total.exp = p.total2.exp := by
    simp only [rawTotals]; split <;> rfl
  have h3 : (rawTotals o d p tx).payable.exp = p.total2.exp := by
    simp only [rawTotals] at h1 ⊢; split <;> exact h1
  refine ⟨h1, h1, h3, fun x hx => ?_⟩
  obtain ⟨a, -, rfl⟩ := Option.map_eq_some_iff.mp (show (rawTotals o d p tx).advances.map _ = some x from hx)
  exact h3

def preOf (d : Doc) (lines : List Line) : Pre :=
  let sum := lineSum o d.c lines
  let discounts := d.discounts.map (docAdj o d.rule d.c sum)
  let charges := d.charges.map (docAdj o d.rule d.c sum)
  let dsum := adjSum o d.c discounts
  let csum := adjSum o d.c charges
  { lines, sum, discounts, charges, dsum, csum, total2 := total2Of o sum dsum csum,
    rows := taxRows lines discounts charges }

theorem pre_eq (d : Doc) : pre o d = (calcLines o d.cur d.c d.rates d.rule d.lines).map (preOf o d) := by
  unfold pre
  cases calcLines o d.cur d.c d.rates d.rule d.lines <;> rfl

theorem taxRows_nonempty (lines : List Line) (ds cs : List DocAdj) :
    (taxRows lines ds cs).isEmpty = false ↔ (∃ l ∈ lines, l.total.isSome = true) ∨ ds ≠ [] ∨ cs ≠ [] := by
  simp only [taxRows, List.isEmpty_eq_false_iff_exists_mem, List.mem_append, List.mem_filterMap, List.mem_map,
    Option.map_eq_some_iff, Option.isSome_iff_exists]
  constructor
  · rintro ⟨rw, (⟨l, hl, t, ht, -⟩ | ⟨x, hx, -⟩) | ⟨x, hx, -⟩⟩
    · exact .inl ⟨l, hl, t, ht⟩
    · exact .inr (.inl (List.ne_nil_of_mem hx))
    · exact .inr (.inr (List.ne_nil_of_mem hx))
  · rintro (⟨l, hl, t, ht⟩ | h | h)
    · exact ⟨_, .inl (.inl ⟨l, hl, t, ht, rfl⟩)⟩
    · obtain ⟨x, hx⟩ := List.exists_mem_of_ne_nil _ h
      exact ⟨_, .inl (.inr ⟨x, hx, rfl⟩)⟩
    · obtain ⟨x, hx⟩ := List.exists_mem_of_ne_nil _ h
      exact ⟨_, .inr ⟨x, hx, rfl⟩⟩

/-- `prepareLines` and `removeIncludedTaxes` -/
def preparedRows (c : ℕ) (inc : Option String) (rows : List Row) : Except CalcErr (List Row) :=
  match inc with
  | none => .ok (rows.map (prepareRow c))
  | some k => removeIncluded o k (rows.map (prepareRow c))

/-- the tax summary of rows as `calculateBaseRateTotals` receives them: prepared, the included tax taken out -/
def taxSummary (r : Rule) (c : ℕ) (rows : List Row) : TaxTotal :=
  roundTax o c ((baseRateTotals o r c rows).map (catAmounts o r c))
    (finalSum o r c ((baseRateTotals o r c rows).map (catAmounts o r c)))

theorem taxTotal_eq (r : Rule) (c : ℕ) (inc : Option String) (rows : List Row) :
    taxTotal o r c inc rows = (preparedRows o c inc rows).map (taxSummary o r c) := by
  unfold taxTotal preparedRows
  cases inc with
  | none => rfl
  | some k => simp only; cases removeIncluded o k (rows.map (prepareRow c)) <;> rfl

def outOf (d : Doc) (p : Pre) : Except CalcErr Out :=
  if p.rows.isEmpty then
    .ok { lines := p.lines, discounts := p.discounts, charges := p.charges, advances := d.advances, dues := d.dues,
          totals := none }
  else (taxTotal o d.rule d.c d.includes p.rows).map (finish o d p)

theorem calculate_eq (d : Doc) : calculate o d = (pre o d).bind (outOf o d) := by
  unfold calculate outOf
  cases pre o d with
  | error e => rfl
  | ok p =>
    show (if _ then _ else _) = (if _ then _ else _)
    by_cases h : p.rows.isEmpty = true
    · rw [if_pos h, if_pos h]
    · rw [if_neg h, if_neg h]
      cases taxTotal o d.rule d.c d.includes p.rows <;> rfl

end

/-! ### a success taken apart (any `Ops`) -/

section
variable {o : Ops}

theorem pre_ok_iff {d : Doc} {p : Pre} :
    pre o d = .ok p ↔ ∃ lines, calcLines o d.cur d.c d.rates d.rule d.lines = .ok lines ∧ p = preOf o d lines := by
  rw [pre_eq, Except.map_eq_ok]

theorem taxTotal_ok_iff {r : Rule} {c : ℕ} {inc : Option String} {rows : List Row} {tx : TaxTotal} :
    taxTotal o r c inc rows = .ok tx ↔ ∃ rows3, preparedRows o c inc rows = .ok rows3 ∧ tx = taxSummary o r c rows3 := by
  rw [taxTotal_eq, Except.map_eq_ok]

theorem calculate_ok {d : Doc} {out : Out} (h : calculate o d = .ok out) :
    ∃ p, pre o d = .ok p ∧
      ((p.rows.isEmpty = true ∧ out = ⟨p.lines, p.discounts, p.charges, d.advances, d.dues, none⟩) ∨
       (p.rows.isEmpty = false ∧ ∃ tx, taxTotal o d.rule d.c d.includes p.rows = .ok tx ∧ out = finish o d p tx)) := by
  rw [calculate_eq, Except.bind_eq_ok] at h
  obtain ⟨p, hp, ho⟩ := h
  refine ⟨p, hp, ?_⟩
  unfold outOf at ho
  split at ho
  · exact .inl ⟨‹_›, (Except.ok.inj ho).symm⟩
  · exact .inr ⟨Bool.eq_false_iff.mpr ‹_›, Except.map_eq_ok.mp ho⟩

theorem pre_congr (d d' : Doc) (p : Pre) (hpre : pre o d = .ok p)
    (hcur : d'.cur = d.cur) (hc : d'.c = d.c) (hrates : d'.rates = d.rates) (hrule : d'.rule = d.rule)
    (hl : calcLines o d.cur d.c d.rates d.rule d'.lines = .ok p.lines)
    (hd : d'.discounts.map (docAdj o d.rule d.c p.sum) = p.discounts)
    (hch : d'.charges.map (docAdj o d.rule d.c p.sum) = p.charges) :
    pre o d' = .ok p := by
  obtain ⟨lines, -, rfl⟩ := pre_ok_iff.mp hpre
  rw [pre_eq, hcur, hc, hrates, hrule, hl]
  simp only [preOf] at hd hch
  simp only [Except.map, preOf, hc, hrule, hd, hch]

theorem calculate_of_pre (d : Doc) (p : Pre) (tx : TaxTotal) (hpre : pre o d = .ok p)
    (hne : p.rows.isEmpty = false) (htx : taxTotal o d.rule d.c d.includes p.rows = .ok tx) :
    calculate o d = .ok (finish o d p tx) := by
  rw [calculate_eq, hpre]
  show outOf o d p = _
  rw [outOf, hne, htx]
  rfl

end

/-- `calculate exactOps d = .ok out` with `out.totals = some t`: what `pre` and `taxTotal` returned, the output, its totals -/
structure Calculated (d : Doc) (out : Out) (t : Totals) (p : Pre) (tx : TaxTotal) : Prop where
  pre_ok : pre exactOps d = .ok p
  rows : p.rows.isEmpty = false
  tax_ok : taxTotal exactOps d.rule d.c d.includes p.rows = .ok tx
  out : out = finish exactOps d p tx
  totals : t = roundTotals exactOps d.c (rawTotals exactOps d p tx)

theorem calculated {d : Doc} {out : Out} {t : Totals} (h : calculate exactOps d = .ok out) (ht : out.totals = some t) :
    ∃ p tx, Calculated d out t p tx := by
  obtain ⟨p, hp, ⟨-, rfl⟩ | ⟨hne, tx, htx, rfl⟩⟩ := calculate_ok h
  · cases ht
  · exact ⟨p, tx, hp, hne, htx, rfl, (Option.some.inj ht).symm⟩

theorem calculate_ok_no_totals (d : Doc) (out : Out)
    (h : calculate exactOps d = .ok out) (ht : out.totals = none) :
    ∃ p, pre exactOps d = .ok p ∧ p.rows.isEmpty = true := by
  obtain ⟨p, hp, ⟨he, -⟩ | ⟨-, tx, -, rfl⟩⟩ := calculate_ok h
  · exact ⟨p, hp, he⟩
  · cases ht

end GoblVerif.Calc
