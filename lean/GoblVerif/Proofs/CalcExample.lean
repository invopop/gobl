/-
  One concrete document for the non-vacuity examples of Props/C02 and Props/C03.
-/
import GoblVerif.Model.Calc

namespace GoblVerif.Calc

/-- EUR, currency rule, prices include VAT.  Line 1: 3 × 10.005 (a price finer
than the currency), 10 % discount, fixed 1.00 charge, VAT 21 % with a 5.2 %
surcharge.  Line 2: priced by a breakdown of two rows (one with a 2.5 % discount
on an explicit base, one in USD through an exchange rate), VAT 10 % and retained
IRPF 15 %.  Line 3: VAT 21.0 % without surcharge (a group of its own next to
line 1's).  A 5 % document discount taxed at VAT 10 %, a fixed document charge
finer than the currency (1.2345), external rounding 0.01, a 30 % and a fixed
5.00 advance, a 50 % due date. -/
def readdExample : Doc :=
  let vat (p : Int) (e : Nat) (s : Option Pct) : Combo :=
    { cat := "VAT", country := "", key := "", percent := some ⟨⟨p, e⟩⟩, surcharge := s, ext := "", retained := false }
  let irpf : Combo :=
    { cat := "IRPF", country := "", key := "", percent := some ⟨⟨15, 2⟩⟩, surcharge := none, ext := "", retained := true }
  { cur := "EUR", c := 2, rule := .currency, includes := some "VAT",
    lines := [
      { qty := ⟨3, 0⟩, item := some { price := some ⟨10005, 3⟩, cur := "", sub := 2, alts := [] },
        discounts := [{ percent := some ⟨⟨10, 2⟩⟩, base := none, amount := ⟨0, 0⟩, rate := none, quantity := none }],
        charges := [{ percent := none, base := none, amount := ⟨100, 2⟩, rate := none, quantity := none }],
        breakdown := [], taxes := [vat 21 2 (some ⟨⟨52, 3⟩⟩)] },
      { qty := ⟨15, 1⟩, item := some { price := none, cur := "", sub := 2, alts := [] },
        discounts := [], charges := [],
        breakdown := [
          { qty := ⟨2, 0⟩, item := some { price := some ⟨4999, 3⟩, cur := "", sub := 2, alts := [] },
            discounts := [{ percent := some ⟨⟨25, 3⟩⟩, base := some ⟨1999, 2⟩, amount := ⟨0, 0⟩, rate := none, quantity := none }],
            charges := [] },
          { qty := ⟨1, 0⟩, item := some { price := some ⟨1250, 2⟩, cur := "USD", sub := 2, alts := [] },
            discounts := [], charges := [{ percent := none, base := none, amount := ⟨0, 0⟩, rate := some ⟨35, 2⟩, quantity := some ⟨3, 0⟩ }] } ],
        taxes := [vat 10 2 none, irpf] },
      { qty := ⟨7, 0⟩, item := some { price := some ⟨333, 2⟩, cur := "", sub := 2, alts := [] },
        discounts := [], charges := [], breakdown := [], taxes := [vat 210 3 none] } ],
    discounts := [{ percent := some ⟨⟨5, 2⟩⟩, base := none, amount := ⟨0, 0⟩, taxes := [vat 10 2 none] }],
    charges := [{ percent := none, base := none, amount := ⟨12345, 4⟩, taxes := [] }],
    rates := [⟨"USD", "EUR", 2, ⟨9137, 4⟩⟩],
    rounding := some ⟨1, 2⟩, hasPayment := true,
    advances := [{ percent := some ⟨⟨30, 2⟩⟩, amount := ⟨0, 0⟩ }, { percent := none, amount := ⟨500, 2⟩ }],
    dues := [{ percent := some ⟨⟨50, 2⟩⟩, amount := ⟨0, 0⟩ }] }

end GoblVerif.Calc
