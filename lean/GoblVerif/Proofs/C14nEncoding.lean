/-
  Helper lemmas for C07: the surrogate scan of checkEncoding (the test of the
  raw text that runs before the decoder).

  * the surrogate scan `surrogatesPaired` passes over every piece canonical
    text is made of (`Passes`, closed under concatenation); with `utf8Valid_utf8s`
    (C14nUtf8) canonical output is therefore accepted by checkEncoding;
  * the scan rejects an escape of a surrogate that is not followed by its low
    half.
-/
import GoblVerif.Proofs.C14nMarshal

namespace GoblVerif.Proofs.C14n
open GoblVerif GoblVerif.Spec.C07 GoblVerif.C14n

theorem sp_nil (k : Nat) : surrogatesPaired k [] = true := by
  cases k <;> simp [surrogatesPaired]

theorem sp_skip (k b : Nat) (rest : Bytes) : surrogatesPaired (k + 1) (b :: rest) = surrogatesPaired k rest := by
  simp [surrogatesPaired]

theorem sp_plain (b : Nat) (rest : Bytes) (h : b ≠ 0x5C) :
    surrogatesPaired 0 (b :: rest) = surrogatesPaired 0 rest := by
  simp [surrogatesPaired, h]

theorem sp_backslash (rest : Bytes) :
    surrogatesPaired 0 (0x5C :: rest) =
      (if !isSurrogate (escapedUnit (0x5C :: rest)) then surrogatesPaired 1 rest
       else if !pairOK (escapedUnit (0x5C :: rest)) (escapedUnit (rest.drop 5)) then false
       else surrogatesPaired 7 rest) := by
  simp [surrogatesPaired]

/-- the scan passes over `t`: whatever follows is scanned from a fresh position -/
def Passes (t : Bytes) : Prop := ∀ rest, surrogatesPaired 0 (t ++ rest) = surrogatesPaired 0 rest

theorem passes_nil : Passes [] := fun _ => rfl

theorem passes_append {a b : Bytes} (ha : Passes a) (hb : Passes b) : Passes (a ++ b) := by
  intro rest; rw [List.append_assoc, ha, hb]

theorem passes_plain : ∀ t : Bytes, (∀ b ∈ t, b ≠ 0x5C) → Passes t
  | [], _ => passes_nil
  | b :: t, h => by
    intro rest
    rw [List.cons_append, sp_plain b _ (h b (by simp))]
    exact passes_plain t (fun x hx => h x (by simp [hx])) rest

theorem passes_utf8s_plain : ∀ t : Chars, (∀ c ∈ t, c ≠ 0x5C) → Passes (utf8s t)
  | [], _ => passes_nil
  | c :: t, h => by
    rw [utf8s_cons]
    exact passes_append (passes_plain _ (utf8_no_backslash c (h c (by simp))))
      (passes_utf8s_plain t (fun x hx => h x (by simp [hx])))

theorem escapedUnit_guard (a0 a1 : Nat) (rest : Bytes) (h : a0 ≠ 0x5C ∨ a1 ≠ 0x75) :
    escapedUnit (a0 :: a1 :: rest) = none := by
  unfold escapedUnit
  split
  · rename_i heq
    simp only [List.cons.injEq] at heq
    rcases h with h | h
    · exact absurd heq.1 h
    · exact absurd heq.2.1 h
  · rfl

theorem escapedUnit_some {t : Bytes} {r : Nat} (h : escapedUnit t = some r) :
    ∃ a b c d rest va vb vc vd, t = 0x5C :: 0x75 :: a :: b :: c :: d :: rest ∧ hexDigit a = some va ∧
      hexDigit b = some vb ∧ hexDigit c = some vc ∧ hexDigit d = some vd ∧ r = ((va * 16 + vb) * 16 + vc) * 16 + vd := by
  unfold escapedUnit at h
  split at h
  · rename_i a b c d rest
    cases ha : hexDigit a <;> cases hb : hexDigit b <;> cases hc : hexDigit c <;> cases hd : hexDigit d <;>
      simp [ha, hb, hc, hd] at h
    exact ⟨a, b, c, d, rest, _, _, _, _, rfl, ha, hb, hc, hd, h.symm⟩
  · cases h

theorem pairOK_true {x y : Option Nat} (h : pairOK x y = true) :
    ∃ r1 r2, x = some r1 ∧ y = some r2 ∧ 0xD800 ≤ r1 ∧ r1 < 0xDC00 ∧ 0xDC00 ≤ r2 ∧ r2 < 0xE000 := by
  cases x <;> cases y <;> simp [pairOK] at h
  exact ⟨_, _, rfl, rfl, h.1.1.1, h.1.1.2, h.1.2, h.2⟩

/-- a backslash followed by anything but `u` -/
theorem passes_esc2 (x : Nat) (hx : x ≠ 0x75) : Passes [0x5C, x] := by
  intro rest
  simp only [List.cons_append, List.nil_append]
  rw [sp_backslash, escapedUnit_guard _ x rest (Or.inr hx)]
  simp [isSurrogate, sp_skip]

theorem hexDigit_lt (c v : Nat) (h : hexDigit c = some v) : v < 16 := by
  unfold hexDigit at h
  repeat' split at h
  all_goals simp only [Option.some.injEq, reduceCtorEq] at h
  all_goals simp only [Bool.and_eq_true, decide_eq_true_eq] at *
  all_goals omega

theorem escapedUnit_00 (h l : Nat) (rest : Bytes) :
    isSurrogate (escapedUnit (0x5C :: 0x75 :: 0x30 :: 0x30 :: h :: l :: rest)) = false := by
  have h0 : hexDigit 0x30 = some 0 := by decide
  simp only [escapedUnit, h0]
  cases hh : hexDigit h with
  | none => simp [isSurrogate]
  | some a =>
    cases hl : hexDigit l with
    | none => simp [isSurrogate]
    | some b =>
      have := hexDigit_lt h a hh
      have := hexDigit_lt l b hl
      simp only [isSurrogate, Bool.and_eq_false_iff, decide_eq_false_iff_not]
      omega

/-- a `\u00XX` escape -/
theorem passes_u00 (h l : Nat) (hh : h ≠ 0x5C) (hl : l ≠ 0x5C) : Passes [0x5C, 0x75, 0x30, 0x30, h, l] := by
  intro rest
  simp only [List.cons_append, List.nil_append]
  rw [sp_backslash, escapedUnit_00]
  simp only [Bool.not_false, if_true, sp_skip]
  rw [sp_plain _ _ (by decide), sp_plain _ _ (by decide), sp_plain _ _ hh, sp_plain _ _ hl]

theorem passes_escChar (c : Nat) : Passes (utf8s (escChar c)) := by
  rcases escChar_cases c with h | ⟨h, e⟩ | ⟨_, _, hb, e⟩
  · rcases h with rfl | rfl | rfl | rfl | rfl | rfl | rfl <;> exact passes_esc2 _ (by decide)
  · have hx : ∀ n, n < 16 → upperHex n < 0x80 ∧ upperHex n ≠ 0x5C := by
      intro n hn; unfold upperHex; split <;> omega
    have h1 := hx (c / 16) (by omega)
    have h2 := hx (c % 16) (by omega)
    rw [e, utf8s_ascii _ (by simp; omega)]
    exact passes_u00 _ _ h1.2 h2.2
  · rw [e]
    exact passes_utf8s_plain [c] (by simpa using hb)

theorem passes_escS : ∀ s : Str, Passes (utf8s (escS s))
  | [] => passes_nil
  | c :: cs => by
    rw [escS_cons, utf8s_append]
    exact passes_append (passes_escChar c) (passes_escS cs)

theorem passes_bracketed {o c : Nat} {inner : Chars} (ho : o ≠ 0x5C) (hc : c ≠ 0x5C) (h : Passes (utf8s inner)) :
    Passes (utf8s (o :: (inner ++ [c]))) := by
  rw [utf8s_cons, utf8s_append]
  exact passes_append (passes_plain _ (utf8_no_backslash o ho)) (passes_append h (passes_utf8s_plain _ (by simpa using hc)))

theorem passes_strText (s : Str) : Passes (utf8s (strText s)) :=
  passes_bracketed (by decide) (by decide) (passes_escS s)

theorem passes_atomText (a : Atom) (hw : a.wf = true) : Passes (utf8s (atomText a)) := by
  cases a with
  | null => exact passes_utf8s_plain _ (by simp [atomText])
  | bool b => cases b <;> exact passes_utf8s_plain _ (by simp [atomText])
  | int i => exact passes_utf8s_plain _ (fun x hx => by have := formatInt_range i x hx; omega)
  | flt neg ds e => exact passes_utf8s_plain _ (fun x hx => by have := fltText_range neg ds e hw x hx; omega)
  | str s => exact passes_strText s

theorem passes_sep (f : Bool) : Passes (utf8s (sep f)) := by
  cases f <;> exact passes_utf8s_plain _ (by simp [sep])

mutual
theorem passes_text : ∀ (v : J), v.wf = true → Passes (utf8s (text v))
  | .atom a, hw => by simpa [text] using passes_atomText a (by simpa [J.wf] using hw)
  | .arr xs, hw => passes_bracketed (by decide) (by decide) (passes_elems true xs (by simpa [J.wf] using hw))
  | .obj kvs, hw => passes_bracketed (by decide) (by decide) (passes_members true kvs (by simpa [J.wf] using hw))
theorem passes_elems : ∀ (f : Bool) (xs : JL), xs.wf = true → Passes (utf8s (elems f xs))
  | _, .nil, _ => by simpa [elems, utf8s_nil] using passes_nil
  | f, .cons y ys, hw => by
    simp only [JL.wf, Bool.and_eq_true] at hw
    simp only [elems, utf8s_append]
    exact passes_append (passes_sep f) (passes_append (passes_text y hw.1) (passes_elems false ys hw.2))
theorem passes_members : ∀ (f : Bool) (kvs : KL), kvs.wf = true → Passes (utf8s (members f kvs))
  | _, .nil, _ => by simpa [members, utf8s_nil] using passes_nil
  | f, .cons k v r, hw => by
    simp only [KL.wf, Bool.and_eq_true] at hw
    have : members f (.cons k v r) = sep f ++ (strText k ++ ([0x3A] ++ (text v ++ members false r))) := rfl
    rw [this]
    simp only [utf8s_append]
    exact passes_append (passes_sep f) (passes_append (passes_strText k)
      (passes_append (passes_utf8s_plain _ (by simp)) (passes_append (passes_text v hw.1) (passes_members false r hw.2))))
end

theorem surrogatesPaired_text (v : J) (hw : v.wf = true) : surrogatesPaired 0 (utf8s (text v)) = true := by
  have := passes_text v hw []
  rw [List.append_nil] at this
  rw [this]; exact sp_nil 0

theorem checkEncoding_text (v : J) (hw : v.wf = true) (hc : cleanJ v = true) :
    checkEncoding (utf8s (text v)) = true := by
  unfold checkEncoding
  rw [utf8Valid_utf8s _ (text_scalar v hw hc), surrogatesPaired_text v hw]; rfl

theorem unpaired_rejected (pre tail : Bytes) (hp : Passes pre) (r : Nat) (hr : escapedUnit tail = some r)
    (hs : 0xD800 ≤ r ∧ r < 0xE000) (hno : pairOK (some r) (escapedUnit (tail.drop 6)) = false) :
    surrogatesPaired 0 (pre ++ tail) = false := by
  obtain ⟨a, b, c, d, rest, _, _, _, _, rfl, _⟩ := escapedUnit_some hr
  have : isSurrogate (some r) = true := by simp [isSurrogate]; omega
  simp only [List.drop_succ_cons, List.drop_zero] at hno
  rw [hp, sp_backslash, hr]
  simp [this, hno]

theorem hexDigit_ne_backslash (c v : Nat) (h : hexDigit c = some v) : c ≠ 0x5C := by
  intro e; subst e
  have : hexDigit 0x5C = none := by decide
  rw [this] at h; cases h

end GoblVerif.Proofs.C14n
