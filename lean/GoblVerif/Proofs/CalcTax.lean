/-
  The tax summary of the calculation model in exact rationals.  Bases, category
  amounts and category surcharges are all accumulated by one step,
  `matchRoundingPrecision` then `Add`; the tax sum adds and subtracts the
  categories.  Everything is stated for both rounding rules at once: under the
  currency rule the accumulators stay at the currency's exponent.  At the end how `tax.Total.round` presents a
  category and a group (`Err.roundCat`, `Err.roundRate`).
-/
import GoblVerif.Spec.C03
import GoblVerif.Proofs.CalcExact

namespace GoblVerif.Calc
open GoblVerif.Spec.C03 (surOf)

/-- what one row contributes to a base: the row total itself, except under the
    currency rule where it is first rounded to the currency -/
def contrib (r : Rule) (c : ℕ) (t : Amount) : ℚ :=
  match r with
  | .currency => (t.rescaleX c).toRat
  | _ => t.toRat

/-- under the currency rule the amount sits at the currency's exponent -/
def AtCur (r : Rule) (c : ℕ) (a : Amount) : Prop := r = .currency → a.exp = c

/-- under the currency rule every base stays at the currency's exponent -/
def RatesOk (r : Rule) (c : ℕ) (rts : List RateTotal) : Prop :=
  r = .currency → ∀ rt ∈ rts, rt.base.exp = c

def CatsOk (r : Rule) (c : ℕ) (cats : List CatTotal) : Prop := ∀ ct ∈ cats, RatesOk r c ct.rates

/-! ### one accumulation step -/

theorem mrp_of_ne {r : Rule} (hr : r ≠ .currency) (a b : Amount) : mrp r a b = up a b.exp := by
  cases r <;> simp_all [mrp]

theorem mrp_toRat (r : Rule) (a b : Amount) : (mrp r a b).toRat = a.toRat := by
  cases r <;> simp [mrp, up_toRat]

theorem contrib_of_ne {r : Rule} (hr : r ≠ .currency) (c : ℕ) (t : Amount) : contrib r c t = t.toRat := by
  cases r <;> simp_all [contrib]

theorem contrib_at (r : Rule) (c : ℕ) (t : Amount) (h : t.exp = c) : contrib r c t = t.toRat := by
  cases r <;> simp [contrib, rescaleX_self t c h]

theorem taxStep_toRat (r : Rule) (c : ℕ) (base t : Amount) (hb : AtCur r c base) :
    (taxStep exactOps r base t).toRat = base.toRat + contrib r c t ∧ AtCur r c (taxStep exactOps r base t) := by
  by_cases hr : r = .currency
  · subst hr
    have hbc := hb rfl
    refine ⟨?_, fun _ => hbc⟩
    simp only [taxStep, mrp, contrib]
    unfold add Amount.toRat
    simp only [exact_rescale, rescaleX_exp, hbc]
    push_cast; ring
  · refine ⟨?_, fun h => absurd h hr⟩
    rw [taxStep_of_ne _ hr, accum_toRat, contrib_of_ne hr]

theorem taxStep_exp (r : Rule) (c : ℕ) (base t : Amount) (hb : AtCur r c base) :
    (taxStep exactOps r base t).exp = if r = .currency then c else max base.exp t.exp := by
  split_ifs with hr
  · exact (taxStep_toRat r c base t hb).2 hr
  · rw [taxStep_of_ne _ hr, accum_exp]

theorem foldl_taxStep (r : Rule) (c : ℕ) (xs : List Amount) (z : Amount) (hz : AtCur r c z) :
    (xs.foldl (taxStep exactOps r) z).toRat = z.toRat + (xs.map (contrib r c)).sum ∧
    AtCur r c (xs.foldl (taxStep exactOps r) z) :=
  foldl_sum _ Amount.toRat (contrib r c) (AtCur r c) xs
    (fun a x _ ha => taxStep_toRat r c a x ha) z hz

theorem foldl_step_exp {r : Rule} (hr : r ≠ .currency) (xs : List Amount) (z : Amount) :
    (xs.foldl (taxStep exactOps r) z).exp = xs.foldl (fun e x => max e x.exp) z.exp := by
  rw [taxStep_of_ne _ hr, foldl_accum_exp]

theorem addToRates_ratesOk (r : Rule) (c : ℕ) (cb : Combo) (t : Amount) (rts : List RateTotal)
    (h : RatesOk r c rts) : RatesOk r c (addToRates exactOps r c cb t rts) := by
  intro hr
  rw [addToRates_eq]
  exact forall_updFirst (h hr) (fun rt hrt _ => (taxStep_toRat r c rt.base t (fun _ => h hr rt hrt)).2 hr)
    (fun x hx => by rw [List.mem_singleton.mp hx]; exact (taxStep_toRat r c ⟨0, c⟩ t (fun _ => rfl)).2 hr)

theorem addToCats_catsOk (r : Rule) (c : ℕ) (cb : Combo) (t : Amount) (cats : List CatTotal)
    (h : CatsOk r c cats) : CatsOk r c (addToCats exactOps r c cb t cats) := by
  rw [addToCats_eq]
  exact forall_updFirst h (fun ct hct _ => addToRates_ratesOk r c cb t ct.rates (h ct hct))
    (by simpa using addToRates_ratesOk r c cb t [] (fun _ _ h => by simp at h))

theorem baseRateTotals_catsOk (r : Rule) (c : ℕ) (rows : List Row) : CatsOk r c (baseRateTotals exactOps r c rows) :=
  baseRateTotals_ind (fun _ => CatsOk r c) (fun _ h => by simp at h) fun _ x cats _ h => addToCats_catsOk r c x.1 x.2 cats h

/-! ### amounts -/

def taxedAmount (r : Rule) (c : ℕ) (rt : RateTotal) : ℚ :=
  match rt.percent with
  | none => 0
  | some _ => contrib r c rt.amount

/-- the amount a group adds to its category (a group without a percentage adds none) -/
def taxedOf (rt : RateTotal) : Option Amount := rt.percent.map fun _ => rt.amount

theorem catAmounts_amount_eq (o : Ops) (r : Rule) (c : ℕ) (ct : CatTotal) :
    (catAmounts o r c ct).amount =
      ((ct.rates.map (rateAmounts o · c)).filterMap taxedOf).foldl (taxStep o r) ⟨0, c⟩ := by
  rw [List.foldl_filterMap]
  show List.foldl _ _ _ = _
  congr 1
  funext a rt
  unfold taxedOf
  cases rt.percent <;> rfl

theorem foldl_some {α β : Type} (op : β → α → β) (z0 : β) (xs : List α) (z : Option β) :
    xs.foldl (fun s x => some (op (s.getD z0) x)) z = if xs = [] then z else some (xs.foldl op (z.getD z0)) := by
  induction xs generalizing z with
  | nil => rfl
  | cons x xs ih => rw [List.foldl_cons, ih]; split <;> simp_all

theorem catAmounts_surcharge_eq (o : Ops) (r : Rule) (c : ℕ) (ct : CatTotal) :
    (catAmounts o r c ct).surcharge =
      if (ct.rates.map (rateAmounts o · c)).filterMap surOf = [] then none
      else some (((ct.rates.map (rateAmounts o · c)).filterMap surOf).foldl (taxStep o r) ⟨0, c⟩) := by
  refine Eq.trans ?_ (foldl_some (taxStep o r) ⟨0, c⟩ _ none)
  rw [List.foldl_filterMap]
  show List.foldl _ _ _ = _
  congr 1
  funext s rt
  unfold surOf
  cases rt.percent <;> cases rt.surcharge <;> rfl

theorem sum_taxedAmount (r : Rule) (c : ℕ) (rates : List RateTotal) :
    (rates.map (taxedAmount r c)).sum = ((rates.filterMap taxedOf).map (contrib r c)).sum := by
  rw [← sum_map_getD]
  exact congrArg _ (List.map_congr_left fun rt _ => by unfold taxedAmount taxedOf; cases rt.percent <;> rfl)

/-- the category amount computed by `catAmounts` is the sum of its groups' amounts -/
theorem catAmounts_amount (r : Rule) (c : ℕ) (ct : CatTotal) :
    (catAmounts exactOps r c ct).amount.toRat =
      (((catAmounts exactOps r c ct).rates).map (taxedAmount r c)).sum := by
  rw [catAmounts_amount_eq, (foldl_taxStep r c _ ⟨0, c⟩ (fun _ => rfl)).1, sum_taxedAmount]
  simp [Amount.toRat, catAmounts]

/-- a group's amount is its percentage of its base (one rounding at the base's precision); exempt groups have none -/
theorem rateAmounts_amount (rt : RateTotal) (c : ℕ) :
    (∀ p, rt.percent = some p →
      (rateAmounts exactOps rt c).amount.exp = rt.base.exp ∧
      (rateAmounts exactOps rt c).amount.value = Spec.roundTo rt.base.exp (rt.base.toRat * p.amount.toRat)) ∧
    (rt.percent = none → (rateAmounts exactOps rt c).amount = ⟨0, c⟩) := by
  refine ⟨?_, ?_⟩
  · intro p hp
    simp only [rateAmounts, hp, pctOf, exact_mul, mulX_exp, true_and]
    exact mulX_spec rt.base p.amount
  · intro hp
    simp [rateAmounts, hp]

theorem rateAmounts_percent (rt : RateTotal) (c : ℕ) : (rateAmounts exactOps rt c).percent = rt.percent := by
  unfold rateAmounts
  cases rt.percent <;> rfl

theorem rateAmounts_exps (rt : RateTotal) (c : ℕ) :
    (rateAmounts exactOps rt c).base = rt.base ∧
    (∀ a, taxedOf (rateAmounts exactOps rt c) = some a → a.exp = rt.base.exp) ∧
    (∀ sa, surOf (rateAmounts exactOps rt c) = some sa →
      sa.exp = rt.base.exp ∧ taxedOf (rateAmounts exactOps rt c) = some (rateAmounts exactOps rt c).amount) := by
  -- the exponents are `pctOf_exp` (a simp lemma of CalcBasics)
  unfold rateAmounts taxedOf surOf
  cases rt.percent with
  | none => simp
  | some p =>
    cases rt.surcharge with
    | none => simp
    | some x => simp

/-- under the currency rule the bases, hence the surcharges, sit at the currency's exponent: their sum is exact -/
theorem catAmounts_surcharge (r : Rule) (c : ℕ) (ct : CatTotal) (hb : RatesOk r c ct.rates) :
    (∀ s, (catAmounts exactOps r c ct).surcharge = some s →
      (ct.rates.map (rateAmounts exactOps · c)).filterMap surOf ≠ [] ∧
      s.toRat = ((((ct.rates.map (rateAmounts exactOps · c)).filterMap surOf).map Amount.toRat).sum : ℚ)) ∧
    ((catAmounts exactOps r c ct).surcharge = none →
      (ct.rates.map (rateAmounts exactOps · c)).filterMap surOf = []) := by
  rw [catAmounts_surcharge_eq]
  split
  · exact ⟨fun s hs => (by cases hs), fun _ => ‹_›⟩
  · refine ⟨fun s hs => ⟨‹_›, ?_⟩, fun hs => (by cases hs)⟩
    cases hs
    rw [(foldl_taxStep r c _ ⟨0, c⟩ (fun _ => rfl)).1, toRat_zero, zero_add]
    congr 1
    refine List.map_congr_left fun sa hsa => ?_
    by_cases hr : r = .currency
    · obtain ⟨y, hy, hso⟩ := List.mem_filterMap.mp hsa
      obtain ⟨x, hx, rfl⟩ := List.mem_map.mp hy
      exact contrib_at r c sa (by rw [((rateAmounts_exps x c).2.2 sa hso).1]; exact hb hr x hx)
    · exact contrib_of_ne hr c sa

theorem catAmounts_surcharge_exp_le (r : Rule) (hr : r ≠ .currency) (c : ℕ) (ct : CatTotal) :
    ∀ s, (catAmounts exactOps r c ct).surcharge = some s → s.exp ≤ (catAmounts exactOps r c ct).amount.exp := by
  intro s hs
  rw [catAmounts_surcharge_eq] at hs
  split at hs
  · cases hs
  · injection hs with hs
    obtain ⟨h0, hle⟩ := le_foldl_max ((ct.rates.map (rateAmounts exactOps · c)).filterMap taxedOf) c
    rw [← hs, catAmounts_amount_eq, foldl_step_exp hr, foldl_step_exp hr]
    refine foldl_max_le h0 (fun sa hsa => ?_)
    obtain ⟨rt, hrt, hso⟩ := List.mem_filterMap.mp hsa
    obtain ⟨x, _, rfl⟩ := List.mem_map.mp hrt
    obtain ⟨_, h1, h2⟩ := rateAmounts_exps x c
    rw [(h2 sa hso).1, ← h1 _ (h2 sa hso).2]
    exact hle _ (List.mem_filterMap.mpr ⟨_, hrt, (h2 sa hso).2⟩)

theorem catAmounts_exp_currency (c : ℕ) (ct : CatTotal) :
    (catAmounts exactOps .currency c ct).amount.exp = c ∧
    ∀ s, (catAmounts exactOps .currency c ct).surcharge = some s → s.exp = c := by
  refine ⟨by rw [catAmounts_amount_eq]; exact (foldl_taxStep .currency c _ ⟨0, c⟩ fun _ => rfl).2 rfl, fun s hs => ?_⟩
  rw [catAmounts_surcharge_eq] at hs
  split at hs
  · cases hs
  · cases hs; exact (foldl_taxStep .currency c _ ⟨0, c⟩ fun _ => rfl).2 rfl

/-! ### the tax sum -/

/-- signed rational contribution of a category to the tax sum -/
def catSignedQ (ct : CatTotal) : ℚ :=
  let v := ct.amount.toRat + (match ct.surcharge with | some s => s.toRat | none => 0)
  if ct.retained then -v else v

theorem finalSum_step (r : Rule) (c : ℕ) (z : Amount) (ct : CatTotal) (hz : AtCur r c z)
    (hs : ∀ s, ct.surcharge = some s → s.exp ≤ ct.amount.exp) (ha : AtCur r c ct.amount) :
    let s1 := mrp r z ct.amount
    let out := if ct.retained then
        (let s2 := sub exactOps s1 ct.amount
         match ct.surcharge with | some x => sub exactOps s2 x | none => s2)
      else
        (let s2 := add exactOps s1 ct.amount
         match ct.surcharge with | some x => add exactOps s2 x | none => s2)
    out.toRat = z.toRat + catSignedQ ct ∧ AtCur r c out := by
  have he : ct.amount.exp ≤ (mrp r z ct.amount).exp := by
    by_cases hr : r = .currency
    · subst hr; simp [mrp, hz rfl, ha rfl]
    · rw [mrp_of_ne hr, up_exp]; omega
  have hc : r = .currency → (mrp r z ct.amount).exp = c := by rintro rfl; exact hz rfl
  refine ⟨?_, fun hr => by cases ct.retained <;> cases ct.surcharge <;> exact hc hr⟩
  simp only [catSignedQ]
  cases ct.retained <;> cases hsc : ct.surcharge <;> simp only [Bool.false_eq_true, if_false, if_true]
  · rw [add_toRat _ _ he, mrp_toRat]; ring
  · rw [add_toRat _ _ (by have := hs _ hsc; simp only [add_exp]; omega), add_toRat _ _ he, mrp_toRat]; ring
  · rw [sub_toRat _ _ he, mrp_toRat]; ring
  · rw [sub_toRat _ _ (by have := hs _ hsc; simp only [sub_exp]; omega), sub_toRat _ _ he, mrp_toRat]; ring

/-- **tax sum**: ordinary categories (with their surcharges) are added, retained ones subtracted,
with no rounding at all -/
theorem finalSum_toRat_of (r : Rule) (c : ℕ) (cats : List CatTotal)
    (hs : ∀ ct ∈ cats, ∀ s, ct.surcharge = some s → s.exp ≤ ct.amount.exp)
    (ha : r = .currency → ∀ ct ∈ cats, ct.amount.exp = c) :
    (finalSum exactOps r c cats).toRat = (cats.map catSignedQ).sum ∧ AtCur r c (finalSum exactOps r c cats) := by
  obtain ⟨h1, h2⟩ := foldl_sum _ Amount.toRat catSignedQ (AtCur r c) cats
    (fun z ct hct hz => finalSum_step r c z ct hz (hs ct hct) (fun hr => ha hr ct hct)) ⟨0, c⟩ (fun _ => rfl)
  exact ⟨h1.trans (by rw [toRat_zero, zero_add]), h2⟩

theorem finalSum_toRat_any (r : Rule) (c : ℕ) (cats : List CatTotal) :
    (finalSum exactOps r c (cats.map (catAmounts exactOps r c))).toRat =
      ((cats.map (catAmounts exactOps r c)).map catSignedQ).sum ∧
    AtCur r c (finalSum exactOps r c (cats.map (catAmounts exactOps r c))) := by
  refine finalSum_toRat_of r c _ (fun ct hct s hs => ?_) (fun hr ct hct => ?_) <;>
    obtain ⟨ct0, _, rfl⟩ := List.mem_map.mp hct
  · by_cases hr : r = .currency
    · subst hr
      rw [(catAmounts_exp_currency c ct0).1, (catAmounts_exp_currency c ct0).2 s hs]
    · exact catAmounts_surcharge_exp_le r hr c ct0 s hs
  · subst hr
    exact (catAmounts_exp_currency c ct0).1

/-! ### presentation: `tax.Total.round` -/

/-- `PreciseSum` / `PreciseAmount`: the unrounded figure `p` kept beside the presented one `a`, or `a`
itself when `p` is zero — in both cases it has the value of `p` and is presented as `a` -/
theorem preciseOr (c : ℕ) (p a : Amount) (h : a = exactOps.rescale p c) :
    exactOps.rescale (if p.value != 0 then p else a) c = a ∧ (if p.value != 0 then p else a).toRat = p.toRat := by
  by_cases hv : p.value = 0
  · simp only [hv, bne_self_eq_false, Bool.false_eq_true, if_false]
    exact ⟨rescaleX_self _ _ (by rw [h]; exact rescaleX_exp _ _),
      by rw [h, rescale_toRat_zero _ c hv, toRat_of_value_zero _ hv]⟩
  · have : (p.value != 0) = true := by simpa using hv
    simp only [this, if_true]
    exact ⟨h.symm, trivial⟩

theorem preciseAmount_rounded (c : ℕ) (ct : CatTotal) (h : ct.amount = exactOps.rescale ct.precise c) :
    exactOps.rescale ct.preciseAmount c = ct.amount ∧ ct.preciseAmount.toRat = ct.precise.toRat :=
  preciseOr c _ _ h

theorem precise_rounded (c : ℕ) (tx : TaxTotal) (h : tx.sum = exactOps.rescale tx.preciseSum c) :
    exactOps.rescale tx.precise c = tx.sum ∧ tx.precise.toRat = tx.preciseSum.toRat :=
  preciseOr c _ _ h

namespace Err

/-- `tax.Total.round` on one rate group -/
def roundRate (c : ℕ) (rt : RateTotal) : RateTotal :=
  { rt with amount := exactOps.rescale rt.amount c, base := exactOps.rescale rt.base c,
            surcharge := rt.surcharge.map (fun (sp, sa) => (sp, exactOps.rescale sa c)) }

/-- how `Total.round` presents a category -/
def roundCat (c : ℕ) (ct : CatTotal) : CatTotal :=
  { ct with
    rates := ct.rates.map (fun rt =>
      { rt with amount := exactOps.rescale rt.amount c, base := exactOps.rescale rt.base c,
                surcharge := rt.surcharge.map (fun (sp, sa) => (sp, exactOps.rescale sa c)) }),
    precise := ct.amount,
    amount := exactOps.rescale ct.amount c,
    surcharge := ct.surcharge.map (exactOps.rescale · c) }

theorem roundTax_cats (c : ℕ) (cats : List CatTotal) (fs : Amount) :
    (roundTax exactOps c cats fs).cats = cats.map (roundCat c) := rfl

theorem roundCat_rates (c : ℕ) (ct : CatTotal) : (roundCat c ct).rates = ct.rates.map (roundRate c) := rfl

theorem roundCat_surcharge (c : ℕ) (ct : CatTotal) :
    (roundCat c ct).surcharge = ct.surcharge.map (exactOps.rescale · c) := rfl

end Err

open Err in
theorem roundCat_catAmounts_rates (r : Rule) (c : ℕ) (ct : CatTotal) :
    (roundCat c (catAmounts exactOps r c ct)).rates =
      ct.rates.map (fun rt => roundRate c (rateAmounts exactOps rt c)) := by
  rw [roundCat_rates]
  exact List.map_map ..

open Err in
/-- The readings `f`, `g` of a presented group are left open: Spec.C02's oracle reads the working figures off the
contributions, Spec.C03's the presented figures themselves. -/
theorem roundCat_catAmounts_sums (r : Rule) (c : ℕ) (ct : CatTotal) (f : RateTotal → ℚ) (g : RateTotal → Option ℚ)
    (hf : ∀ x ∈ ct.rates, f (roundRate c (rateAmounts exactOps x c)) = taxedAmount r c (rateAmounts exactOps x c))
    (hg : ∀ x ∈ ct.rates, g (roundRate c (rateAmounts exactOps x c)) =
      (surOf (rateAmounts exactOps x c)).map Amount.toRat) :
    ((roundCat c (catAmounts exactOps r c ct)).rates.map f).sum = (catAmounts exactOps r c ct).amount.toRat ∧
    (roundCat c (catAmounts exactOps r c ct)).rates.filterMap g =
      ((ct.rates.map (rateAmounts exactOps · c)).filterMap surOf).map Amount.toRat := by
  rw [roundCat_catAmounts_rates, catAmounts_amount, List.map_map, List.filterMap_map, List.map_filterMap,
    List.filterMap_map]
  refine ⟨?_, List.filterMap_congr hg⟩
  show _ = ((ct.rates.map (rateAmounts exactOps · c)).map _).sum
  rw [List.map_map]
  exact congrArg List.sum (List.map_congr_left hf)

open Err in
theorem taxSummary_cats (r : Rule) (c : ℕ) (rows : List Row) :
    (taxSummary exactOps r c rows).cats =
      ((baseRateTotals exactOps r c rows).map (catAmounts exactOps r c)).map (roundCat c) := rfl

theorem taxSummary_preciseSum (r : Rule) (c : ℕ) (rows : List Row) :
    (taxSummary exactOps r c rows).preciseSum =
      finalSum exactOps r c ((baseRateTotals exactOps r c rows).map (catAmounts exactOps r c)) := rfl

theorem taxSummary_sum (r : Rule) (c : ℕ) (rows : List Row) :
    (taxSummary exactOps r c rows).sum = exactOps.rescale (taxSummary exactOps r c rows).preciseSum c := rfl

end GoblVerif.Calc
