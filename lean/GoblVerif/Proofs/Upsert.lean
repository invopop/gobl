/-
  "Update the first element that is selected, or append": `updFirst p f d`, with `upsert p f a` for the default
  `[a]`.  The loop behind `Total.Merge` (C20), `rateTotalFor` (C02), `AddStamp` / `AppendLink` / a Go map
  assignment (C09, C10), and what the translated Go code does to a list after a search loop has found a pointer
  into it, or none:
  `for i, v := range l { if p(v) { q = v; break } }; if q == nil { l = append(l, d…) } else { *q = f(*q) }`
  (Proofs/GoSemList.lean, `find?_cases`).

  A list has no element that `p` selects, or splits at the first one (`first_hit`); the facts about `updFirst`
  are read off the two cases.  Core Lean only.
-/
namespace GoblVerif

/-- the first element that satisfies `p` is replaced by its image under `f`; where there is none, `d` is appended -/
def updFirst {α : Type} (p : α → Bool) (f : α → α) (d : List α) : List α → List α
  | [] => d
  | a :: l => if p a then f a :: l else a :: updFirst p f d l

abbrev upsert {α : Type} (p : α → Bool) (f : α → α) (a : α) : List α → List α := updFirst p f [a]

section updFirst
variable {α β κ : Type} {p : α → Bool} {f : α → α} {d : List α}

theorem eq_updFirst (g : List α → List α) (h0 : g [] = d)
    (hc : ∀ a l, g (a :: l) = if p a then f a :: l else a :: g l) (l : List α) : g l = updFirst p f d l := by
  induction l with
  | nil => exact h0
  | cons a l ih => rw [hc, updFirst, ih]

theorem first_hit (p : α → Bool) (l : List α) :
    (∀ x ∈ l, ¬ p x = true) ∨ ∃ pre m post, l = pre ++ m :: post ∧ (∀ x ∈ pre, ¬ p x = true) ∧ p m = true := by
  induction l with
  | nil => exact .inl (by simp)
  | cons a l ih =>
    by_cases ha : p a = true
    · exact .inr ⟨[], a, l, rfl, by simp, ha⟩
    · rcases ih with h | ⟨pre, m, post, rfl, h, hm⟩
      · exact .inl (by simpa [ha] using h)
      · exact .inr ⟨a :: pre, m, post, rfl, by simpa [ha] using h, hm⟩

theorem updFirst_none {l : List α} (h : ∀ x ∈ l, ¬ p x = true) : updFirst p f d l = l ++ d := by
  induction l with
  | nil => rfl
  | cons a l ih => simp [updFirst, h a, ih fun x hx => h x (List.mem_cons_of_mem _ hx)]

theorem updFirst_found {pre post : List α} {m : α} (h : ∀ x ∈ pre, ¬ p x = true) (hm : p m = true) :
    updFirst p f d (pre ++ m :: post) = pre ++ f m :: post := by
  induction pre with
  | nil => simp [updFirst, hm]
  | cons a l ih => simp [updFirst, h a, ih fun x hx => h x (List.mem_cons_of_mem _ hx)]

theorem find?_found {pre post : List α} {m : α} (h : ∀ x ∈ pre, ¬ p x = true) (hm : p m = true) :
    (pre ++ m :: post).find? p = some m := by
  rw [List.find?_append, List.find?_eq_none.mpr h, List.find?_cons_of_pos hm]; rfl

theorem updFirst_ne_nil (hd : d ≠ []) (l : List α) : updFirst p f d l ≠ [] := by
  rcases first_hit p l with h | ⟨pre, m, post, rfl, h, hm⟩
  · rw [updFirst_none h]; simp [hd]
  · rw [updFirst_found h hm]; simp

theorem forall_updFirst {P : α → Prop} {l : List α} (hl : ∀ x ∈ l, P x) (hf : ∀ x ∈ l, p x = true → P (f x))
    (hd : ∀ x ∈ d, P x) : ∀ y ∈ updFirst p f d l, P y := by
  rcases first_hit p l with h | ⟨pre, m, post, rfl, h, hm⟩
  · rw [updFirst_none h]
    exact fun y hy => (List.mem_append.mp hy).elim (hl y) (hd y)
  · rw [updFirst_found h hm]
    intro y hy
    rcases List.mem_append.mp hy with hy | hy
    · exact hl y (List.mem_append_left _ hy)
    · rcases List.mem_cons.mp hy with rfl | hy
      · exact hf m (by simp) hm
      · exact hl y (by simp [hy])

theorem map_updFirst (g : α → β) {p' : β → Bool} {f' : β → β} (hp : ∀ x, p' (g x) = p x) (hf : ∀ x, g (f x) = f' (g x))
    (l : List α) : (updFirst p f d l).map g = updFirst p' f' (d.map g) (l.map g) := by
  induction l with
  | nil => rfl
  | cons a l ih => simp only [updFirst, List.map_cons, hp]; split <;> simp [hf, ih]

theorem updFirst_updFirst (g : α → α) (hf : ∀ x, p (f x) = p x) (l : List α) :
    updFirst p g [] (updFirst p f d l) = updFirst p (fun x => g (f x)) (updFirst p g [] d) l := by
  induction l with
  | nil => rfl
  | cons a l ih =>
    simp only [updFirst]
    by_cases h : p a = true
    · simp [h, updFirst, hf]
    · simp [h, updFirst, ih]

/-! ### an upsert by a key -/

/-- `p` selects the key of `a`, and `f` keeps it -/
structure Keyed (p : α → Bool) (f : α → α) (a : α) (key : α → κ) : Prop where
  sel : ∀ x, p x = true ↔ key x = key a
  keep : ∀ x, p x = true → key (f x) = key x

variable {a : α} {key : α → κ} {k0 : κ}

theorem keyed_replace {α κ : Type} [BEq κ] [LawfulBEq κ] (key : α → κ) (a : α) :
    Keyed (key · == key a) (fun _ => a) a key :=
  ⟨fun _ => beq_iff_eq, fun _ h => (beq_iff_eq.mp h).symm⟩

theorem Keyed.map_key [DecidableEq κ] (h : Keyed p f a key) (l : List α) :
    (upsert p f a l).map key = if key a ∈ l.map key then l.map key else l.map key ++ [key a] := by
  rcases first_hit p l with hn | ⟨pre, m, post, rfl, hn, hm⟩
  · rw [upsert, updFirst_none hn, if_neg, List.map_append]; rfl
    exact fun hin => by
      obtain ⟨x, hx, e⟩ := List.mem_map.mp hin
      exact hn x hx ((h.sel x).mpr e)
  · rw [upsert, updFirst_found hn hm, if_pos (List.mem_map.mpr ⟨m, by simp, (h.sel m).mp hm⟩)]
    simp [h.keep m hm]

theorem Keyed.nodup [DecidableEq κ] (h : Keyed p f a key) {l : List α} (hd : (l.map key).Nodup) :
    ((upsert p f a l).map key).Nodup := by
  rw [h.map_key]
  split
  · exact hd
  · exact List.nodup_append.mpr ⟨hd, by simp, fun x hx y hy => by simp at hy; exact hy ▸ fun e => ‹¬ _› (e ▸ hx)⟩

theorem Keyed.mem_keys [DecidableEq κ] (h : Keyed p f a key) (hk : key a = k0) (l : List α) (k : κ) :
    k ∈ (upsert p f a l).map key ↔ k ∈ l.map key ∨ k = k0 := by
  subst hk
  rw [h.map_key]
  split
  · rename_i hk
    exact ⟨Or.inl, fun e => e.elim id (fun e => e ▸ hk)⟩
  · simp

/-- with distinct keys exactly one element is touched -/
theorem Keyed.transfer (h : Keyed p f a key) (hk : key a = k0) {Q Q' : α → Prop} {l : List α}
    (hd : (l.map key).Nodup)
    (hskip : ∀ x ∈ l, key x ≠ k0 → Q x → Q' x) (hstep : ∀ x ∈ l, key x = k0 → Q x → Q' (f x))
    (hnew : (∀ x ∈ l, key x ≠ k0) → Q' a) (hl : ∀ x ∈ l, Q x) :
    ∀ y ∈ upsert p f a l, Q' y := by
  subst hk
  have other : ∀ x, ¬ p x = true → key x ≠ key a := fun x hx e => hx ((h.sel x).mpr e)
  rcases first_hit p l with hn | ⟨pre, m, post, rfl, hn, hm⟩
  · rw [upsert, updFirst_none hn]
    intro y hy
    rcases List.mem_append.mp hy with hy | hy
    · exact hskip y hy (other y (hn y hy)) (hl y hy)
    · obtain rfl : y = a := by simpa using hy
      exact hnew fun x hx => other x (hn x hx)
  · rw [upsert, updFirst_found hn hm]
    have hkm := (h.sel m).mp hm
    -- the keys of `pre ++ m :: post` are distinct, so nothing after `m` has its key either
    rw [List.map_append, List.map_cons, List.nodup_append, List.nodup_cons] at hd
    intro y hy
    rcases List.mem_append.mp hy with hy | hy
    · exact hskip y (by simp [hy]) (other y (hn y hy)) (hl y (by simp [hy]))
    · rcases List.mem_cons.mp hy with rfl | hy
      · exact hstep m (by simp) hkm (hl m (by simp))
      · exact hskip y (by simp [hy]) (fun e => hd.2.1.1 (List.mem_map.mpr ⟨y, hy, e.trans hkm.symm⟩)) (hl y (by simp [hy]))

end updFirst
end GoblVerif
