/-
  Helper lemmas for C15: the steps of the bulk dispatcher as a relation, induction over schedules, the
  accounting invariant and its preservation by every step, the measure, and the acceptor with the
  construction of a schedule for an accepted trace.
-/
import GoblVerif.Model.Bulk

namespace GoblVerif.Bulk
open List

variable {α β : Type}

/-- `step` read as a relation: what each enabled label does to the state -/
inductive Step (c : Cfg α β) (s : State α β) : Label → State α β → Prop
  | read {r rest} (hph : s.phase = .reading) (hpd : s.pending = r :: rest) :
    Step c s .read { s with pending := rest, next := s.next + 1, running := s.running ++ [(r, s.next + 1)] }
  | stop (hph : s.phase = .reading) (hpd : s.pending = []) : Step c s .stop { s with phase := .waiting }
  | send {k w} (hw : s.running[k]? = some w) (hcap : s.buf.length < c.cap) :
    Step c s (.send k)
      { s with running := s.running.eraseIdx k, sent := s.sent + 1, buf := s.buf ++ [respOf c w] }
  | done {n} (hs : s.sent = n + 1) : Step c s .done { s with sent := n }
  | final (hph : s.phase = .waiting) (hrun : s.running = []) (hsent : s.sent = 0) (hcap : s.buf.length < c.cap) :
    Step c s .final { s with phase := .closed, buf := s.buf ++ [finalOf c s.next] }
  | recv {r rest} (hb : s.buf = r :: rest) : Step c s .recv { s with buf := rest, out := s.out ++ [r] }

theorem Step.of_step {c : Cfg α β} {s s' : State α β} {l : Label} (h : step c s l = some s') : Step c s l s' := by
  cases l <;> simp only [step] at h <;> split at h <;> try cases h
  · exact .read ‹_› ‹_›
  · exact .stop ‹_› ‹_›
  · split at h <;> cases h
    exact .send ‹_› ‹_›
  · exact .done ‹_›
  · split at h <;> cases h
    exact .final ‹_› ‹_› ‹_› ‹_›
  · exact .recv ‹_›

theorem Step.step {c : Cfg α β} {s s' : State α β} {l : Label} (h : Step c s l s') : step c s l = some s' := by
  cases h <;> simp [Bulk.step, *]

theorem Step.stream {c : Cfg α β} {s s' : State α β} {l : Label} (h : Step c s l s') :
    s'.stream = s.stream ++
      (match (generalizing := false) l with
       | .send k => (s.running[k]?.map (respOf c)).toList
       | .final => [finalOf c s.next]
       | _ => []) := by
  cases h <;> simp [State.stream, *]

/-! ## schedules -/

theorem exec_cons (c : Cfg α β) (s s' : State α β) (l : Label) (ls : List Label) :
    exec c s (l :: ls) = some s' ↔ ∃ s1, step c s l = some s1 ∧ exec c s1 ls = some s' := by
  cases h : step c s l <;> simp [exec, h]

theorem exec_append (c : Cfg α β) : ∀ (a b : List Label) (s : State α β),
    exec c s (a ++ b) = (exec c s a).bind (fun s1 => exec c s1 b)
  | [], b, s => by simp [exec]
  | l :: a, b, s => by
    simp only [cons_append, exec]
    split
    · exact exec_append c a b _
    · simp

theorem exec_induction (c : Cfg α β) (P : State α β → Prop)
    (hstep : ∀ s s' l, step c s l = some s' → P s → P s') :
    ∀ (sched : List Label) (s s' : State α β), exec c s sched = some s' → P s → P s'
  | [], s, s', h, hs => by cases h; exact hs
  | l :: ls, s, s', h, hs => by
    obtain ⟨s1, h1, h2⟩ := (exec_cons c s s' l ls).mp h
    exact exec_induction c P hstep ls s1 s' h2 (hstep s s1 l h1 hs)

theorem Reachable.step {c : Cfg α β} {s s' : State α β} {l : Label} (h : Reachable c s)
    (hs : step c s l = some s') : Reachable c s' := by
  obtain ⟨sched, he⟩ := h
  exact ⟨sched ++ [l], by simp [exec_append, he, exec, hs]⟩

/-! ## the owed responses -/

theorem expectedFrom_nonfinal (c : Cfg α β) (k : Nat) (rs : List (Req α)) :
    ∀ r ∈ expectedFrom c k rs, r.isFinal = false := by
  intro r hr
  obtain ⟨w, _, rfl⟩ := mem_map.mp hr
  rfl

theorem expected_nonfinal (c : Cfg α β) : ∀ r ∈ expected c, r.isFinal = false :=
  expectedFrom_nonfinal c 1 c.reqs

theorem workersFrom_eq_zipIdx (k : Nat) (rs : List (Req α)) : workersFrom k rs = rs.zipIdx k := by
  induction rs generalizing k with
  | nil => rfl
  | cons r rs ih => simp [workersFrom, ih]

theorem expected_length (c : Cfg α β) : (expected c).length = c.reqs.length := by
  simp [expected, expectedFrom, workersFrom_eq_zipIdx]

theorem expectedFrom_seq_bounds (c : Cfg α β) (rs : List (Req α)) (k : Nat) (r : Resp β)
    (hr : r ∈ expectedFrom c k rs) : k ≤ r.seq ∧ r.seq < k + rs.length := by
  obtain ⟨⟨q, n⟩, hw, rfl⟩ := mem_map.mp hr
  rw [workersFrom_eq_zipIdx] at hw
  exact ⟨(mem_zipIdx hw).1, (mem_zipIdx hw).2.1⟩

theorem mem_workersFrom (rs : List (Req α)) (k i : Nat) (q : Req α) (h : rs[i]? = some q) :
    (q, k + i) ∈ workersFrom k rs := by
  rw [workersFrom_eq_zipIdx, mem_zipIdx_iff_le_and_getElem?_sub]
  simpa using h

theorem owed_reachable {c : Cfg α β} {s : State α β} (h : Reachable c s) :
    s.pending = c.reqs.drop s.next ∧ ∀ w ∈ s.running, w ∈ workersFrom 1 c.reqs := by
  obtain ⟨sched, hs⟩ := h
  refine exec_induction c (fun s => s.pending = c.reqs.drop s.next ∧ ∀ w ∈ s.running, w ∈ workersFrom 1 c.reqs)
    (fun s s' l h ⟨hp, hr⟩ => ?_) sched _ _ hs (by simp [init])
  cases Step.of_step h with
  | @read r rest hph hpd =>
    have hdrop : c.reqs.drop s.next = r :: rest := by rw [← hp, hpd]
    have hget : c.reqs[s.next]? = some r := by
      have := congrArg (fun l => l[0]?) hdrop
      simpa using this
    refine ⟨?_, fun w hw => ?_⟩
    · show rest = c.reqs.drop (s.next + 1)
      rw [← drop_drop, hdrop]; rfl
    · rcases mem_append.mp hw with hw | hw
      · exact hr w hw
      · cases mem_singleton.mp hw
        simpa [Nat.add_comm] using mem_workersFrom c.reqs 1 s.next r hget
  | send => exact ⟨hp, fun x hx => hr x (mem_of_mem_eraseIdx hx)⟩
  | stop | done | final | recv => exact ⟨hp, hr⟩

/-! ## the accounting invariant -/

/-- the accounting invariant: every request is, exactly once, either still
    unread, or held by a running worker, or answered in the stream; the final
    marker exists only in the closed phase, after everything else.  The stream
    is `out ++ buf` — sent, received or not — so a `recv` step leaves it as it is. -/
structure Inv (c : Cfg α β) (s : State α β) : Prop where
  count : s.next + s.pending.length = c.reqs.length
  pend : s.phase ≠ .reading → s.pending = []
  opn : s.phase ≠ .closed →
    (∀ r ∈ s.stream, r.isFinal = false) ∧
    (s.stream ++ s.running.map (respOf c) ++ expectedFrom c (s.next + 1) s.pending).Perm (expected c)
  cls : s.phase = .closed →
    s.running = [] ∧ s.sent = 0 ∧ s.pending = [] ∧
    ∃ body, s.stream = body ++ [finalResp c] ∧ body.Perm (expected c)

theorem inv_init (c : Cfg α β) : Inv c (init c) where
  count := by simp [init]
  pend := by simp [init]
  opn := by simp [init, State.stream, expected]
  cls := by simp [init]

theorem perm_cons_eraseIdx {γ : Type} : ∀ (l : List γ) (k : Nat) (w : γ), l[k]? = some w →
    l.Perm (w :: l.eraseIdx k)
  | [], k, w, h => by simp at h
  | a :: l, 0, w, h => by simp at h; subst h; simp
  | a :: l, k + 1, w, h => by
    simp at h
    exact ((perm_cons_eraseIdx l k w h).cons a).trans (Perm.swap w a _)

theorem inv_step (c : Cfg α β) (s s' : State α β) (l : Label)
    (h : step c s l = some s') (inv : Inv c s) : Inv c s' := by
  obtain ⟨hcount, hpend, hopn, hcls⟩ := inv
  cases Step.of_step h with
  | read hph hpd =>
    have ho := hopn (by simp [hph])
    refine ⟨by simp [hpd] at hcount ⊢; omega, by simp [hph], fun _ => ⟨ho.1, ?_⟩, by simp [hph]⟩
    simpa [State.stream, hpd, expectedFrom, workersFrom, append_assoc] using ho.2
  | stop hph hpd => exact ⟨hcount, fun _ => hpd, fun _ => hopn (by simp [hph]), by simp⟩
  | @send k w hw hcap =>
    have hph : s.phase ≠ .closed := fun hc => by simp [(hcls hc).1] at hw
    have ho := hopn hph
    have hst := (Step.send hw hcap).stream
    simp only [hw, Option.map_some, Option.toList_some] at hst
    refine ⟨hcount, hpend, fun _ => ⟨?_, ?_⟩, fun hc => absurd hc hph⟩
    · rw [hst]
      intro r hr
      exact (mem_append.mp hr).elim (ho.1 r) fun e => mem_singleton.mp e ▸ rfl
    · -- the worker's response moves from `running` to the end of the stream
      have hp := ((perm_cons_eraseIdx s.running k w hw).map (respOf c)).symm
      rw [hst]
      refine Perm.trans ?_ ho.2
      simp only [append_assoc]
      exact (hp.append_right _).append_left _
  | done hs =>
    exact ⟨hcount, hpend, hopn, fun hc => by have := (hcls hc).2.1; omega⟩
  | final hph hrun hsent hcap =>
    have ho := hopn (by simp [hph])
    have hpd := hpend (by simp [hph])
    refine ⟨hcount, fun _ => hpd, by simp, fun _ => ⟨hrun, hsent, hpd, s.stream, ?_, ?_⟩⟩
    · have : s.next = c.reqs.length := by simpa [hpd] using hcount
      rw [(Step.final hph hrun hsent hcap).stream, finalResp, this]
    · simpa [hrun, hpd, expectedFrom, workersFrom] using ho.2
  | @recv r rest hb =>
    have hst := (Step.recv (c := c) hb).stream
    rw [append_nil] at hst
    exact ⟨hcount, hpend, fun hp => hst ▸ hopn hp, fun hc => hst ▸ hcls hc⟩

theorem inv_reachable (c : Cfg α β) (s : State α β) (h : Reachable c s) : Inv c s := by
  obtain ⟨sched, hs⟩ := h
  exact exec_induction c (Inv c) (inv_step c) sched _ _ hs (inv_init c)

/-! ## the measure -/

theorem measure_step (c : Cfg α β) (s s' : State α β) (l : Label)
    (h : step c s l = some s') : s'.measure + 1 = s.measure := by
  cases Step.of_step h with
  | read hph hpd => simp [State.measure, hph, hpd]; omega
  | stop hph hpd => simp [State.measure, hph]
  | @send k w hw hcap =>
    obtain ⟨hk, -⟩ := List.getElem?_eq_some_iff.mp hw
    simp [State.measure, length_eraseIdx, hk]; omega
  | done hs => simp [State.measure, hs]; omega
  | final hph hrun hsent hcap => simp [State.measure, hph, hrun, hsent]; omega
  | recv hb => simp [State.measure, hb]; omega

theorem measure_exec (c : Cfg α β) : ∀ (sched : List Label) (s s' : State α β),
    exec c s sched = some s' → s'.measure + sched.length = s.measure
  | [], s, s', h => by cases h; rfl
  | l :: ls, s, s', h => by
    obtain ⟨s1, h1, h2⟩ := (exec_cons c s s' l ls).mp h
    have := measure_exec c ls s1 s' h2
    have := measure_step c s s1 l h1
    simp only [length_cons]; omega

/-! ## the acceptor -/

theorem validTrace_iff [DecidableEq β] (c : Cfg α β) (obs : List (Resp β)) :
    validTrace c obs = true ↔ ∃ body, obs = body ++ [finalResp c] ∧ body.Perm (expected c) := by
  unfold validTrace
  cases hl : obs.getLast? with
  | none => simp [getLast?_eq_none_iff.mp hl]
  | some l =>
    obtain ⟨ys, rfl⟩ := getLast?_eq_some_iff.mp hl
    simp [isPerm_iff]
    exact ⟨fun ⟨e, hp⟩ => ⟨ys, ⟨rfl, e⟩, hp⟩, fun ⟨body, ⟨e1, e2⟩, hp⟩ => ⟨e2, e1 ▸ hp⟩⟩

/-! ## construction of a schedule for an accepted trace -/

/-- reading all pending requests -/
theorem exec_reads (c : Cfg α β) : ∀ (ps : List (Req α)) (s : State α β),
    s.phase = .reading → s.pending = ps →
    exec c s (replicate ps.length Label.read) =
      some { s with pending := [], next := s.next + ps.length,
                    running := s.running ++ workersFrom (s.next + 1) ps }
  | [], s, hph, hpd => by
    cases s; simp_all [exec, workersFrom]
  | p :: ps, s, hph, hpd => by
    simp only [length_cons, replicate_succ, exec, step, hph, hpd]
    rw [exec_reads c ps _ rfl rfl]
    simp [workersFrom, Nat.add_assoc, Nat.add_comm 1]

/-- serving the responses `body` one after the other (send, recv, done) -/
theorem exec_serve (c : Cfg α β) (hcap : 1 ≤ c.cap) : ∀ (body : List (Resp β)) (s : State α β),
    s.buf = [] → s.sent = 0 → body.Perm (s.running.map (respOf c)) →
    ∃ sched, exec c s sched = some { s with running := [], out := s.out ++ body }
  | [], s, hb, hs, hp => by
    have : s.running = [] := by simpa using hp.length_eq.symm
    exact ⟨[], by cases s; simp_all [exec]⟩
  | r :: body, s, hb, hs, hp => by
    obtain ⟨k, hk, hkr⟩ := getElem_of_mem (hp.subset mem_cons_self)
    simp only [length_map] at hk
    have hw : s.running[k]? = some s.running[k] := getElem?_eq_getElem hk
    have hr : respOf c s.running[k] = r := by simpa using hkr
    -- the state after send k, recv, done
    let s1 : State α β := { s with running := s.running.eraseIdx k, out := s.out ++ [r] }
    have hstep : exec c s [Label.send k, Label.recv, Label.done] = some s1 := by
      have h0 : 0 < c.cap := by omega
      simp [exec, step, hw, hb, hs, hr, s1, h0]
    have hp1 : body.Perm (s1.running.map (respOf c)) := by
      have h1 := (perm_cons_eraseIdx s.running k _ hw).map (respOf c)
      simp only [map_cons, hr] at h1
      exact (hp.trans h1).cons_inv
    obtain ⟨sched, he⟩ := exec_serve c hcap body s1 hb hs hp1
    refine ⟨[Label.send k, Label.recv, Label.done] ++ sched, ?_⟩
    rw [exec_append, hstep]
    simpa [s1] using he

end GoblVerif.Bulk
