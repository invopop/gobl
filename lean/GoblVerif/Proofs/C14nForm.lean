/-
  Helper lemmas for C07: the README forms — plain integers, exponent-form
  floats, which characters can occur in canonical text.
-/
import GoblVerif.Proofs.C14nAtoms

namespace GoblVerif.Proofs.C14n
open GoblVerif GoblVerif.Spec.C07

/-! ## rule 6: integers -/

theorem isIntPlain_cons {d : Nat} {ds : Chars} (h1 : 49 ≤ d) (h2 : d ≤ 57) (hds : ∀ c ∈ ds, isDigit c = true) :
    isIntPlain (d :: ds) = true ∧ isIntPlain (0x2D :: d :: ds) = true := by
  have hall := List.all_eq_true.mpr hds
  refine ⟨?_, by simp [isIntPlain, h1, h2, hall]⟩
  rw [isIntPlain.eq_def]
  split
  · rfl
  · rename_i heq; simp at heq; omega
  · rename_i heq; simp at heq
    obtain ⟨rfl, rfl⟩ := heq
    simp [h1, h2, hall]
  · rename_i heq; simp at heq

theorem isIntPlain_natDigits (n : Nat) :
    isIntPlain (natDigits n) = true ∧ (0 < n → isIntPlain (0x2D :: natDigits n) = true) := by
  by_cases h0 : n = 0
  · subst h0; rw [natDigits_zero]; exact ⟨rfl, fun h => absurd h (by omega)⟩
  · obtain ⟨h, t, e, hd, hz, hall⟩ := (natDigits_spec n).cons
    have hz := hz (by omega)
    rw [isDigit_iff] at hd
    rw [e]
    have := isIntPlain_cons (by omega) hd.2 hall
    exact ⟨this.1, fun _ => this.2⟩

theorem isIntPlain_formatInt (i : Int) : isIntPlain (formatInt i) = true := by
  unfold formatInt
  split
  · exact (isIntPlain_natDigits _).2 (by omega)
  · exact (isIntPlain_natDigits _).1

/-! ## rule 7: floats -/

theorem splitOn_append (c : Nat) (pre post : Chars) (h : ∀ x ∈ pre, x ≠ c) :
    splitOn c (pre ++ c :: post) = (pre, post) := by
  induction pre with
  | nil => simp [splitOn]
  | cons x xs ih =>
    have hx : x ≠ c := h x (by simp)
    have := ih (fun y hy => h y (by simp [hy]))
    simp [splitOn, hx, this]

theorem isFrac_fracText (rest : List Nat) (hall : rest.all (· < 10) = true)
    (hlast : rest.getLast? ≠ some 0) : isFrac (fracText rest) = true := by
  cases rest with
  | nil => rfl
  | cons a t =>
    have hd := fracText_digits (a :: t) hall
    simp only [fracText, List.isEmpty_cons, Bool.false_eq_true, if_false] at hd ⊢
    simp only [isFrac, Bool.or_eq_true, Bool.and_eq_true, bne_iff_ne, ne_eq, Bool.not_eq_true']
    right
    refine ⟨⟨by simp, List.all_eq_true.mpr hd⟩, ?_⟩
    rw [List.getLast?_map]
    intro hc
    cases hg : (a :: t).getLast? with
    | none => simp [hg] at hc
    | some x =>
      simp [hg] at hc
      exact hlast (by rw [hg]; simp; omega)

theorem isFloatForm_parts (neg : Bool) (d : Nat) (frac exp : Chars) (hd : d ≠ 0x2D) (hf : ∀ x ∈ frac, x ≠ 0x45) :
    isFloatForm ((if neg then [0x2D] else []) ++ d :: 0x2E :: (frac ++ 0x45 :: exp)) =
      (isDigit d && isFrac frac && isExpPlain exp && (d != 48 || (frac == [48] && exp == [48]))) := by
  cases neg
  · rw [isFloatForm.eq_def]
    split
    · rename_i heq; exact absurd (List.cons.inj heq).1 hd
    · simp [splitOn_append _ _ _ hf]
  · simp [isFloatForm, splitOn_append _ _ _ hf]

theorem isFloatForm_fltText (neg : Bool) (ds : List Nat) (e : Int) (hw : wfFloat ds e = true) :
    isFloatForm (fltText neg ds e) = true := by
  cases ds with
  | nil => simp [wfFloat, wfDigits] at hw
  | cons d rest =>
    simp only [wfFloat, Bool.and_eq_true] at hw
    obtain ⟨hd, hall, hlast⟩ := wfDigits_cons hw.1
    rw [fltText, List.headD_cons, List.tail_cons, isFloatForm_parts neg _ _ _ (by omega) (frac_no_E rest hall)]
    simp only [Bool.and_eq_true]
    refine ⟨⟨⟨(isDigit_iff _).mpr (by omega), isFrac_fracText rest hall hlast⟩, isIntPlain_formatInt e⟩, ?_⟩
    have h2 := hw.2
    simp only [List.headD_cons, Bool.or_eq_true, bne_iff_ne, ne_eq, Bool.and_eq_true, beq_iff_eq] at h2 ⊢
    rcases h2 with h2 | ⟨h3, rfl⟩
    · left; omega
    · obtain ⟨_, rfl⟩ := List.cons.inj h3
      exact Or.inr ⟨rfl, by decide⟩

/-- a printable ASCII character other than space -/
def printable (c : Nat) : Prop := 0x21 ≤ c ∧ c < 0x7F

instance : DecidablePred printable := fun c => inferInstanceAs (Decidable (0x21 ≤ c ∧ c < 0x7F))

theorem upperHex_printable (n : Nat) (h : n < 16) : printable (upperHex n) := by
  unfold upperHex printable; split <;> omega

theorem escChar_chars (c x : Nat) (hx : x ∈ escChar c) : printable x ∨ (0x20 ≤ x ∧ x = c) := by
  rcases escChar_cases c with h | ⟨h, e⟩ | ⟨h, _, _, e⟩
  · revert x
    unfold printable
    rcases h with rfl | rfl | rfl | rfl | rfl | rfl | rfl <;> decide
  · left
    simp only [e, List.mem_cons, List.mem_nil_iff, or_false] at hx
    rcases hx with rfl | rfl | rfl | rfl | rfl | rfl
    iterate 4 (unfold printable; omega)
    all_goals exact upperHex_printable _ (by omega)
  · right
    rw [e, List.mem_singleton] at hx
    exact ⟨hx ▸ h, hx⟩

theorem escChar_ascii {c : Nat} (hc : c < 128) : ∀ x ∈ escChar c, x < 128 := by
  intro x hx
  rcases escChar_chars c x hx with h | ⟨_, rfl⟩
  · exact Nat.lt_trans h.2 (by decide)
  · exact hc

theorem escS_chars (s : Str) (x : Nat) (hx : x ∈ escS s) : printable x ∨ (0x20 ≤ x ∧ s.any (· == x) = true) := by
  simp only [escS, List.mem_flatMap] at hx
  obtain ⟨c, hc, hx⟩ := hx
  rcases escChar_chars c x hx with h | ⟨h1, h2⟩
  · exact Or.inl h
  · subst h2; exact Or.inr ⟨h1, List.any_eq_true.mpr ⟨x, hc, by simp⟩⟩

theorem formatInt_range (i : Int) (x : Nat) (hx : x ∈ formatInt i) : 0x2D ≤ x ∧ x ≤ 0x39 := by
  have dig : ∀ n, x ∈ natDigits n → 0x2D ≤ x ∧ x ≤ 0x39 := fun n hn => by
    have := (natDigits_spec n).dig x hn
    rw [isDigit_iff] at this; omega
  unfold formatInt at hx
  split at hx
  · rcases List.mem_cons.mp hx with rfl | hx
    · omega
    · exact dig _ hx
  · exact dig _ hx

theorem fltText_range (neg : Bool) (ds : List Nat) (e : Int) (hw : wfDigits ds = true) (x : Nat)
    (hx : x ∈ fltText neg ds e) : 0x2D ≤ x ∧ x ≤ 0x45 := by
  cases ds with
  | nil => simp [wfDigits] at hw
  | cons d rest =>
    obtain ⟨hd, hall, _⟩ := wfDigits_cons hw
    simp only [fltText, List.headD_cons, List.tail_cons, List.mem_append, List.mem_cons] at hx
    rcases hx with hx | rfl | rfl | hx | rfl | hx
    · cases neg <;> simp at hx
      omega
    · omega
    · omega
    · have := fracText_digits rest hall x hx
      rw [isDigit_iff] at this; omega
    · omega
    · have := formatInt_range e x hx; omega

theorem bracketed_chars {P : Nat → Prop} {o c : Nat} {inner : Chars} (ho : printable o) (hc : printable c)
    (h : ∀ x ∈ inner, printable x ∨ P x) : ∀ x ∈ o :: (inner ++ [c]), printable x ∨ P x := by
  intro x hx
  simp only [List.mem_cons, List.mem_append, List.mem_nil_iff, or_false] at hx
  rcases hx with rfl | hx | rfl
  · exact Or.inl ho
  · exact h x hx
  · exact Or.inl hc

theorem strText_chars (k : Str) (x : Nat) (hx : x ∈ strText k) : printable x ∨ (0x20 ≤ x ∧ k.any (· == x) = true) :=
  bracketed_chars (by decide) (by decide) (escS_chars k) x hx

theorem atomText_chars (a : Atom) (hw : a.wf = true) (x : Nat) (hx : x ∈ atomText a) :
    printable x ∨ (0x20 ≤ x ∧ strsHave (· == x) (.atom a) = true) := by
  cases a with
  | null => exact Or.inl ((by decide : ∀ y ∈ atomText .null, printable y) x hx)
  | bool b => cases b <;> exact Or.inl ((by decide : ∀ y ∈ atomText (.bool _), printable y) x hx)
  | int i => have := formatInt_range i x hx; exact Or.inl ⟨by omega, by omega⟩
  | flt neg ds e => have := fltText_range neg ds e hw x hx; exact Or.inl ⟨by omega, by omega⟩
  | str s => exact strText_chars s x hx

theorem sep_chars (f : Bool) (x : Nat) (hx : x ∈ sep f) : printable x := by
  cases f <;> simp [sep] at hx
  subst hx; decide

mutual
theorem text_chars : ∀ (v : J), v.wf = true → ∀ x ∈ text v,
    printable x ∨ (0x20 ≤ x ∧ strsHave (· == x) v = true)
  | .atom a, hw, x, hx => atomText_chars a (by simpa [J.wf] using hw) x (by simpa [text] using hx)
  | .arr xs, hw, x, hx =>
    bracketed_chars (o := 0x5B) (c := 0x5D) (by decide) (by decide)
      (elems_chars true xs (by simpa [J.wf] using hw)) x (by simpa [text] using hx)
  | .obj kvs, hw, x, hx =>
    bracketed_chars (o := 0x7B) (c := 0x7D) (by decide) (by decide)
      (members_chars true kvs (by simpa [J.wf] using hw)) x (by simpa [text] using hx)
theorem elems_chars : ∀ (f : Bool) (xs : JL), xs.wf = true → ∀ x ∈ elems f xs,
    printable x ∨ (0x20 ≤ x ∧ strsHaveL (· == x) xs = true)
  | _, .nil, _, x, hx => by simp [elems] at hx
  | f, .cons y ys, hw, x, hx => by
    simp only [JL.wf, Bool.and_eq_true] at hw
    simp only [elems, List.mem_append] at hx
    rcases hx with hx | hx | hx
    · exact Or.inl (sep_chars f x hx)
    · exact (text_chars y hw.1 x hx).imp_right fun h => ⟨h.1, by simp [strsHaveL, h.2]⟩
    · exact (elems_chars false ys hw.2 x hx).imp_right fun h => ⟨h.1, by simp [strsHaveL, h.2]⟩
theorem members_chars : ∀ (f : Bool) (kvs : KL), kvs.wf = true → ∀ x ∈ members f kvs,
    printable x ∨ (0x20 ≤ x ∧ strsHaveK (· == x) kvs = true)
  | _, .nil, _, x, hx => by simp [members] at hx
  | f, .cons k v r, hw, x, hx => by
    simp only [KL.wf, Bool.and_eq_true] at hw
    simp only [members, List.mem_append, List.mem_cons] at hx
    rcases hx with hx | hx | rfl | hx | hx
    · exact Or.inl (sep_chars f x hx)
    · exact (strText_chars k x hx).imp_right fun h => ⟨h.1, by simp [strsHaveK, h.2]⟩
    · exact Or.inl (by decide)
    · exact (text_chars v hw.1 x hx).imp_right fun h => ⟨h.1, by simp [strsHaveK, h.2]⟩
    · exact (members_chars false r hw.2 x hx).imp_right fun h => ⟨h.1, by simp [strsHaveK, h.2]⟩
end

end GoblVerif.Proofs.C14n
