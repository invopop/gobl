/-
  Helper lemmas for C07: the marshaller.  The model of the Go marshaller
  (extracted tables, strconv post-processing, `first` flags, error
  propagation) does not see null members, so the canonical text depends on
  the content only, and it produces exactly the README text of the content,
  or refuses (`canonChars_eq`); a value is refused when one of its strings is
  no sequence of scalar values (`cleanJ_eq`), and the text of a clean content
  consists of scalar values.
-/
import GoblVerif.Model.C14n
import GoblVerif.Proofs.C14nForm
import GoblVerif.Proofs.C14nNorm
import GoblVerif.Proofs.C14nUtf8

namespace GoblVerif.Proofs.C14n
open GoblVerif GoblVerif.Spec.C07 GoblVerif.C14n

theorem runeSelf_eq : runeSelf = 128 := by decide

/-- per ASCII character, the code's choice (literal if safe, else backslash + switch) is README rule 8 -/
theorem ascii_escape_table :
    ∀ c, c < 128 → (if safe c then [c] else 0x5C :: escapeAscii c) = escChar c := by
  decide +kernel

theorem encodeRunes_eq : ∀ s : Str, encodeRunes s = if cleanS s then some (escS s) else none
  | [] => rfl
  | c :: cs => by
    rw [encodeRunes, runeSelf_eq, encodeRunes_eq cs, escS_cons, show cleanS (c :: cs) = (isScalar c && cleanS cs) from rfl]
    by_cases hc : c < 128
    · rw [if_pos hc, (isScalar_iff c).mpr (by omega), ← ascii_escape_table c hc]
      cases safe c <;> cases cleanS cs <;> rfl
    · rw [if_neg hc, escChar_lit (by omega) (by omega) (by omega)]
      cases isScalar c <;> cases cleanS cs <;> rfl

theorem encodeString_eq (s : Str) : encodeString s = if cleanS s then some (strText s) else none := by
  unfold encodeString
  rw [encodeRunes_eq]
  cases cleanS s <;> simp [strText]

theorem splitAtE_append (pre post : Chars) (h : ∀ c ∈ pre, c ≠ 0x45) :
    splitAtE (pre ++ 0x45 :: post) = (pre ++ [0x45], post) := by
  induction pre with
  | nil => simp [splitAtE]
  | cons x xs ih =>
    have hx : (x == 0x45) = false := by simp [h x (by simp)]
    have := ih (fun c hc => h c (by simp [hc]))
    simp [splitAtE, hx, this]

/-- the exponent loop over strconv's digits, entered at index `i` of a text of length `i + len` with
    `j` as found so far and no zero marked: a leading zero (of a one-digit exponent) is marked, nothing else -/
theorem scanExp_pad2 (n i j : Nat) :
    scanExp (pad2 n) i (i + (pad2 n).length) j 0 = (j, if n < 10 then i + 1 else 0) := by
  unfold pad2
  by_cases h : n < 10
  · have h1 : (48 + n == 0x2D || 48 + n == 0x2B) = false := by
      simp only [Bool.or_eq_false_iff, beq_eq_false_iff_ne, ne_eq]; omega
    simp [h, scanExp, h1]
  · obtain ⟨c, t, e, hd, hz, _⟩ := (natDigits_spec n).cons
    have hz := hz (by omega)
    rw [isDigit_iff] at hd
    have h1 : (c == 0x2D || c == 0x2B) = false := by
      simp only [Bool.or_eq_false_iff, beq_eq_false_iff_ne, ne_eq]; omega
    have h2 : (c == 0x30) = false := by simp; omega
    simp [h, e, scanExp, h1, h2]

theorem expHacks_pos (n : Nat) : expHacks (0x2B :: pad2 n) = natDigits n := by
  have := scanExp_pad2 n 0 0
  rw [Nat.zero_add] at this
  simp only [expHacks, List.head?_cons, beq_self_eq_true, if_true, List.drop_one, List.tail_cons, this]
  unfold pad2
  by_cases h : n < 10 <;> simp [h, natDigits_lt10]

theorem expHacks_neg (n : Nat) : expHacks (0x2D :: pad2 n) = 0x2D :: natDigits n := by
  have := scanExp_pad2 n 1 1
  rw [Nat.add_comm] at this
  simp [expHacks, scanExp, this]
  unfold pad2
  by_cases h : n < 10 <;> simp [h, natDigits_lt10]

theorem expHacks_exp (e : Int) :
    expHacks ((if e < 0 then 0x2D else 0x2B) :: pad2 e.natAbs) = formatInt e := by
  unfold formatInt
  by_cases h : e < 0
  · simp only [h, if_true]; exact expHacks_neg _
  · simp only [h, if_false]; exact expHacks_pos _

theorem insertPoint_pos (x : Nat) (rest : Chars) (hx : x ≠ 0x2D) :
    insertPoint (x :: rest) = if rest.head? == some 0x2E then x :: rest else x :: 0x2E :: 0x30 :: rest := by
  rw [insertPoint.eq_def]
  split <;> simp_all

theorem insertPoint_strconvE (neg : Bool) (d : Nat) (rest : List Nat) (e : Int) (hd : d < 10) :
    insertPoint (strconvE neg (d :: rest) e) =
      ((if neg then [0x2D] else []) ++ (48 + d) :: 0x2E :: fracText rest) ++
        0x45 :: ((if e < 0 then 0x2D else 0x2B) :: pad2 e.natAbs) := by
  have hd2d : 48 + d ≠ 0x2D := by omega
  cases neg
  · cases rest <;> simp [strconvE, insertPoint_pos _ _ hd2d, fracText]
  · cases rest <;> simp [strconvE, insertPoint, fracText]

theorem marshalFloat_eq (neg : Bool) (ds : List Nat) (e : Int) (hw : wfDigits ds = true) :
    marshalFloat neg ds e = fltText neg ds e := by
  cases ds with
  | nil => simp [wfDigits] at hw
  | cons d rest =>
    obtain ⟨hd, hall, _⟩ := wfDigits_cons hw
    rw [marshalFloat, floatHacks, insertPoint_strconvE neg d rest e hd, splitAtE_append _ _ ?_]
    · simp only [expHacks_exp]
      cases neg <;> simp [fltText]
    · intro c hc
      simp only [List.mem_append, List.mem_cons] at hc
      rcases hc with hc | hc | hc | hc
      · cases neg <;> simp at hc; omega
      · omega
      · omega
      · exact frac_no_E rest hall c hc

theorem marshalAtom_eq (a : Atom) (hw : a.wf = true) :
    marshalAtom a = if cleanA a then some (atomText a) else none := by
  cases a with
  | null => rfl
  | bool b => cases b <;> rfl
  | int i => rfl
  | flt neg ds e => simp [marshalAtom, cleanA, atomText, marshalFloat_eq neg ds e hw]
  | str s => simp only [marshalAtom, cleanA, atomText]; exact encodeString_eq s

mutual
theorem marshalJ_dropJ : ∀ v : J, marshalJ (dropJ v) = marshalJ v
  | .atom a => rfl
  | .arr xs => by simp [dropJ, marshalJ, marshalL_dropJL true xs]
  | .obj kvs => by simp [dropJ, marshalJ, marshalK_dropJK true kvs]
theorem marshalL_dropJL : ∀ (f : Bool) (xs : JL), marshalL f (dropJL xs) = marshalL f xs
  | _, .nil => rfl
  | f, .cons x xs => by simp [dropJL, marshalL, marshalJ_dropJ x, marshalL_dropJL false xs]
theorem marshalK_dropJK : ∀ (f : Bool) (kvs : KL), marshalK f (dropJK kvs) = marshalK f kvs
  | _, .nil => rfl
  | f, .cons k v r => by
    cases hn : v.isNull
    · simp [dropJK, hn, marshalK, isNull_dropJ, marshalJ_dropJ v, marshalK_dropJK false r, marshalK_dropJK f r]
    · simp [dropJK, hn, marshalK, attrJoin, marshalK_dropJK f r]
end

theorem canonChars_norm (v : J) : canonChars (norm v) = canonChars v := by
  rw [canonChars, sortJ_norm, norm, marshalJ_dropJ]; rfl

theorem canonChars_of_norm_eq {v w : J} (h : norm v = norm w) : canonChars v = canonChars w := by
  rw [← canonChars_norm v, ← canonChars_norm w, h]

theorem strText_ne_nil (k : Str) : (strText k).isEmpty = false := rfl

mutual
theorem marshalJ_eq : ∀ (t : J), t.wf = true →
    marshalJ t = if cleanJ (dropJ t) then some (text (dropJ t)) else none
  | .atom a, hw => by
    simp only [marshalJ, dropJ, cleanJ, text]
    exact marshalAtom_eq a (by simpa [J.wf] using hw)
  | .arr xs, hw => by
    have := marshalL_eq true xs (by simpa [J.wf] using hw)
    simp only [marshalJ, dropJ, cleanJ, text, this]
    cases cleanJL (dropJL xs) <;> simp
  | .obj kvs, hw => by
    have := marshalK_eq true kvs (by simpa [J.wf] using hw)
    simp only [marshalJ, dropJ, cleanJ, text, this]
    cases cleanJK (dropJK kvs) <;> simp
theorem marshalL_eq : ∀ (f : Bool) (xs : JL), xs.wf = true →
    marshalL f xs = if cleanJL (dropJL xs) then some (elems f (dropJL xs)) else none
  | f, .nil, _ => by simp [marshalL, dropJL, cleanJL, elems]
  | f, .cons x xs, hw => by
    simp only [JL.wf, Bool.and_eq_true] at hw
    have h1 := marshalJ_eq x hw.1
    have h2 := marshalL_eq false xs hw.2
    simp only [marshalL, dropJL, cleanJL, elems, h1, h2]
    cases cleanJ (dropJ x) <;> cases cleanJL (dropJL xs) <;> cases f <;> simp [sep]
theorem marshalK_eq : ∀ (f : Bool) (kvs : KL), kvs.wf = true →
    marshalK f kvs = if cleanJK (dropJK kvs) then some (members f (dropJK kvs)) else none
  | f, .nil, _ => by simp [marshalK, dropJK, cleanJK, members]
  | f, .cons k v r, hw => by
    simp only [KL.wf, Bool.and_eq_true] at hw
    have h1 := marshalJ_eq v hw.1
    have h2 := marshalK_eq false r hw.2
    have h3 := marshalK_eq f r hw.2
    by_cases hn : v.isNull = true
    · simp only [marshalK, dropJK, hn, attrJoin, if_true, List.isEmpty_nil, h3]
    · simp only [Bool.not_eq_true] at hn
      simp only [marshalK, dropJK, hn, attrJoin, Bool.false_eq_true, if_false, cleanJK, members,
        encodeString_eq, h1, h2]
      cases cleanS k <;> cases cleanJ (dropJ v) <;> cases cleanJK (dropJK r) <;> cases f <;>
        simp [sep, strText]
end

theorem canonChars_eq (v : J) (hw : v.wf = true) :
    canonChars v = if cleanJ (norm v) then some (text (norm v)) else none :=
  marshalJ_eq (sortJ v) (by rwa [wf_sortJ])

theorem canonChars_eq_some {v : J} (hw : v.wf = true) {a : Chars} (h : canonChars v = some a) :
    cleanJ (norm v) = true ∧ a = text (norm v) := by
  rw [canonChars_eq v hw] at h
  split at h
  · exact ⟨‹_›, (Option.some.inj h).symm⟩
  · cases h

theorem cleanS_eq (s : Str) : cleanS s = !s.any (fun c => !isScalar c) := by
  unfold cleanS
  induction s with
  | nil => rfl
  | cons c cs ih => simp only [List.all_cons, List.any_cons, ih]; cases isScalar c <;> simp

mutual
theorem cleanJ_eq : ∀ v : J, cleanJ v = !strsHave (fun c => !isScalar c) v
  | .atom .null => rfl
  | .atom (.bool _) => rfl
  | .atom (.int _) => rfl
  | .atom (.flt _ _ _) => rfl
  | .atom (.str s) => by simp only [cleanJ, cleanA, strsHave]; exact cleanS_eq s
  | .arr xs => by simp only [cleanJ, strsHave]; exact cleanJL_eq xs
  | .obj kvs => by simp only [cleanJ, strsHave]; exact cleanJK_eq kvs
theorem cleanJL_eq : ∀ xs : JL, cleanJL xs = !strsHaveL (fun c => !isScalar c) xs
  | .nil => rfl
  | .cons x xs => by simp only [cleanJL, strsHaveL, cleanJ_eq x, cleanJL_eq xs, Bool.not_or]
theorem cleanJK_eq : ∀ kvs : KL, cleanJK kvs = !strsHaveK (fun c => !isScalar c) kvs
  | .nil => rfl
  | .cons k v r => by simp only [cleanJK, strsHaveK, cleanS_eq k, cleanJ_eq v, cleanJK_eq r, Bool.not_or]
end

theorem cleanJ_norm_of_scalar (v : J) (hs : strsHave (fun c => !isScalar c) v = false) : cleanJ (norm v) = true := by
  rw [cleanJ_eq]
  cases h : strsHave (fun c => !isScalar c) (norm v) with
  | false => rfl
  | true => rw [strsHave_norm _ v h] at hs; cases hs

theorem text_scalar (v : J) (hw : v.wf = true) (hc : cleanJ v = true) : (text v).all isScalar = true := by
  rw [List.all_eq_true]
  intro x hx
  rcases text_chars v hw x hx with h | ⟨_, h⟩
  · unfold printable at h; simp [isScalar]; omega
  · cases hsc : isScalar x with
    | true => rfl
    | false =>
      have : strsHave (fun c => !isScalar c) v = true :=
        strsHave_mono (· == x) (fun c => !isScalar c) (by intro y hy; simp at hy; subst hy; simp [hsc]) v h
      rw [cleanJ_eq, this] at hc; cases hc

end GoblVerif.Proofs.C14n
