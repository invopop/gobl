/-
  Helper lemmas for C07: UTF-8.  Everything rests on the shape of `utf8 c` by
  length class, written over the base-64 digits of `c` (`utf8_cases`), so that
  what is left to arithmetic is linear:

  * the encoding is a prefix code and keeps the order (Go compares keys
    byte-wise);
  * `utf8Valid` accepts exactly the encodings of sequences of scalar values.
-/
import GoblVerif.Model.C14n
import GoblVerif.Proofs.C14nSort

namespace GoblVerif.Proofs.C14n
open GoblVerif GoblVerif.C14n

theorem utf8s_nil : utf8s [] = [] := rfl

theorem utf8s_singleton (c : Nat) : utf8s [c] = utf8 c := by
  simp [utf8s]

theorem utf8s_cons (c : Nat) (cs : Chars) : utf8s (c :: cs) = utf8 c ++ utf8s cs := by
  simp [utf8s]

theorem utf8s_append (a b : Chars) : utf8s (a ++ b) = utf8s a ++ utf8s b := by
  simp [utf8s]

theorem utf8_ascii (c : Nat) (h : c < 0x80) : utf8 c = [c] := by
  simp [utf8, h]

theorem utf8_2 {q r : Nat} (hq : 2 ≤ q) (hq' : q < 32) (hr : r < 64) : utf8 (q * 64 + r) = [0xC0 + q, 0x80 + r] := by
  rw [utf8, if_neg (by omega), if_pos (by omega)]
  congr <;> omega

theorem utf8_3 {p q r : Nat} (h : 32 ≤ p * 64 + q) (hp : p < 16) (hq : q < 64) (hr : r < 64) :
    utf8 ((p * 64 + q) * 64 + r) = [0xE0 + p, 0x80 + q, 0x80 + r] := by
  rw [utf8, if_neg (by omega), if_neg (by omega), if_pos (by omega)]
  congr <;> omega

theorem utf8_4 {o p q r : Nat} (h : 16 ≤ o * 64 + p) (hp : p < 64) (hq : q < 64) (hr : r < 64) :
    utf8 (((o * 64 + p) * 64 + q) * 64 + r) = [0xF0 + o, 0x80 + p, 0x80 + q, 0x80 + r] := by
  rw [utf8, if_neg (by omega), if_neg (by omega), if_neg (by omega)]
  congr <;> omega

private theorem div64 (c : Nat) : ∃ q r, c = q * 64 + r ∧ r < 64 := ⟨c / 64, c % 64, by omega, by omega⟩

/-- for `induction c using utf8_cases` -/
theorem utf8_cases {P : Nat → Prop}
    (h1 : ∀ c, c < 0x80 → utf8 c = [c] → P c)
    (h2 : ∀ q r, 2 ≤ q → q < 32 → r < 64 → utf8 (q * 64 + r) = [0xC0 + q, 0x80 + r] → P (q * 64 + r))
    (h3 : ∀ p q r, 32 ≤ p * 64 + q → p < 16 → q < 64 → r < 64 →
      utf8 ((p * 64 + q) * 64 + r) = [0xE0 + p, 0x80 + q, 0x80 + r] → P ((p * 64 + q) * 64 + r))
    (h4 : ∀ o p q r, 16 ≤ o * 64 + p → p < 64 → q < 64 → r < 64 →
      utf8 (((o * 64 + p) * 64 + q) * 64 + r) = [0xF0 + o, 0x80 + p, 0x80 + q, 0x80 + r] →
      P (((o * 64 + p) * 64 + q) * 64 + r)) (c : Nat) : P c := by
  by_cases c1 : c < 0x80
  · exact h1 c c1 (utf8_ascii c c1)
  obtain ⟨c, r, rfl, hr⟩ := div64 c
  by_cases c2 : c < 32
  · exact h2 c r (by omega) c2 hr (utf8_2 (by omega) c2 hr)
  obtain ⟨c, q, rfl, hq⟩ := div64 c
  by_cases c3 : c < 16
  · exact h3 c q r (by omega) c3 hq hr (utf8_3 (by omega) c3 hq hr)
  obtain ⟨o, p, rfl, hp⟩ := div64 c
  exact h4 o p q r (by omega) hp hq hr (utf8_4 (by omega) hp hq hr)

theorem utf8_ne_nil (c : Nat) : utf8 c ≠ [] := by
  induction c using utf8_cases <;> simp [*]

theorem utf8s_eq_nil {cs : Chars} (h : utf8s cs = []) : cs = [] := by
  cases cs with
  | nil => rfl
  | cons c r => rw [utf8s_cons] at h; exact absurd (List.append_eq_nil_iff.mp h).1 (utf8_ne_nil c)

theorem utf8s_length_ge : ∀ s : Str, s.length ≤ (utf8s s).length
  | [] => Nat.le_refl _
  | c :: cs => by
    have := utf8s_length_ge cs
    have := List.length_pos_iff.mpr (utf8_ne_nil c)
    rw [utf8s_cons, List.length_append, List.length_cons]; omega

theorem utf8_lead {c : Nat} (h : 0x80 ≤ c) : ∃ b t, utf8 c = b :: t ∧ 0x80 ≤ b ∧ t ≠ [] := by
  induction c using utf8_cases with
  | h1 c hc => omega
  | h2 _ _ _ _ _ e => exact ⟨_, _, e, by omega, by simp⟩
  | h3 _ _ _ _ _ _ _ e => exact ⟨_, _, e, by omega, by simp⟩
  | h4 _ _ _ _ _ _ _ _ e => exact ⟨_, _, e, by omega, by simp⟩

theorem utf8s_ascii : ∀ (cs : Chars), (∀ c ∈ cs, c < 128) → utf8s cs = cs
  | [], _ => rfl
  | c :: cs, h => by
    rw [utf8s_cons, utf8_ascii c (h c (by simp)), utf8s_ascii cs (fun x hx => h x (by simp [hx]))]
    rfl

theorem utf8_no_backslash (c : Nat) (h : c ≠ 0x5C) : ∀ b ∈ utf8 c, b ≠ 0x5C := by
  induction c using utf8_cases <;> simp only [*, List.mem_cons, List.mem_nil_iff, or_false] <;> omega

/-- lead bytes go up with the length class; inside a class the digits are compared most significant first -/
theorem ltS_utf8_lt {c d : Nat} (h : c < d) (x y : List Nat) : ltS (utf8 c ++ x) (utf8 d ++ y) = true := by
  induction c using utf8_cases <;> induction d using utf8_cases <;>
    simp only [*, List.cons_append, List.nil_append, ltS_cons, Bool.or_eq_true, Bool.and_eq_true, decide_eq_true_eq,
      beq_iff_eq, true_or] <;>
    omega

theorem ltS_utf8_char (c d : Nat) (x y : List Nat) :
    ltS (utf8 c ++ x) (utf8 d ++ y) = (decide (c < d) || (c == d && ltS x y)) := by
  rcases Nat.lt_trichotomy c d with h | rfl | h
  · simp [ltS_utf8_lt h, h]
  · simp [ltS_append_left]
  · simp [ltS_asymm _ _ (ltS_utf8_lt h y x), Nat.lt_asymm h, Nat.ne_of_gt h]

theorem ltS_utf8s : ∀ (a b : Chars), ltS (utf8s a) (utf8s b) = ltS a b
  | [], [] => rfl
  | [], d :: ds => by
    obtain ⟨b, t, e⟩ := List.exists_cons_of_ne_nil (utf8_ne_nil d)
    rw [utf8s_cons, e]; rfl
  | c :: cs, [] => by
    obtain ⟨b, t, e⟩ := List.exists_cons_of_ne_nil (utf8_ne_nil c)
    rw [utf8s_cons, e]; rfl
  | c :: cs, d :: ds => by
    rw [utf8s_cons, utf8s_cons, ltS_utf8_char, ltS_utf8s cs ds, ltS_cons]

theorem utf8_prefix_free (c c' : Nat) (r r' : Bytes) (h : utf8 c ++ r = utf8 c' ++ r') : c = c' ∧ r = r' := by
  have e : c = c' := by
    rcases Nat.lt_trichotomy c c' with l | e | l
    · have := ltS_utf8_lt l r r'; rw [h, ltS_irrefl] at this; cases this
    · exact e
    · have := ltS_utf8_lt l r' r; rw [h, ltS_irrefl] at this; cases this
  subst e
  exact ⟨rfl, List.append_cancel_left h⟩

/-- an encoding that keeps a linear order strictly loses nothing -/
theorem utf8s_injective (a b : Chars) (h : utf8s a = utf8s b) : a = b :=
  ltS_total a b (by rw [← ltS_utf8s, h, ltS_irrefl]) (by rw [← ltS_utf8s, h, ltS_irrefl])

theorem isScalar_iff (c : Nat) : isScalar c = true ↔ c < 0x110000 ∧ ¬ (0xD800 ≤ c ∧ c < 0xE000) := by
  simp only [isScalar, Bool.and_eq_true, Bool.not_eq_true', decide_eq_true_eq, decide_eq_false_iff_not, Bool.and_eq_false_iff]
  omega

theorem isCont_iff (b : Nat) : isCont b = true ↔ 0x80 ≤ b ∧ b ≤ 0xBF := by
  simp [isCont]

/- the window RFC 3629 leaves to the second byte, in plain arithmetic -/
theorem secondLo_le (b0 b1 : Nat) :
    secondLo b0 ≤ b1 ↔ 0x80 ≤ b1 ∧ (b0 = 0xE0 → 0xA0 ≤ b1) ∧ (b0 = 0xF0 → 0x90 ≤ b1) := by
  simp only [secondLo, beq_iff_eq]
  split
  · omega
  · split <;> omega

theorem le_secondHi (b0 b1 : Nat) :
    b1 ≤ secondHi b0 ↔ b1 ≤ 0xBF ∧ (b0 = 0xED → b1 ≤ 0x9F) ∧ (b0 = 0xF4 → b1 ≤ 0x8F) := by
  simp only [secondHi, beq_iff_eq]
  split
  · omega
  · split <;> omega

theorem utf8Valid_1 (b : Nat) (rest : Bytes) (h : b < 0x80) : utf8Valid (b :: rest) = utf8Valid rest := by
  conv => lhs; unfold utf8Valid
  simp [h]

theorem utf8Valid_2 (b0 b1 : Nat) (r : Bytes) (h : 0xC2 ≤ b0 ∧ b0 ≤ 0xDF) :
    utf8Valid (b0 :: b1 :: r) = (isCont b1 && utf8Valid r) := by
  have : ¬ b0 < 0x80 := by omega
  simp [utf8Valid, h, this]

theorem utf8Valid_3 (b0 b1 b2 : Nat) (r : Bytes) (h : 0xE0 ≤ b0 ∧ b0 ≤ 0xEF) :
    utf8Valid (b0 :: b1 :: b2 :: r) =
      (decide (secondLo b0 ≤ b1) && decide (b1 ≤ secondHi b0) && isCont b2 && utf8Valid r) := by
  have : ¬ b0 < 0x80 := by omega
  have h2 : ¬ (0xC2 ≤ b0 ∧ b0 ≤ 0xDF) := by omega
  simp [utf8Valid, h, this, h2]

theorem utf8Valid_4 (b0 b1 b2 b3 : Nat) (r : Bytes) (h : 0xF0 ≤ b0 ∧ b0 ≤ 0xF4) :
    utf8Valid (b0 :: b1 :: b2 :: b3 :: r) =
      (decide (secondLo b0 ≤ b1) && decide (b1 ≤ secondHi b0) && isCont b2 && isCont b3 && utf8Valid r) := by
  have : ¬ b0 < 0x80 := by omega
  have h2 : ¬ (0xC2 ≤ b0 ∧ b0 ≤ 0xDF) := by omega
  have h3 : ¬ (0xE0 ≤ b0 ∧ b0 ≤ 0xEF) := by omega
  simp [utf8Valid, h, this, h2, h3]

theorem utf8Valid_utf8 (c : Nat) (h : isScalar c = true) (rest : Bytes) :
    utf8Valid (utf8 c ++ rest) = utf8Valid rest := by
  rw [isScalar_iff] at h
  induction c using utf8_cases with
  | h1 c hc e => rw [e]; exact utf8Valid_1 c rest hc
  | h2 q r _ _ hr e =>
    rw [e, List.cons_append, List.cons_append, utf8Valid_2 _ _ _ (by omega), (isCont_iff _).mpr (by omega)]; rfl
  | h3 p q r _ _ _ hr e =>
    rw [e, List.cons_append, List.cons_append, List.cons_append, utf8Valid_3 _ _ _ _ (by omega),
      decide_eq_true ((secondLo_le _ _).mpr (by omega)), decide_eq_true ((le_secondHi _ _).mpr (by omega)),
      (isCont_iff _).mpr (by omega)]; rfl
  | h4 o p q r _ _ _ hr e =>
    rw [e, List.cons_append, List.cons_append, List.cons_append, List.cons_append, utf8Valid_4 _ _ _ _ _ (by omega),
      decide_eq_true ((secondLo_le _ _).mpr (by omega)), decide_eq_true ((le_secondHi _ _).mpr (by omega)),
      (isCont_iff _).mpr (by omega), (isCont_iff _).mpr (by omega)]; rfl

theorem utf8Valid_utf8s : ∀ cs : Chars, cs.all isScalar = true → utf8Valid (utf8s cs) = true
  | [], _ => by simp [utf8s_nil, utf8Valid]
  | c :: cs, h => by
    simp only [List.all_cons, Bool.and_eq_true] at h
    rw [utf8s_cons, utf8Valid_utf8 c h.1]
    exact utf8Valid_utf8s cs h.2

theorem utf8Valid_head (b0 : Nat) (rest : Bytes) (hv : utf8Valid (b0 :: rest) = true) :
    ∃ c r, isScalar c = true ∧ b0 :: rest = utf8 c ++ r ∧ utf8Valid r = true := by
  by_cases h1 : b0 < 0x80
  · rw [utf8Valid_1 b0 rest h1] at hv
    exact ⟨b0, rest, (isScalar_iff _).mpr (by omega), by rw [utf8_ascii b0 h1]; rfl, hv⟩
  by_cases h2 : 0xC2 ≤ b0 ∧ b0 ≤ 0xDF
  · match rest, hv with
    | [], hv => simp [utf8Valid, h1, h2] at hv
    | b1 :: t, hv' =>
      rw [utf8Valid_2 b0 b1 t h2, Bool.and_eq_true, isCont_iff] at hv'
      obtain ⟨q, rfl⟩ := Nat.exists_eq_add_of_le (show 0xC0 ≤ b0 by omega)
      obtain ⟨r, rfl⟩ := Nat.exists_eq_add_of_le (m := 0x80) hv'.1.1
      exact ⟨q * 64 + r, t, (isScalar_iff _).mpr (by omega), by rw [utf8_2 (by omega) (by omega) (by omega)]; rfl, hv'.2⟩
  by_cases h3 : 0xE0 ≤ b0 ∧ b0 ≤ 0xEF
  · match rest, hv with
    | [], hv => simp [utf8Valid, h1, h2, h3] at hv
    | [_], hv => simp [utf8Valid, h1, h2, h3] at hv
    | b1 :: b2 :: t, hv' =>
      rw [utf8Valid_3 b0 b1 b2 t h3] at hv'
      simp only [Bool.and_eq_true, decide_eq_true_eq, secondLo_le, le_secondHi, isCont_iff] at hv'
      obtain ⟨p, rfl⟩ := Nat.exists_eq_add_of_le (m := 0xE0) h3.1
      obtain ⟨q, rfl⟩ := Nat.exists_eq_add_of_le (m := 0x80) hv'.1.1.1.1
      obtain ⟨r, rfl⟩ := Nat.exists_eq_add_of_le (m := 0x80) hv'.1.2.1
      exact ⟨(p * 64 + q) * 64 + r, t, (isScalar_iff _).mpr (by omega),
        by rw [utf8_3 (by omega) (by omega) (by omega) (by omega)]; rfl, hv'.2⟩
  by_cases h4 : 0xF0 ≤ b0 ∧ b0 ≤ 0xF4
  · match rest, hv with
    | [], hv => simp [utf8Valid, h1, h2, h3, h4] at hv
    | [_], hv => simp [utf8Valid, h1, h2, h3, h4] at hv
    | [_, _], hv => simp [utf8Valid, h1, h2, h3, h4] at hv
    | b1 :: b2 :: b3 :: t, hv' =>
      rw [utf8Valid_4 b0 b1 b2 b3 t h4] at hv'
      simp only [Bool.and_eq_true, decide_eq_true_eq, secondLo_le, le_secondHi, isCont_iff] at hv'
      obtain ⟨o, rfl⟩ := Nat.exists_eq_add_of_le (m := 0xF0) h4.1
      obtain ⟨p, rfl⟩ := Nat.exists_eq_add_of_le (m := 0x80) hv'.1.1.1.1.1
      obtain ⟨q, rfl⟩ := Nat.exists_eq_add_of_le (m := 0x80) hv'.1.1.2.1
      obtain ⟨r, rfl⟩ := Nat.exists_eq_add_of_le (m := 0x80) hv'.1.2.1
      exact ⟨((o * 64 + p) * 64 + q) * 64 + r, t, (isScalar_iff _).mpr (by omega),
        by rw [utf8_4 (by omega) (by omega) (by omega) (by omega)]; rfl, hv'.2⟩
  · exfalso
    revert hv
    conv => lhs; lhs; unfold utf8Valid
    simp [h1, h2, h3, h4]

theorem utf8Valid_decodes : ∀ b : Bytes, utf8Valid b = true → ∃ cs : Chars, cs.all isScalar = true ∧ b = utf8s cs
  | [], _ => ⟨[], rfl, rfl⟩
  | b0 :: rest, hv => by
    obtain ⟨c, r, hc, e, hr⟩ := utf8Valid_head b0 rest hv
    have : r.length < (b0 :: rest).length := by
      have := List.length_pos_iff.mpr (utf8_ne_nil c)
      rw [e, List.length_append]; omega
    obtain ⟨cs, hs, rfl⟩ := utf8Valid_decodes r hr
    exact ⟨c :: cs, by simp [hc, hs], by rw [e, utf8s_cons]⟩
termination_by b => b.length

end GoblVerif.Proofs.C14n
