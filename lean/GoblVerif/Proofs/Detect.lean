/-
  Single-character error detection for check-digit schemes.

  A code d₁…dₙ of an *affine* scheme (`Affine`) satisfies (k + Σ fᵢ(dᵢ)) mod m = 0, with every fᵢ
  injective mod m on the digits 0..9: weighted sums (fᵢ = wᵢ·), Luhn (fᵢ = id or the digit
  sum of the double) and the mod-97 schemes are instances.  A *check-digit* scheme (`CheckDigit`) has
  dₙ = g (Σ wᵢdᵢ mod m); when g is not injective it misses exactly the edits between
  remainders that g identifies.  Both rest on one fact: changing one digit changes Σ fᵢ(dᵢ)
  mod m (`sumF_set_ne`).  The second half reads the vocabulary of the published rules
  (`num`, `luhnTotal`, reversed weights, digits of a part) as such sums and says, regime by regime, which
  scheme the published rule is (`pl_checkDigit`, `ch_affine`, …).  DE's ISO 7064 MOD 11,10 is neither kind:
  its recursion is injective in the digit and in the value carried along, so a wrong digit changes what comes out
  (`de_fold_set`, `de_detect`).
-/
import GoblVerif.Proofs.TaxId
import Mathlib.Data.Nat.ModEq

namespace GoblVerif.TaxId.Detect
open GoblVerif.Spec.TaxId (digs dot num isDigits digitSum luhnTotal)

def sumF (fs : List (Nat → Nat)) (ds : List Nat) : Nat := (List.zipWith (fun f d => f d) fs ds).sum

@[simp] theorem sumF_nil (ds : List Nat) : sumF [] ds = 0 := rfl

/-- weights as functions -/
def W (ws : List Nat) : List (Nat → Nat) := ws.map (fun w d => w * d)

theorem sumF_cons (f : Nat → Nat) (fs : List (Nat → Nat)) (d : Nat) (ds : List Nat) :
    sumF (f :: fs) (d :: ds) = f d + sumF fs ds := by
  simp [sumF]

theorem sumF_W (ws ds : List Nat) : sumF (W ws) ds = dot ws ds := by
  simp [sumF, W, dot, List.zipWith_map_left]

theorem sumF_reverse (fs : List (Nat → Nat)) (ds : List Nat) (h : fs.length = ds.length) :
    sumF fs.reverse ds.reverse = sumF fs ds := by
  simp [sumF, ← List.reverse_zipWith h]

theorem sumF_set (fs : List (Nat → Nat)) (ds : List Nat) (i x : Nat) (hi : i < fs.length) (hi' : i < ds.length) :
    sumF fs (ds.set i x) + (fs.getD i id) (ds.getD i 0) = sumF fs ds + (fs.getD i id) x := by
  induction fs generalizing ds i with
  | nil => simp at hi
  | cons f fs ih =>
    cases ds with
    | nil => simp at hi'
    | cons d ds =>
      cases i with
      | zero => simp only [List.set_cons_zero, sumF_cons, List.getD_cons_zero]; omega
      | succ i =>
        have := ih ds i (by simpa using hi) (by simpa using hi')
        simp only [List.set_cons_succ, sumF_cons, List.getD_cons_succ] at this ⊢
        omega

/-- `f` is injective mod `m` on the digits -/
def InjDig (m : Nat) (f : Nat → Nat) : Prop := ∀ d, d < 10 → ∀ d', d' < 10 → f d % m = f d' % m → d = d'

/-- every position function, except at the positions the format fixes, is injective mod `m` on the digits -/
def InjTable (m : Nat) (fixed : List Nat) (fs : List (Nat → Nat)) : Prop :=
  ∀ i, i < fs.length → i ∉ fixed → InjDig m (fs.getD i id)

theorem injTable_of_mem {m : Nat} {fs : List (Nat → Nat)} (h : ∀ f ∈ fs, InjDig m f) : InjTable m [] fs := by
  intro i hi _
  rw [List.getD_eq_getElem?_getD, List.getElem?_eq_getElem hi]
  exact h _ (List.getElem_mem hi)

theorem injTable_cons {m : Nat} {fs : List (Nat → Nat)} (f : Nat → Nat) (h : InjTable m [] fs) : InjTable m [0] (f :: fs) := by
  intro i hi h0
  obtain ⟨j, rfl⟩ : ∃ j, i = j + 1 := ⟨i - 1, by simp at h0; omega⟩
  simpa using h j (by simpa using hi) (by simp)

theorem injDig_mul {m w : Nat} (hm : 10 ≤ m) (h : Nat.gcd m w = 1) : InjDig m (fun d => w * d) := by
  intro d hd d' hd' e
  exact Nat.ModEq.eq_of_lt_of_lt (Nat.ModEq.cancel_left_of_coprime h e) (by omega) (by omega)

theorem injTable_W (m : Nat) (fixed : List Nat) (ws : List Nat) (hm : 10 ≤ m)
    (h : ∀ i, i < ws.length → i ∉ fixed → Nat.gcd m (ws.getD i 0) = 1) : InjTable m fixed (W ws) := by
  intro i hi hf
  have hi' : i < ws.length := by simpa [W] using hi
  have : (W ws).getD i id = fun d => ws.getD i 0 * d := by
    simp [W, List.getD_eq_getElem?_getD, List.getElem?_eq_getElem hi']
  rw [this]
  exact injDig_mul hm (h i hi' hf)

/-- the digit at position `i` of the digit list `ds` is replaced by a different digit `x` -/
structure DigitEdit (ds : List Nat) (i x : Nat) : Prop where
  lt : i < ds.length
  old : ds.getD i 0 < 10
  new : x < 10
  ne : x ≠ ds.getD i 0

theorem sumF_set_ne (m : Nat) (fs : List (Nat → Nat)) {ds : List Nat} {i x : Nat} (he : DigitEdit ds i x)
    (hi : i < fs.length) (hinj : InjDig m (fs.getD i id)) : sumF fs (ds.set i x) % m ≠ sumF fs ds % m := by
  intro h
  have e : sumF fs (ds.set i x) + fs.getD i id (ds.getD i 0) ≡ sumF fs ds + fs.getD i id x [MOD m] := by
    rw [sumF_set fs ds i x hi he.lt]
  exact he.ne (hinj x he.new _ he.old (Nat.ModEq.add_left_cancel h e).symm)

/-- check-digit schemes `last = g (Σ wᵢdᵢ mod m)`: a wrong check digit is always detected; a wrong
    digit in the body changes the remainder, so it passes only if `g` identifies the two remainders -/
theorem checkdigit_undetected (m : Nat) (ws : List Nat) (g : Nat → Nat) (htab : InjTable m [] (W ws))
    {ds : List Nat} {i x : Nat} (he : DigitEdit ds i x) (hil : i ≤ ws.length)
    (h : ds.getD ws.length 0 = g (dot ws ds % m))
    (h' : (ds.set i x).getD ws.length 0 = g (dot ws (ds.set i x) % m)) :
    dot ws ds % m ≠ dot ws (ds.set i x) % m ∧ g (dot ws ds % m) = g (dot ws (ds.set i x) % m) := by
  rcases Nat.lt_or_eq_of_le hil with hlt | rfl
  · have hw : i < (W ws).length := by simpa [W] using hlt
    refine ⟨fun e => ?_, ?_⟩
    · rw [← sumF_W, ← sumF_W] at e
      exact sumF_set_ne m _ he hw (htab i hw (by simp)) e.symm
    · rw [← h, ← h', getD_set_ne ds x 0 (Nat.ne_of_lt hlt)]
  · -- the body, hence the remainder, is unchanged
    rw [← dot_take ws _ _ (Nat.le_refl _), List.take_set_of_le (Nat.le_refl _), dot_take ws _ _ (Nat.le_refl _), ← h,
      getD_set_self ds _ x 0 he.lt] at h'
    exact absurd h' he.ne

/-- `s'` is `s` with exactly one character replaced by a different one -/
def edit1 (s s' : Str) : Prop := ∃ i, i < s.length ∧ ∃ c, c ≠ s.getD i ' ' ∧ s' = s.set i c

theorem edit1_length {s s' : Str} (he : edit1 s s') : s'.length = s.length := by
  obtain ⟨i, _, c, _, rfl⟩ := he; simp

theorem edit1_cons (a : Char) {s s' : Str} (he : edit1 s s') : edit1 (a :: s) (a :: s') := by
  obtain ⟨i, hi, c, hc, rfl⟩ := he
  exact ⟨i + 1, by simpa using hi, c, by simpa using hc, by simp⟩

theorem digit_edit (s : Str) (i : Nat) (c : Char) (hi : i < s.length) (hc : c ≠ s.getD i ' ')
    (hd : isDig (s.getD i ' ') = true) (hd' : isDig c = true) : DigitEdit (digs s) i (dval c) := by
  refine ⟨by rwa [digs_length], ?_, Nat.lt_succ_of_le (dval_le_nine hd'), ?_⟩ <;> rw [← dval_getD_space s i]
  · exact Nat.lt_succ_of_le (dval_le_nine hd)
  · exact fun h => hc (dval_inj _ _ hd' hd h)

theorem edit1_digits {s s' : Str} (he : edit1 s s') (hd : s.all isDig = true) (hd' : s'.all isDig = true) :
    ∃ i x, DigitEdit (digs s) i x ∧ digs s' = (digs s).set i x := by
  obtain ⟨i, hi, c, hc, rfl⟩ := he
  exact ⟨i, dval c, digit_edit s i c hi hc (isDig_getD hd hi)
    (getD_set_self s i c ' ' hi ▸ isDig_getD hd' (by simpa using hi)), digs_set s i c⟩

/-- the codes of `valid` have length `n`, digits except at the positions `fixed`, and `(k + Σ fᵢ(dᵢ)) % m = 0` -/
def Affine (valid : Str → Bool) (n m k : Nat) (fixed : List Nat) (fs : List (Nat → Nat)) : Prop :=
  ∀ s, valid s = true → s.length = n ∧ (∀ i, i < n → i ∉ fixed → isDig (s.getD i ' ') = true) ∧
    (k + sumF fs (digs s)) % m = 0

/-- every valid code has the same character at the positions `fixed` -/
def FixedAt (valid : Str → Bool) (fixed : List Nat) : Prop :=
  ∀ s s', valid s = true → valid s' = true → ∀ i ∈ fixed, s.getD i ' ' = s'.getD i ' '

theorem fixedAt_nil (valid : Str → Bool) : FixedAt valid [] := fun _ _ _ _ _ h => nomatch h

theorem fixedAt_head {valid : Str → Bool} {x : Char} (h : ∀ s, valid s = true → s.head? = some x) : FixedAt valid [0] := by
  intro s s' hv hv' i hi
  obtain rfl : i = 0 := by simpa using hi
  rw [getD_zero_of_head? (h s hv), getD_zero_of_head? (h s' hv')]

/-- the codes of `valid` are `ws.length` digits followed by `g (Σ wᵢdᵢ mod m)` -/
def CheckDigit (valid : Str → Bool) (m : Nat) (ws : List Nat) (g : Nat → Nat) : Prop :=
  ∀ s, valid s = true → s.length = ws.length + 1 ∧ s.all isDig = true ∧ (digs s).getD ws.length 0 = g (dot ws (digs s) % m)

theorem detect_str {valid : Str → Bool} {n m k : Nat} {fixed : List Nat} {fs : List (Nat → Nat)}
    (haff : Affine valid n m k fixed fs) (hlen : fs.length = n) (htab : InjTable m fixed fs) (hfix : FixedAt valid fixed)
    (s s' : Str) (hv : valid s = true) (he : edit1 s s') : valid s' = false := by
  rw [Bool.eq_false_iff]
  intro hv'
  obtain ⟨i, hi, c, hc, rfl⟩ := he
  obtain ⟨hl, hd, ha⟩ := haff s hv
  obtain ⟨-, hd', ha'⟩ := haff _ hv'
  have hget := getD_set_self s i c ' ' hi
  by_cases hs : i ∈ fixed
  · exact hc (hget ▸ hfix s _ hv hv' i hs).symm
  · rw [digs_set] at ha'
    exact sumF_set_ne m fs (digit_edit s i c hi hc (hd i (hl ▸ hi) hs) (hget ▸ hd' i (hl ▸ hi) hs)) (by omega)
      (htab i (by omega) hs) (Nat.ModEq.add_left_cancel' k (ha'.trans ha.symm))

theorem checkdigit_undetected_str {valid : Str → Bool} {m : Nat} {ws : List Nat} {g : Nat → Nat}
    (hspec : CheckDigit valid m ws g) (htab : InjTable m [] (W ws))
    (s s' : Str) (hv : valid s = true) (he : edit1 s s') (hv' : valid s' = true) :
    dot ws (digs s) % m ≠ dot ws (digs s') % m ∧ g (dot ws (digs s) % m) = g (dot ws (digs s') % m) := by
  obtain ⟨hl, hd, ha⟩ := hspec s hv
  obtain ⟨-, hd', ha'⟩ := hspec _ hv'
  obtain ⟨i, x, hx, e⟩ := edit1_digits he hd hd'
  rw [e] at ha' ⊢
  exact checkdigit_undetected m ws g htab hx (by have := hx.lt; rw [digs_length] at this; omega) ha ha'

theorem checkdigit_detected {valid : Str → Bool} {m : Nat} {ws : List Nat} {g : Nat → Nat}
    (hspec : CheckDigit valid m ws g) (htab : InjTable m [] (W ws)) (hm : 0 < m)
    (hg : ∀ r, r < m → ∀ r', r' < m → g r = g r' → r = r')
    (s s' : Str) (hv : valid s = true) (he : edit1 s s') : valid s' = false := by
  rw [Bool.eq_false_iff]
  intro hv'
  have key := checkdigit_undetected_str hspec htab s s' hv he hv'
  exact key.1 (hg _ (Nat.mod_lt _ hm) _ (Nat.mod_lt _ hm) key.2)

/-- the weights of an `n`-digit block read as a number and multiplied by `c` -/
def numW (c : Nat) : Nat → List Nat
  | 0 => []
  | n + 1 => c * 10 ^ n :: numW c n

@[simp] theorem length_numW (c n : Nat) : (numW c n).length = n := by
  induction n with
  | zero => rfl
  | succ n ih => simp [numW, ih]

theorem dot_numW (c : Nat) {n : Nat} {ds : List Nat} (h : ds.length = n) : dot (numW c n) ds = c * num ds := by
  subst h
  induction ds with
  | nil => simp [numW, dot, num]
  | cons d ds ih =>
    simp only [dot, List.length_cons, numW, List.zipWith_cons_cons, List.sum_cons, num] at ih ⊢
    rw [ih]; ring

/-- Luhn: digit sum of the double -/
def dbl (d : Nat) : Nat := digitSum (2 * d)

/-- Luhn's position functions, from the check digit leftwards -/
def luhnF : Nat → List (Nat → Nat)
  | 0 => []
  | 1 => [id]
  | n + 2 => id :: dbl :: luhnF n

@[simp] theorem length_luhnF : ∀ n, (luhnF n).length = n
  | 0 => rfl
  | 1 => rfl
  | n + 2 => by simp [luhnF, length_luhnF n]

theorem luhnTotal_eq_sumF : ∀ ds, luhnTotal ds = sumF (luhnF ds.length) ds
  | [] => rfl
  | [a] => by simp [luhnTotal, luhnF, sumF]
  | a :: b :: ds => by simp [luhnTotal, luhnF, sumF_cons, luhnTotal_eq_sumF ds, dbl, Nat.add_assoc]

theorem luhnValid_iff (ds : List Nat) :
    Spec.TaxId.luhnValid ds = true ↔ (0 + sumF (luhnF ds.length).reverse ds) % 10 = 0 := by
  rw [Spec.TaxId.luhnValid, luhnTotal_eq_sumF, List.length_reverse, ← sumF_reverse _ _ (by simp), List.reverse_reverse]
  simp

theorem injDig_id : InjDig 10 id := by unfold InjDig; decide
theorem injDig_dbl : InjDig 10 dbl := by unfold InjDig; decide

theorem injTable_luhnF (n : Nat) : InjTable 10 [] (luhnF n).reverse := by
  refine injTable_of_mem fun f hf => ?_
  rw [List.mem_reverse] at hf
  induction n using luhnF.induct with
  | case1 => simp [luhnF] at hf
  | case2 => simp only [luhnF, List.mem_singleton] at hf; exact hf ▸ injDig_id
  | case3 n ih =>
    simp only [luhnF, List.mem_cons] at hf
    rcases hf with rfl | rfl | hf
    exacts [injDig_id, injDig_dbl, ih hf]

theorem luhn_detects (s s' : Str) (hd : s.all isDig = true) (hv : Spec.TaxId.luhnValid (digs s) = true) (he : edit1 s s') :
    (s'.all isDig && Spec.TaxId.luhnValid (digs s')) = false := by
  have haff : Affine (fun t => t.length == s.length && (t.all isDig && Spec.TaxId.luhnValid (digs t))) s.length 10 0 []
      (luhnF s.length).reverse := by
    intro t ht
    simp only [Bool.and_eq_true, beq_iff_eq] at ht
    obtain ⟨hl, hd, hc⟩ := ht
    rw [luhnValid_iff, digs_length, hl] at hc
    exact ⟨hl, fun i hi _ => isDig_getD hd (hl ▸ hi), hc⟩
  simpa [edit1_length he] using detect_str haff (by simp) (injTable_luhnF _) (fixedAt_nil _) s s' (by simp [hd, hv]) he

theorem pl_checkDigit : CheckDigit Spec.TaxId.PL.valid 11 [6, 5, 7, 2, 3, 4, 5, 6, 7] id := by
  intro s hv
  rw [Spec.TaxId.PL.valid, Bool.and_eq_true] at hv
  exact ⟨(PL.of_format hv.1).1, (PL.of_format hv.1).2, (beq_iff_eq.mp hv.2).symm⟩

theorem nl_elfproef_checkDigit :
    CheckDigit (fun s => s.length == 9 && isDigits s && Spec.TaxId.NL.elfproef (digs s)) 11 [9, 8, 7, 6, 5, 4, 3, 2] id := by
  intro s hv
  rw [Bool.and_eq_true] at hv
  exact ⟨(length_digits hv.1).1, (length_digits hv.1).2, (beq_iff_eq.mp hv.2).symm⟩

theorem pt_checkDigit :
    CheckDigit Spec.TaxId.PT.valid 11 [9, 8, 7, 6, 5, 4, 3, 2] Spec.TaxId.BR.dv := by
  intro s hv
  rw [Spec.TaxId.PT.valid, Bool.and_eq_true] at hv
  exact ⟨(PT.of_format hv.1).1, (PT.of_format hv.1).2, beq_iff_eq.mp hv.2⟩

theorem gr_checkDigit : CheckDigit Spec.TaxId.GR.valid 11 [256, 128, 64, 32, 16, 8, 4, 2] (· % 10) := by
  intro s hv
  rw [Spec.TaxId.GR.valid, Bool.and_eq_true] at hv
  exact ⟨(GR.of_format hv.1).1, (GR.of_format hv.1).2, (beq_iff_eq.mp hv.2).symm⟩

/-- the second check digit of the CNPJ, over all thirteen digits before it -/
theorem br_checkDigit : CheckDigit Spec.TaxId.BR.valid 11 [6, 5, 4, 3, 2, 9, 8, 7, 6, 5, 4, 3, 2] Spec.TaxId.BR.dv := by
  intro s hv
  simp only [Spec.TaxId.BR.valid, Spec.TaxId.BR.check, Bool.and_eq_true, beq_iff_eq] at hv
  exact ⟨(BR.of_format hv.1).1, (BR.of_format hv.1).2, hv.2.2⟩

/-- CO: the check reads the prime weights from the right of the body; from the left they are the
    reversed prefix of the table -/
theorem co_last_digit (s : Str) (n : Nat) (hl : s.length = n + 1) (hn : n ≤ 15) (hc : Spec.TaxId.CO.check s = true) :
    (digs s).getD n 0 = (fun r => if r < 2 then r else 11 - r) (dot (Spec.TaxId.CO.primes.take n).reverse (digs s) % 11) := by
  simp only [Spec.TaxId.CO.check, beq_iff_eq, digs_length, hl, Nat.add_sub_cancel, List.getLast?_eq_getElem?] at hc
  rw [dot_reverse_take Spec.TaxId.CO.primes _ n hn (by rw [digs_length, hl]; omega)] at hc
  rw [List.getD_eq_getElem?_getD, hc, Option.getD_some]

theorem co_checkDigit (n : Nat) (hn : n ≤ 15) :
    CheckDigit (fun s => Spec.TaxId.CO.valid s && s.length == n + 1) 11 (Spec.TaxId.CO.primes.take n).reverse
      (fun r => if r < 2 then r else 11 - r) := by
  have hw : (Spec.TaxId.CO.primes.take n).reverse.length = n := by simp [Spec.TaxId.CO.primes]; omega
  intro s hv
  simp only [Spec.TaxId.CO.valid, Bool.and_eq_true, beq_iff_eq] at hv
  rw [hw]
  exact ⟨hv.2, (CO.of_format hv.1.1).2, co_last_digit s n hv.2 hn hv.1.2⟩

/-- CH, `c = 11 − r` with `c = 10` invalid: the check digit enters the sum with weight 1, the letter with weight 0 -/
theorem ch_affine : Affine Spec.TaxId.CH.valid 10 11 0 [0] (W (0 :: ([5, 4, 3, 2, 7, 6, 5, 4] ++ [1]))) := by
  intro s hv
  rw [Spec.TaxId.CH.valid, Bool.and_eq_true] at hv
  obtain ⟨t, rfl, hl, hd⟩ := CH.of_format hv.1
  have hc := hv.2
  simp only [Spec.TaxId.CH.check, List.drop_succ_cons, List.drop_zero, Bool.and_eq_true, beq_iff_eq, bne_iff_ne] at hc
  refine ⟨by simp [hl], fun i hi h0 => ?_, ?_⟩
  · obtain ⟨j, rfl⟩ : ∃ j, i = j + 1 := ⟨i - 1, by simp at h0; omega⟩
    exact isDig_getD hd (by omega)
  · rw [sumF_W, digs_cons, dot_cons, dot_concat]
    generalize dot _ (digs t) = x at hc ⊢
    simp only [Spec.TaxId.dg, List.length_cons, List.length_nil] at hc ⊢
    generalize (digs t).getD _ 0 = c at hc ⊢
    obtain ⟨hne, hc⟩ := hc
    split at hc <;> omega

/-- AT, a Luhn variant with the constant 4: identity and digit sum of the double in turn, the check digit itself last -/
theorem at_affine : Affine Spec.TaxId.AT.valid 9 10 4 [0] [fun _ => 0, id, dbl, id, dbl, id, dbl, id, id] := by
  intro s hv
  rw [Spec.TaxId.AT.valid, Bool.and_eq_true] at hv
  obtain ⟨t, rfl, hl, hd⟩ := AT.of_format hv.1
  have hc := hv.2
  simp only [Spec.TaxId.AT.check, List.drop_succ_cons, List.drop_zero, beq_iff_eq] at hc
  refine ⟨by simp [hl], fun i hi h0 => ?_, ?_⟩
  · obtain ⟨j, rfl⟩ : ∃ j, i = j + 1 := ⟨i - 1, by simp at h0; omega⟩
    exact isDig_getD hd (by omega)
  · -- the rule names the digits one by one
    match hD : digs t, (by simpa using hl : (digs t).length = 8) with
    | [d1, d2, d3, d4, d5, d6, d7, d8], _ =>
      rw [hD] at hc
      simp only [Spec.TaxId.dg, List.getD_cons_succ, List.getD_cons_zero, Nat.reduceSub] at hc
      simp only [digs_cons, hD, sumF_cons, sumF_nil, dbl, id]
      omega

/-- FR, key ≡ 12 + 3·SIREN: 96 ≡ −1 on the key digits, 3 on the SIREN -/
theorem fr_affine : Affine Spec.TaxId.FR.valid 11 97 12 [] (W (numW 96 2 ++ numW 3 9)) := by
  intro s hv
  rw [Spec.TaxId.FR.valid, Bool.and_eq_true] at hv
  obtain ⟨hl, hd⟩ := FR.of_format hv.1
  have hc := beq_iff_eq.mp hv.2
  refine ⟨hl, fun i hi _ => isDig_getD hd (hl ▸ hi), ?_⟩
  rw [sumF_W, dot_append, length_numW, dot_numW 96 (by simp [digs_length, hl]), dot_numW 3 (by simp [digs_length, hl])]
  omega

/-- the Belgian rule on the number padded to ten digits: `Spec.TaxId.BE.valid s` is `BE.validPadded (pad s)` -/
def BE.validPadded (t : Str) : Bool :=
  (t.length == 10 && isDigits t && t.head? == some '0' && t[1]? != some '0') &&
    (num ((digs t).drop 8) + num ((digs t).take 8) % 97 == 97)

theorem BE.valid_eq_validPadded (s : Str) : Spec.TaxId.BE.valid s = BE.validPadded (Spec.TaxId.BE.pad s) := rfl

theorem edit1_pad {s s' : Str} (he : edit1 s s') : edit1 (Spec.TaxId.BE.pad s) (Spec.TaxId.BE.pad s') := by
  unfold Spec.TaxId.BE.pad
  rw [edit1_length he]
  split
  · exact edit1_cons '0' he
  · exact he

theorem be_affine : Affine BE.validPadded 10 97 0 [] (W (numW 1 8 ++ numW 1 2)) := by
  intro t hv
  simp only [BE.validPadded, Bool.and_eq_true, beq_iff_eq] at hv
  obtain ⟨⟨⟨⟨hl, hd⟩, -⟩, -⟩, hc⟩ := hv
  refine ⟨hl, fun i hi _ => isDig_getD hd (hl ▸ hi), ?_⟩
  rw [sumF_W, dot_append, length_numW, dot_numW 1 (by simp [digs_length, hl]), dot_numW 1 (by simp [digs_length, hl])]
  omega

theorem flatMap_expand (s : Str) (h : s.all isDig = true) : s.flatMap Spec.TaxId.NL.expand = digs s := by
  induction s with
  | nil => rfl
  | cons c s ih =>
    simp only [List.all_cons, Bool.and_eq_true] at h
    rw [List.flatMap_cons, ih h.2]
    simp [Spec.TaxId.NL.expand, h.1, digs]

theorem nl_mod97_num (a b : Str) (ha : a.all isDig = true) (hb : b.all isDig = true) :
    num ((['N', 'L'] ++ (a ++ 'B' :: b)).flatMap Spec.TaxId.NL.expand) =
      2321 * 10 ^ (a.length + (2 + b.length)) + (num (digs a) * 10 ^ (2 + b.length) + (11 * 10 ^ b.length + num (digs b))) := by
  have hN : Spec.TaxId.NL.expand 'N' = [2, 3] := by decide
  have hL : Spec.TaxId.NL.expand 'L' = [2, 1] := by decide
  have hB : Spec.TaxId.NL.expand 'B' = [1, 1] := by decide
  simp only [List.flatMap_append, List.flatMap_cons, List.flatMap_nil, hN, hL, hB, flatMap_expand _ ha, flatMap_expand _ hb,
    num_append, List.length_append, digs_length, List.length_cons, List.length_nil, num, List.append_nil]
  ring

/-- NL mod-97 test: `NL`, `B` and the remainder 1 make the constant; the nine digits stand four places up -/
theorem nl_mod97_affine : Affine (fun s => Spec.TaxId.NL.format s && Spec.TaxId.NL.mod97 s) 12 97 (2321 * 10 ^ 13 + 1099) [9]
    (W (numW (10 ^ 4) 9 ++ 0 :: numW 1 2)) := by
  intro s hv
  rw [Bool.and_eq_true] at hv
  obtain ⟨hl, ha, hB, hb⟩ := NL.of_format hv.1
  have hm := beq_iff_eq.mp hv.2
  refine ⟨hl, fun i hi h9 => ?_, ?_⟩
  · have h9 : i ≠ 9 := by simpa using h9
    by_cases h : i < 9
    · exact isDig_getD_take ha h (hl ▸ hi)
    · exact isDig_getD_drop hb (by omega) (hl ▸ hi)
  · have hs : s = s.take 9 ++ 'B' :: s.drop 10 := by rw [← hB]; exact (take_getD_drop (by omega) ' ').symm
    rw [hs, nl_mod97_num _ _ ha hb, List.length_take_of_le (by omega), List.length_drop, hl, digs_take, digs_drop] at hm
    rw [sumF_W, dot_append, dot_cons_drop, length_numW, List.drop_drop,
      dot_numW _ (by simp [digs_length, hl]), dot_numW 1 (by simp [digs_length, hl])]
    simp only [Nat.reduceAdd]
    omega

theorem nl_mod97_fixedAt : FixedAt (fun s => Spec.TaxId.NL.format s && Spec.TaxId.NL.mod97 s) [9] := by
  intro s s' hv hv' i hi
  obtain rfl : i = 9 := by simpa using hi
  rw [(NL.of_format (Bool.and_eq_true_iff.mp hv).1).2.2.1, (NL.of_format (Bool.and_eq_true_iff.mp hv').1).2.2.1]

/-- BR's `dv`, which is PT's check-digit function too -/
theorem dv_collisions : ∀ r, r < 11 → ∀ q, q < 11 →
    (r ≠ q ∧ Spec.TaxId.BR.dv r = Spec.TaxId.BR.dv q) → (r < 2 ∧ q < 2) := by decide

/-- GR's check-digit function -/
theorem mod10_collisions : ∀ r, r < 11 → ∀ q, q < 11 →
    (r ≠ q ∧ r % 10 = q % 10) → ((r = 0 ∧ q = 10) ∨ (r = 10 ∧ q = 0)) := by decide

theorem co_collisions : ∀ r, r < 11 → ∀ q, q < 11 →
    (r ≠ q ∧ (if r < 2 then r else 11 - r) = (if q < 2 then q else 11 - q)) → ((r = 1 ∧ q = 10) ∨ (r = 10 ∧ q = 1)) := by decide

theorem co_undetected (n : Nat) (hn : n ≤ 15) (s s' : Str) (hl : s.length = n + 1) (hv : Spec.TaxId.CO.valid s = true)
    (he : edit1 s s') (hv' : Spec.TaxId.CO.valid s' = true) :
    let r := dot (Spec.TaxId.CO.primes.take n).reverse (digs s) % 11
    let r' := dot (Spec.TaxId.CO.primes.take n).reverse (digs s') % 11
    (r = 1 ∧ r' = 10) ∨ (r = 10 ∧ r' = 1) := by
  have hp : ∀ w ∈ Spec.TaxId.CO.primes, Nat.gcd 11 w = 1 := by decide
  refine co_collisions _ (Nat.mod_lt _ (by omega)) _ (Nat.mod_lt _ (by omega))
    (checkdigit_undetected_str (co_checkDigit n hn) (injTable_W 11 [] _ (by omega) fun i hi _ => ?_) s s' (by simp [hv, hl]) he
      (by simp [hv', edit1_length he, hl]))
  rw [← List.getElem_eq_getD (h := hi)]
  exact hp _ (List.mem_of_mem_take (List.mem_reverse.mp (List.getElem_mem hi)))

open GoblVerif.Spec.TaxId.DE (step)

/-- injective because 11 is prime to 2 -/
theorem DE.dbl_inj : ∀ t, t < 10 → ∀ u, u < 10 → DE.dbl t = DE.dbl u → t = u := by decide

theorem DE.step_inj {p a q b : Nat} (h : Spec.TaxId.DE.step p a = Spec.TaxId.DE.step q b) : (p + a) % 10 = (q + b) % 10 :=
  DE.dbl_inj _ (Nat.mod_lt _ (by omega)) _ (Nat.mod_lt _ (by omega)) h

theorem DE.fold_inj (l : List Nat) (p p' : Nat) (hp : 1 ≤ p ∧ p ≤ 10) (hp' : 1 ≤ p' ∧ p' ≤ 10)
    (hne : p ≠ p') : l.foldl Spec.TaxId.DE.step p ≠ l.foldl Spec.TaxId.DE.step p' := by
  induction l generalizing p p' with
  | nil => simpa using hne
  | cons a l ih =>
    refine ih _ _ (DE.step_range p a) (DE.step_range p' a) fun h => hne ?_
    have := DE.step_inj h
    omega

theorem de_fold_set {l : List Nat} {i x : Nat} (he : DigitEdit l i x) (p : Nat) (hp : 1 ≤ p ∧ p ≤ 10) :
    (l.set i x).foldl step p ≠ l.foldl step p := by
  induction l generalizing i p with
  | nil => exact absurd he.lt (by simp)
  | cons a l ih =>
    cases i with
    | zero =>
      refine DE.fold_inj l _ _ (DE.step_range p x) (DE.step_range p a) fun h => he.ne ?_
      have := DE.step_inj h
      have := he.old
      have := he.new
      simp only [List.getD_cons_zero] at *
      omega
    | succ i => exact ih ⟨by simpa using he.lt, by simpa using he.old, he.new, by simpa using he.ne⟩ _ (DE.step_range p a)

/-- ISO 7064 MOD 11,10 (payload of `n` digits, then the check digit) detects a wrong digit anywhere -/
theorem de_detect {ds : List Nat} {i x : Nat} (he : DigitEdit ds i x) (n : Nat) (hin : i ≤ n)
    (h1 : ((ds.take n).foldl step 10 + ds.getD n 0) % 10 = 1) :
    (((ds.set i x).take n).foldl step 10 + (ds.set i x).getD n 0) % 10 ≠ 1 := by
  have hd := he.old
  have hx := he.new
  have hne := he.ne
  rcases Nat.lt_or_eq_of_le hin with hlt | rfl
  · have hP := DE.fold_range (ds.take n) 10 (by omega)
    have hP' := DE.fold_range ((ds.take n).set i x) 10 (by omega)
    have hg : (ds.take n).getD i 0 = ds.getD i 0 := by
      simp [List.getD_eq_getElem?_getD, List.getElem?_take_of_lt hlt]
    have := de_fold_set (l := ds.take n) (i := i) (x := x) ⟨by have := he.lt; simp; omega, hg ▸ hd, hx, hg ▸ hne⟩ 10 (by omega)
    rw [List.take_set, getD_set_ne ds x 0 (Nat.ne_of_lt hlt)]
    omega
  · rw [List.take_set_of_le (Nat.le_refl _), getD_set_self ds i x 0 he.lt]
    omega

end GoblVerif.TaxId.Detect
