/-
  Error bounds (C01): the rows shown beside the totals as presented figures,
  each against its exact rational value — the categories of the tax summary
  (amount, surcharge), its rate groups (base, amount, surcharge), advances and
  due dates.  A category and a rate group are quantities additive over the rows
  (`rowsQ`), so they inherit the rows' weights through `doc_rows_err`; that a
  group's base is the sum of the contributions of its key is C02's
  accumulation invariant (`Proofs/CalcRows.lean`: `baseRateTotals_inv`).  At
  the end the exact quantities are identified with those `Spec/C01.lean`
  writes for the driver.
-/
import GoblVerif.Proofs.CalcErrorTotals

namespace GoblVerif
open GoblVerif.Spec GoblVerif.Calc GoblVerif.Spec.C02
namespace Calc
namespace Err

variable {ret : String → Bool}

/-- the exact amount (`selP`) / surcharge (`selS`) of tax category `k`: Σ rows Σ combos of the
category, exact row total (included tax taken out) × percentage / surcharge percentage -/
def catExactQ (sel : ℚ → ℚ → ℚ) (d : Doc) (k : String) : ℚ :=
  ((exactRowsW d).map (fun er => rowG sel k (remQ d.includes er.1 er.2.1) er.2.1)).sum

theorem catExactQ_eq_rowsQ (sel : ℚ → ℚ → ℚ) (d : Doc) (k : String) : catExactQ sel d k = rowsQ d (rowG sel k) := rfl

theorem cat_rows_shown (d : Doc) (out : Out) (t : Totals) (hd : DocTI ret d)
    (hcalc : calculate exactOps d = .ok out) (ht : out.totals = some t)
    (txp : TaxTotal) (htp : t.taxes = some txp) (k : String) (ct : CatTotal)
    (hf : txp.cats.find? (fun ct => ct.code == k) = some ct) :
    Spec.C01.presents d.c ct.amount ct.precise.toRat ∧
    |ct.precise.toRat - catExactQ selP d k| ≤
      (ct.rates.length + rowsWLQ (fun taxes => (kN (some k) taxes : ℚ)) d.includes d) * halfUlp (d.c + 2) ∧
    ∃ ws : Option Amount, ct.surcharge = ws.map (·.rescaleX d.c) ∧
      |optQ ws - catExactQ selS d k| ≤
        (ct.rates.length + rowsWLQ (fun taxes => (kN (some k) taxes : ℚ)) d.includes d) * halfUlp (d.c + 2) := by
  obtain ⟨p, tx, K⟩ := calculated hcalc ht
  obtain rfl := K.taxes_eq htp
  obtain ⟨hsexp, hrows', _⟩ := doc_reduced d p hd K.pre_ok
  have htax := doc_summary d p txp hd.base K.tax_ok
  obtain ⟨_, c2⟩ := taxSummary_g d.c p.sum.exp _ hrows' hsexp k
  obtain ⟨g2, g3, ws, g4, g5⟩ := c2 ct (htax ▸ hf)
  have eP := doc_rows_err (rowG selP k) (fun taxes => (kN (some k) taxes : ℚ)) (fun _ => Nat.cast_nonneg _)
    (fun taxes h T t => rowG_diff selP keyW_selP_le k taxes h T t) d p hd K.pre_ok
  have eS := doc_rows_err (rowG selS k) (fun taxes => (kN (some k) taxes : ℚ)) (fun _ => Nat.cast_nonneg _)
    (fun taxes h T t => rowG_diff selS keyW_selS_le k taxes h T t) d p hd K.pre_ok
  rw [catExactQ_eq_rowsQ, catExactQ_eq_rowsQ]
  exact ⟨by rw [g2]; exact presents_rescale d.c _, (g3.shift eP).err, ws, g4, (g5.shift eS).err⟩

theorem catExactQ_included (d : Doc) (k : String) (h : d.includes = some k) :
    catExactQ selP d k = (Spec.C01.exactQ d).taxIncluded := by
  rw [catExactQ_eq_rowsQ, exactQ_inc_rows, h]
  rfl

/-- what a row with total `t` contributes to the base of the group `(cat, key)`: `t` once per
combo of that category and key -/
def grpF (cat : String) (key : GroupKey) (t : ℚ) (taxes : List Combo) : ℚ :=
  ((taxes.filter (fun cb => decide (cb.cat = cat ∧ keyOfCombo cb = key))).map (fun _ => t)).sum

/-- the exact base of the group `(cat, key)`: Σ exact rows (included tax taken out), once per combo
of the group -/
def grpExactQ (d : Doc) (cat : String) (key : GroupKey) : ℚ :=
  ((exactRowsW d).map (fun er => grpF cat key (remQ d.includes er.1 er.2.1) er.2.1)).sum

theorem grpExactQ_eq_rowsQ (d : Doc) (cat : String) (key : GroupKey) :
    grpExactQ d cat key = rowsQ d (grpF cat key) := rfl

theorem grpF_diff (cat : String) (key : GroupKey) (taxes : List Combo) (T t : ℚ) :
    |grpF cat key T taxes - grpF cat key t taxes| ≤ (gN cat key taxes : ℚ) * |T - t| := by
  simp only [grpF, gN]
  exact sum_err_const _ _ _ _ (fun _ _ => le_refl _)

/-- the contributions of a group under the precise rule, row by row -/
theorem baseQ_groupOf (c : ℕ) (inc : Option String) (rows : List Row) (cat : String) (key : GroupKey) :
    baseQ (groupOf (contributions .precise c inc rows) cat key) =
      (rows.map (fun rw => grpF cat key (exclusive c inc rw).toRat rw.taxes)).sum := by
  unfold baseQ groupOf contributions grpF
  induction rows with
  | nil => rfl
  | cons rw rows ih =>
    rw [List.flatMap_cons, List.filter_append, List.map_append, List.map_append, List.sum_append, ih, List.map_cons,
      List.sum_cons, List.filter_map, List.map_map, List.map_map]
    rfl

/-- `Wb = rowsWLQ gN`: a base has no rounding point of its own (bases are exact sums); amount and
surcharge add one each and carry `Wb` times the actual percentage, not its bound 100 % -/
theorem group_rows_shown (d : Doc) (out : Out) (t : Totals) (hd : DocTI ret d)
    (hcalc : calculate exactOps d = .ok out) (ht : out.totals = some t)
    (txp : TaxTotal) (htp : t.taxes = some txp) (ct : CatTotal) (hct : ct ∈ txp.cats)
    (rt : RateTotal) (hrt : rt ∈ ct.rates) :
    ∃ bw : Amount, Spec.C01.presents d.c rt.base bw.toRat ∧
      |bw.toRat - grpExactQ d ct.code (keyOfRate rt)| ≤
        rowsWLQ (fun taxes => (gN ct.code (keyOfRate rt) taxes : ℚ)) d.includes d * halfUlp (d.c + 2) ∧
      (∀ p, rt.percent = some p → ∃ aw : Amount, Spec.C01.presents d.c rt.amount aw.toRat ∧
        |aw.toRat - grpExactQ d ct.code (keyOfRate rt) * p.amount.toRat| ≤
          (1 + |p.amount.toRat| * rowsWLQ (fun taxes => (gN ct.code (keyOfRate rt) taxes : ℚ)) d.includes d)
            * halfUlp (d.c + 2)) ∧
      (∀ p sp sa, rt.percent = some p → rt.surcharge = some (sp, sa) →
        ∃ sw : Amount, Spec.C01.presents d.c sa sw.toRat ∧
        |sw.toRat - grpExactQ d ct.code (keyOfRate rt) * sp.amount.toRat| ≤
          (1 + |sp.amount.toRat| * rowsWLQ (fun taxes => (gN ct.code (keyOfRate rt) taxes : ℚ)) d.includes d)
            * halfUlp (d.c + 2)) := by
  obtain ⟨p, tx, K⟩ := calculated hcalc ht
  obtain rfl := K.taxes_eq htp
  obtain ⟨hsexp, hrows', _⟩ := doc_reduced d p hd K.pre_ok
  -- the presented group comes from a group `rt0` of the bases
  rw [doc_summary d p txp hd.base K.tax_ok] at hct
  obtain ⟨ct0, hct0, rt0, hrt0, hcode, hkey, hper, hbase, hamt⟩ := taxSummary_group d.c _ hct hrt
  rw [hcode, hkey]
  -- its base, exactly (C02's invariant), and what the rows carry into it
  have g1 := (((baseRateTotals_inv .precise d.c d.includes p.rows).each ct0 hct0).groups rt0 hrt0).value
  rw [baseQ_groupOf, show (p.rows.map fun rw => grpF ct0.code (keyOfRate rt0) (exclusive d.c d.includes rw).toRat rw.taxes) =
    (p.rows.map (exclRow d.c d.includes)).map fun rw => grpF ct0.code (keyOfRate rt0) rw.total.toRat rw.taxes by
      rw [List.map_map]; rfl] at g1
  obtain ⟨he1, he2⟩ := baseRateTotals_fine d.c p.sum.exp _ hrows' hsexp ct0 hct0 rt0 hrt0
  have hB : Approx d.c p.sum.exp rt0.base (grpExactQ d ct0.code (keyOfRate rt0))
      (rowsWLQ (fun taxes => (gN ct0.code (keyOfRate rt0) taxes : ℚ)) d.includes d) :=
    ⟨he2, grpExactQ_eq_rowsQ d _ _ ▸ g1 ▸ doc_rows_err (grpF ct0.code (keyOfRate rt0)) _ (fun _ => Nat.cast_nonneg _)
      (fun taxes _ T t => grpF_diff ct0.code (keyOfRate rt0) taxes T t) d p hd K.pre_ok⟩
  -- one percentage of the base: its own rounding plus the carried error of the base
  refine ⟨rt0.base, hbase ▸ presents_rescale d.c _, hB.err, fun q hq => ?_, fun q sp sa hq hs => ?_⟩
  · rw [hper] at hq
    exact ⟨_, (hamt q hq).1 ▸ presents_rescale d.c _, (hB.mul he1 q.amount).err⟩
  · rw [hper] at hq
    rw [(hamt q hq).2] at hs
    obtain ⟨x, hx, e⟩ := Option.map_eq_some_iff.mp hs
    cases e
    exact ⟨_, presents_rescale d.c _, (hB.mul he1 x.1.amount).err⟩

theorem payment_rows_shown (d : Doc) (out : Out) (t : Totals) (hd : DocCI ret d) (hp : d.hasPayment = true)
    (hdues : ∀ x ∈ d.dues, DueOk x)
    (hcalc : calculate exactOps d = .ok out) (ht : out.totals = some t) :
    List.Forall₂ (fun a ao => ∃ w : Amount, Spec.C01.presents d.c ao.amount w.toRat ∧
        |w.toRat - advQ (Spec.C01.exactQ d).totalWithTax a| ≤
          (1 + twtWQ d (groupsT t) (incGroupsT d.includes t)) * halfUlp (d.c + 2))
      d.advances out.advances ∧
    List.Forall₂ (fun x xo => ∃ w : Amount, Spec.C01.presents d.c xo.amount w.toRat ∧
        |w.toRat - dueQ (Spec.C01.exactQ d).payable x| ≤
          (1 + twtWQ d (groupsT t) (incGroupsT d.includes t)) * halfUlp (d.c + 2))
      d.dues out.dues := by
  obtain ⟨p, tx, K⟩ := calculated hcalc ht
  have hsexp := (pre_approx d p hd.tax.base K.pre_ok).sum_exp
  have hTW := (working_tax d p tx hd.tax K.pre_ok K.tax_ok).2
  have hPay := working_payable d p tx hd K.pre_ok K.tax_ok
  rw [K.out, K.groups.1, K.groups.2]
  simp only [finish, hp, if_true]
  refine ⟨?_, ?_⟩
  · rw [List.forall₂_map_right_iff, List.forall₂_map_right_iff]
    apply List.forall₂_same.mpr
    intro a ha
    exact ⟨_, presents_rescale _ _, ((calcAdvance_approx a (hd.advances a ha) hTW.approx (hTW.exp_eq ▸ hsexp)).mono
      (advRowWQ_le (hd.advances a ha) _ (twtWQ_nonneg d _ _))).err⟩
  · rw [List.forall₂_map_right_iff]
    apply List.forall₂_same.mpr
    intro x hx
    exact calcDue_ok x (hdues x hx) hPay.approx (twtWQ_nonneg d _ _) (hPay.exp_eq ▸ hsexp)

/-! ## the exact quantities as the specification file has them (`Spec/C01.lean`, evaluated by the driver) -/

theorem exactTaxRows_eq (d : Doc) :
    Spec.C01.exactTaxRows d = (exactRowsW d).map (fun er => (remQ d.includes er.1 er.2.1, er.2.1)) := by
  simp only [Spec.C01.exactTaxRows, exactRowsW, Spec.C01.exactQ, List.map_append, List.map_map, List.filterMap_map,
    List.map_filterMap, Function.comp_def, Option.map_map, remQ_eq_exclQ]

theorem catExactQ_selP (d : Doc) (k : String) : catExactQ selP d k = Spec.C01.catAmountQ d k := by
  unfold catExactQ Spec.C01.catAmountQ
  rw [exactTaxRows_eq, List.map_map]
  congr 1

theorem catExactQ_selS (d : Doc) (k : String) : catExactQ selS d k = Spec.C01.catSurchargeQ d k := by
  unfold catExactQ Spec.C01.catSurchargeQ
  rw [exactTaxRows_eq, List.map_map]
  congr 1

theorem grpExactQ_eq (d : Doc) (cat : String) (key : GroupKey) : grpExactQ d cat key = Spec.C01.groupBaseQ d cat key := by
  unfold grpExactQ Spec.C01.groupBaseQ
  rw [exactTaxRows_eq, List.map_map]
  rfl

end Err
end Calc
end GoblVerif
