/-
  Amounts as rational numbers.  Inside the magnitude domain the float layer of Model/Num.lean is the exact integer
  layer, and every rounding operation of either layer is the exact rational result rounded once, half away from
  zero, at the precision of the result (`rnd e q`).
-/
import GoblVerif.Model.Num
import GoblVerif.Spec.C05
import GoblVerif.Proofs.Float53

namespace GoblVerif
open Int
/-! ### powers of ten; the magnitude domain -/

theorem pow10_pos (e : ℕ) : 0 < pow10 e := by unfold pow10; positivity

theorem pow10_ne (e : ℕ) : pow10 e ≠ 0 := ne_of_gt (pow10_pos e)

theorem pow10_add (a b : ℕ) : pow10 (a + b) = pow10 a * pow10 b := by unfold pow10; exact pow_add _ _ _

theorem p10q_pos (e : ℕ) : (0 : ℚ) < ((pow10 e : ℤ) : ℚ) := by exact_mod_cast pow10_pos e

theorem p10q_ne (e : ℕ) : ((pow10 e : ℤ) : ℚ) ≠ 0 := ne_of_gt (p10q_pos e)

theorem small_iff (i : ℤ) : Spec.small i ↔ |i| < 2 ^ 52 := by
  unfold Spec.small; rw [Int.abs_eq_natAbs]; omega

/-! ### `Amount.toRat` -/

theorem toRat_mul_p10 (a : Amount) : a.toRat * ((pow10 a.exp : ℤ) : ℚ) = a.value :=
  div_mul_cancel₀ _ (p10q_ne a.exp)

theorem toRat_zero (e : ℕ) : (⟨0, e⟩ : Amount).toRat = 0 := by simp [Amount.toRat]

theorem toRat_neg (v : ℤ) (e : ℕ) : (⟨-v, e⟩ : Amount).toRat = -(⟨v, e⟩ : Amount).toRat := by
  simp only [Amount.toRat, Int.cast_neg, neg_div]

theorem toRat_add (v w : ℤ) (e : ℕ) : (⟨v + w, e⟩ : Amount).toRat = (⟨v, e⟩ : Amount).toRat + (⟨w, e⟩ : Amount).toRat := by
  simp only [Amount.toRat, Int.cast_add, add_div]

theorem toRat_sub (v w : ℤ) (e : ℕ) : (⟨v - w, e⟩ : Amount).toRat = (⟨v, e⟩ : Amount).toRat - (⟨w, e⟩ : Amount).toRat := by
  simp only [Amount.toRat, Int.cast_sub, sub_div]

theorem toRat_exp_add (v : ℤ) (e k : ℕ) :
    (⟨v, e + k⟩ : Amount).toRat = (⟨v, e⟩ : Amount).toRat / ((pow10 k : ℤ) : ℚ) := by
  simp only [Amount.toRat, pow10_add, Int.cast_mul, div_div]

theorem toRat_scale (v : ℤ) (e k : ℕ) : (⟨v * pow10 k, e + k⟩ : Amount).toRat = (⟨v, e⟩ : Amount).toRat := by
  rw [toRat_exp_add, Amount.toRat, Amount.toRat, Int.cast_mul, div_div, mul_div_mul_right _ _ (p10q_ne k)]

theorem toRat_pow10 (e : ℕ) : (⟨pow10 e, e⟩ : Amount).toRat = 1 := div_self (p10q_ne e)

theorem toRat_mul_shift (v w : ℤ) (e f d : ℕ) :
    (⟨v, e⟩ : Amount).toRat * (⟨w, f + d⟩ : Amount).toRat = (⟨v, e + d⟩ : Amount).toRat * (⟨w, f⟩ : Amount).toRat := by
  rw [toRat_exp_add, toRat_exp_add, mul_div_assoc', div_mul_eq_mul_div]

theorem toRat_add_two (v : ℤ) (e : ℕ) : (⟨v, e + 2⟩ : Amount).toRat = (⟨v, e⟩ : Amount).toRat / 100 :=
  toRat_exp_add v e 2

theorem toRat_lt_toRat {a b : Amount} (h : a.exp = b.exp) : a.toRat < b.toRat ↔ a.value < b.value := by
  unfold Amount.toRat
  rw [h, div_lt_div_iff_of_pos_right (Int.cast_pos.mpr (pow10_pos _)), Int.cast_lt]

/-! ### the two roundings -/

theorem roundHalfAway_eq_goRound : Spec.roundHalfAway = goRound := rfl

theorem roundTo_eq (e : ℕ) (q : ℚ) : Spec.roundTo e q = goRound (q * ((pow10 e : ℤ) : ℚ)) := rfl

theorem goRound_div_pos (N D : ℤ) (hD : 0 < D) : goRound ((N : ℚ) / D) = rha N D := by
  -- for `N ≥ 0` both sides are `⌊(2N + D) / (2D)⌋`; `N < 0` follows since both are odd in `N`
  have pos : ∀ M : ℤ, 0 ≤ M → goRound ((M : ℚ) / D) = (2 * M + D) / (2 * D) := fun M hM => by
    obtain ⟨d, rfl⟩ : ∃ d : ℕ, D = d := ⟨D.toNat, (Int.toNat_of_nonneg hD.le).symm⟩
    have hd : ((d : ℤ) : ℚ) ≠ 0 := Int.cast_ne_zero.mpr hD.ne'
    rw [goRound, if_pos (div_nonneg (by exact_mod_cast hM) (by exact_mod_cast hD.le)), ratfloor_eq,
      div_add_div _ _ hd two_ne_zero, show (M : ℚ) * 2 + (d : ℤ) * 1 = ((2 * M + d : ℤ) : ℚ) by push_cast; ring,
      show ((d : ℤ) : ℚ) * 2 = ((2 * d : ℕ) : ℚ) by push_cast; ring, Rat.floor_intCast_div_natCast]
    rfl
  unfold rha
  split
  · exact pos N ‹_›
  · rw [← pos (-N) (by omega), Int.cast_neg, neg_div, goRound_neg, neg_neg]

theorem goRound_div_neg (N D : ℤ) (hD : D < 0) : goRound ((N : ℚ) / D) = rha (-N) (-D) := by
  rw [← goRound_div_pos (-N) (-D) (by omega)]
  congr 1
  push_cast
  rw [neg_div_neg_eq]

theorem rha_eq_roundTo {N D : ℤ} (hD : 0 < D) {e : ℕ} {q : ℚ} (h : q * ((pow10 e : ℤ) : ℚ) = (N : ℚ) / D) :
    rha N D = Spec.roundTo e q := by
  rw [roundTo_eq, h, goRound_div_pos N D hD]

theorem rha_one (n : ℤ) : rha n 1 = n := by
  unfold rha; split <;> omega

theorem rha_zero (n : ℤ) : rha n 0 = 0 := by
  unfold rha
  split <;> simp

theorem rha_neg (n d : ℤ) (hd : 0 < d) : rha (-n) d = - rha n d := by
  rw [← goRound_div_pos _ _ hd, ← goRound_div_pos _ _ hd, Int.cast_neg, neg_div, goRound_neg]

theorem roundHalfAway_int (z : ℤ) : Spec.roundHalfAway (z : ℚ) = z := by
  rw [roundHalfAway_eq_goRound]
  rcases le_or_gt 0 (z : ℚ) with h | h
  · exact (goRound_nonneg_iff _ h z).mpr ⟨by linarith, by linarith⟩
  · exact (goRound_neg_iff _ h z).mpr ⟨by linarith, by linarith⟩

theorem roundTo_neg (e : ℕ) (q : ℚ) : Spec.roundTo e (-q) = -Spec.roundTo e q := by
  rw [roundTo_eq, roundTo_eq, neg_mul, goRound_neg]

/-! ### exact conversions -/

theorem ofInt64_exact (i : ℤ) (h : |i| < 2 ^ 53) : ofInt64 i = (i : ℚ) := by
  have := rnd53_exact i 0 h
  simpa [ofInt64] using this

/- Where the 22 in every `b.exp ≤ 22` comes from: `10^e = 5^e · 2^e` is a 53-bit number exactly as long as
   `5^e < 2^53`, and `5^22 < 2^53 < 5^23`. -/

theorem pow5_lt (e : ℕ) (he : e ≤ 22) : |((5 : ℤ) ^ e)| < 2 ^ 53 := by
  rw [abs_of_nonneg (by positivity)]
  exact lt_of_le_of_lt (pow_le_pow_right₀ (by norm_num) he) (by norm_num)

theorem ofInt64_pow10 (e : ℕ) (he : e ≤ 22) : ofInt64 (pow10 e) = ((pow10 e : ℤ) : ℚ) := by
  have h := rnd53_exact ((5 : ℤ) ^ e) (e : ℤ) (pow5_lt e he)
  have hq : (((5 : ℤ) ^ e : ℤ) : ℚ) * (2 : ℚ) ^ (e : ℤ) = ((pow10 e : ℤ) : ℚ) := by
    unfold pow10
    push_cast
    rw [zpow_natCast, ← mul_pow]
    norm_num
  rw [hq] at h
  exact h

/-! ### faithful = exact inside the domain -/

theorem abs_lt_of_mul_lt {a b : ℤ} {B : ℤ} (h : |a * b| < B) (hb : b ≠ 0) : |a| < B := by
  have := le_mul_of_one_le_right (abs_nonneg a) (Int.one_le_abs hb)
  rw [abs_mul] at h
  omega

theorem multiply_exact (a b : Amount) (hm : |a.value * b.value| < 2 ^ 52) (he : b.exp ≤ 22) :
    a.multiply b = a.mulX b := by
  unfold Amount.multiply Amount.mulX
  congr 1
  rw [← goRound_div_pos _ _ (pow10_pos _)]
  -- `|a·b| < 2^52` bounds a factor only if the other is not zero; with a zero factor everything is zero
  by_cases ha : a.value = 0
  · simp [ha, fmul, fdiv, ofInt64, rnd53]
  by_cases hb : b.value = 0
  · simp [hb, fmul, fdiv, ofInt64, rnd53]
  have ha' : |a.value| < 2 ^ 53 := by
    have := abs_lt_of_mul_lt hm hb; omega
  have hb' : |b.value| < 2 ^ 53 := by
    rw [mul_comm] at hm
    have := abs_lt_of_mul_lt hm ha; omega
  rw [ofInt64_exact _ ha', ofInt64_exact _ hb', ofInt64_pow10 _ he]
  unfold fmul fdiv
  have hprod : rnd53 ((a.value : ℚ) * (b.value : ℚ)) = ((a.value * b.value : ℤ) : ℚ) := by
    have h := rnd53_exact (a.value * b.value) 0 (by omega)
    simpa using h
  rw [hprod, round_div_exact _ _ (pow10_ne _) hm]

theorem divide_exact (a b : Amount) (hb : b.value ≠ 0) (hn : |a.value * pow10 b.exp| < 2 ^ 52)
    (hd : |b.value| < 2 ^ 53) : a.divide b = a.divX b := by
  unfold Amount.divide Amount.divX
  have hn' : |a.value * pow10 b.exp| < 2 ^ 53 := by omega
  rw [ofInt64_exact _ hn', ofInt64_exact _ hd]
  unfold fdiv
  rw [round_div_exact _ _ hb hn]
  by_cases hpos : 0 < b.value
  · simp only [hpos, if_true]
    rw [goRound_div_pos _ _ hpos]
  · have hneg : b.value < 0 := by omega
    simp only [hpos, if_false]
    rw [goRound_div_neg _ _ hneg]

theorem rescale_exact (a : Amount) (e : ℕ) (hv : |a.value| < 2 ^ 52) (he : a.exp - e ≤ 22) :
    a.rescale e = a.rescaleX e := by
  unfold Amount.rescale Amount.rescaleX
  by_cases h : a.exp > e
  · simp only [h, if_true]
    congr 1
    rw [ofInt64_exact _ (by omega), ofInt64_pow10 _ he]
    unfold fdiv
    rw [round_div_exact _ _ (pow10_ne _) hv, goRound_div_pos _ _ (pow10_pos _)]
  · simp only [h, if_false]

/-- raising precision never involves floats at all -/
theorem rescale_up_eq (a : Amount) (e : ℕ) (h : a.exp ≤ e) : a.rescale e = a.rescaleX e := by
  unfold Amount.rescale Amount.rescaleX
  have : ¬ a.exp > e := by omega
  simp only [this, if_false]

/-! ### the exact layer: exponents, raising the precision

(In `namespace Calc`: the calculation files, which `open Calc`, are their main users.) -/

namespace Calc

@[simp] theorem rescaleX_exp (a : Amount) (e : Nat) : (a.rescaleX e).exp = e := by
  unfold Amount.rescaleX
  split
  · rfl
  · split
    · rfl
    · omega

theorem rescaleX_self (a : Amount) (e : Nat) (h : a.exp = e) : a.rescaleX e = a := by
  unfold Amount.rescaleX
  have h1 : ¬ a.exp > e := by omega
  have h2 : ¬ a.exp < e := by omega
  simp [h1, h2]

@[simp] theorem mulX_exp (a b : Amount) : (a.mulX b).exp = a.exp := rfl

@[simp] theorem divX_exp (a b : Amount) : (a.divX b).exp = a.exp := by
  unfold Amount.divX; simp only; split <;> rfl

end Calc

theorem rescaleX_of_le (a : Amount) (e : ℕ) (h : a.exp ≤ e) : a.rescaleX e = ⟨a.value * pow10 (e - a.exp), e⟩ := by
  unfold Amount.rescaleX
  rcases Nat.lt_or_eq_of_le h with h1 | rfl
  · rw [if_neg (by omega), if_pos h1]
  · simp [pow10]

theorem rescaleX_up_toRat (a : Amount) (e : ℕ) (h : a.exp ≤ e) : (a.rescaleX e).toRat = a.toRat := by
  obtain ⟨k, rfl⟩ : ∃ k, e = a.exp + k := ⟨e - a.exp, by omega⟩
  rw [rescaleX_of_le a _ h, Nat.add_sub_cancel_left]
  exact toRat_scale a.value a.exp k

theorem addX_toRat (a b : Amount) (h : b.exp ≤ a.exp) : (a.addX b).toRat = a.toRat + b.toRat := by
  rw [Amount.addX, toRat_add, ← rescaleX_up_toRat b a.exp h, rescaleX_of_le b _ h]

theorem subX_toRat (a b : Amount) (h : b.exp ≤ a.exp) : (a.subX b).toRat = a.toRat - b.toRat := by
  rw [Amount.subX, toRat_sub, ← rescaleX_up_toRat b a.exp h, rescaleX_of_le b _ h]

/-! ### one rounding

`rnd e q` is the amount with `e` decimals nearest to `q`, ties away from zero; what the specifications say of a
presented figure (`Spec.C01.presents`, `Spec.C02.presentedAs`, `Spec.C03.isPctOf`) is `a = rnd c q`. -/

def rnd (e : ℕ) (q : ℚ) : Amount := ⟨Spec.roundTo e q, e⟩

theorem eq_rnd_iff {a : Amount} {e : ℕ} {q : ℚ} : a = rnd e q ↔ a.exp = e ∧ a.value = Spec.roundTo e q := by
  cases a; simp [rnd, and_comm]

theorem rnd_toRat (a : Amount) : rnd a.exp a.toRat = a := by
  rw [rnd, Spec.roundTo, toRat_mul_p10, roundHalfAway_int]

theorem mulX_rnd (a b : Amount) : a.mulX b = rnd a.exp (a.toRat * b.toRat) :=
  congrArg (Amount.mk · a.exp) (rha_eq_roundTo (pow10_pos _) (by
    have := p10q_ne a.exp; have := p10q_ne b.exp
    unfold Amount.toRat; push_cast; field_simp))

/-- by zero too: the exact layer answers 0, and so does `x / 0` -/
theorem divX_rnd (a b : Amount) : a.divX b = rnd a.exp (a.toRat / b.toRat) := by
  have key : b.value ≠ 0 → a.toRat / b.toRat * ((pow10 a.exp : ℤ) : ℚ) = ((a.value * pow10 b.exp : ℤ) : ℚ) / (b.value : ℚ) := by
    intro hb
    have hbq : (b.value : ℚ) ≠ 0 := by exact_mod_cast hb
    have h1 := p10q_ne a.exp; have h2 := p10q_ne b.exp
    unfold Amount.toRat; push_cast; field_simp
  unfold Amount.divX
  rcases lt_trichotomy 0 b.value with hb | hb | hb
  · rw [if_pos hb]
    exact congrArg (Amount.mk · a.exp) (rha_eq_roundTo hb (key hb.ne'))
  · have hq : b.toRat = 0 := by unfold Amount.toRat; rw [← hb]; simp
    rw [if_neg (by omega), ← hb, neg_zero, rha_zero, hq, div_zero]
    exact congrArg (Amount.mk · a.exp) (by rw [Spec.roundTo, zero_mul]; exact (roundHalfAway_int 0).symm)
  · rw [if_neg (by omega)]
    refine congrArg (Amount.mk · a.exp) (rha_eq_roundTo (by omega) ?_)
    rw [key hb.ne]; push_cast; rw [neg_div_neg_eq]

theorem rescaleX_rnd (a : Amount) (e : ℕ) : a.rescaleX e = rnd e a.toRat := by
  by_cases h : e < a.exp
  · rw [Amount.rescaleX, if_pos h]
    refine congrArg (Amount.mk · e) (rha_eq_roundTo (pow10_pos _) ?_)
    have h1 := p10q_ne a.exp; have h2 := p10q_ne e; have h3 := p10q_ne (a.exp - e)
    have : pow10 a.exp = pow10 e * pow10 (a.exp - e) := by rw [← pow10_add]; congr 1; omega
    unfold Amount.toRat
    rw [this]; push_cast; field_simp
  · have h' : a.exp ≤ e := by omega
    have := rnd_toRat (a.rescaleX e)
    rwa [Calc.rescaleX_exp, rescaleX_up_toRat a e h', eq_comm] at this

theorem mulX_spec (a b : Amount) : (a.mulX b).value = Spec.roundTo a.exp (a.toRat * b.toRat) :=
  (eq_rnd_iff.mp (mulX_rnd a b)).2

theorem divX_spec (a b : Amount) : (a.divX b).value = Spec.roundTo a.exp (a.toRat / b.toRat) :=
  (eq_rnd_iff.mp (divX_rnd a b)).2

theorem rescaleX_value (a : Amount) (e : ℕ) : (a.rescaleX e).value = Spec.roundTo e a.toRat :=
  (eq_rnd_iff.mp (rescaleX_rnd a e)).2

/-! ### … and so is each float operation inside the domain -/

theorem multiply_rnd (a b : Amount) (hm : |a.value * b.value| < 2 ^ 52) (he : b.exp ≤ 22) :
    a.multiply b = rnd a.exp (a.toRat * b.toRat) := by
  rw [multiply_exact a b hm he, mulX_rnd]

theorem divide_rnd (a b : Amount) (hb : b.value ≠ 0) (hn : |a.value * pow10 b.exp| < 2 ^ 52)
    (hd : |b.value| < 2 ^ 53) : a.divide b = rnd a.exp (a.toRat / b.toRat) := by
  rw [divide_exact a b hb hn hd, divX_rnd]

theorem rescale_rnd (a : Amount) (e : ℕ) (hv : |a.value| < 2 ^ 52) (he : a.exp - e ≤ 22) :
    a.rescale e = rnd e a.toRat := by
  rw [rescale_exact a e hv he, rescaleX_rnd]

/-! ### operations that do not round -/

theorem multiply_int (a : Amount) (k : ℤ) (h : |a.value * k| < 2 ^ 52) :
    a.multiply ⟨k, 0⟩ = ⟨a.value * k, a.exp⟩ := by
  rw [multiply_exact a ⟨k, 0⟩ h (Nat.zero_le _)]
  exact congrArg (Amount.mk · a.exp) (rha_one _)

theorem rescale_of_le (a : Amount) (e : ℕ) (h : a.exp ≤ e) :
    a.rescale e = ⟨a.value * pow10 (e - a.exp), e⟩ := by
  rw [rescale_up_eq a e h, rescaleX_of_le a e h]

theorem rescale_self (a : Amount) : a.rescale a.exp = a := by
  rw [rescale_up_eq a _ (le_refl _), Calc.rescaleX_self a _ rfl]

theorem rescale_toRat (a : Amount) (e : ℕ) (h : a.exp ≤ e) : (a.rescale e).toRat = a.toRat := by
  rw [rescale_up_eq a e h, rescaleX_up_toRat a e h]

theorem add_eq_addX (a b : Amount) (h : b.exp ≤ a.exp) : a.add b = a.addX b := by
  rw [Amount.add, rescale_up_eq b _ h]; rfl

theorem sub_eq_subX (a b : Amount) (h : b.exp ≤ a.exp) : a.sub b = a.subX b := by
  rw [Amount.sub, rescale_up_eq b _ h]; rfl

theorem add_of_exp_eq (a b : Amount) (h : b.exp = a.exp) : a.add b = ⟨a.value + b.value, a.exp⟩ := by
  rw [Amount.add, ← h, rescale_self]

theorem sub_of_exp_eq (a b : Amount) (h : b.exp = a.exp) : a.sub b = ⟨a.value - b.value, a.exp⟩ := by
  rw [Amount.sub, ← h, rescale_self]

theorem rescaleUp_of_le (a : Amount) (e : ℕ) (h : a.exp ≤ e) : a.rescaleUp e = ⟨a.value * pow10 (e - a.exp), e⟩ := by
  unfold Amount.rescaleUp
  split
  · exact rescale_of_le a e h
  · obtain rfl : a.exp = e := by omega
    simp [pow10]

theorem rescaleUp_toRat (a : Amount) (e : ℕ) : (a.rescaleUp e).toRat = a.toRat := by
  unfold Amount.rescaleUp
  split
  · exact rescale_toRat a e (by omega)
  · rfl

theorem le_rescaleUp_exp (a : Amount) (e : ℕ) : e ≤ (a.rescaleUp e).exp := by
  unfold Amount.rescaleUp
  split
  · rw [rescale_of_le a e (by omega)]
  · omega

theorem negate_negate (a : Amount) : a.negate.negate = a := by
  cases a; simp [Amount.negate]

/-! ### comparing -/

theorem cmp_cases (x y : ℚ) :
    (x < y ∧ Spec.cmp x y = -1) ∨ (x = y ∧ Spec.cmp x y = 0) ∨ (y < x ∧ Spec.cmp x y = 1) := by
  unfold Spec.cmp
  rcases lt_trichotomy x y with h | h | h
  · exact .inl ⟨h, if_pos h⟩
  · exact .inr (.inl ⟨h, by rw [if_neg (h ▸ lt_irrefl x), if_neg (h ▸ lt_irrefl x)]⟩)
  · exact .inr (.inr ⟨h, by rw [if_neg (not_lt_of_gt h), if_pos h]⟩)

theorem cmp_eq_neg_one {x y : ℚ} : Spec.cmp x y = -1 ↔ x < y := by
  rcases cmp_cases x y with ⟨h, e⟩ | ⟨rfl, e⟩ | ⟨h, e⟩
  · simp [e, h]
  · simp [e]
  · simp [e, h.le]

theorem cmp_eq_one {x y : ℚ} : Spec.cmp x y = 1 ↔ y < x := by
  rcases cmp_cases x y with ⟨h, e⟩ | ⟨rfl, e⟩ | ⟨h, e⟩
  · simp [e, h.le]
  · simp [e]
  · simp [e, h]

theorem cmp_eq_zero {x y : ℚ} : Spec.cmp x y = 0 ↔ x = y := by
  rcases cmp_cases x y with ⟨h, e⟩ | ⟨rfl, e⟩ | ⟨h, e⟩
  · simp [e, h.ne]
  · simp [e]
  · simp [e, h.ne']

theorem compare_eq_cmp (a b : Amount) : a.compare b = Spec.cmp a.toRat b.toRat := by
  unfold Amount.compare Spec.cmp
  generalize hE : (if b.exp > a.exp then b.exp else a.exp) = E
  have ha : a.exp ≤ E := by rw [← hE]; split <;> omega
  have hb : b.exp ≤ E := by rw [← hE]; split <;> omega
  have he : (a.rescale E).exp = (b.rescale E).exp := by rw [rescale_of_le a E ha, rescale_of_le b E hb]
  rw [← rescale_toRat a E ha, ← rescale_toRat b E hb]
  simp only [gt_iff_lt, toRat_lt_toRat he, toRat_lt_toRat he.symm]

theorem equals_iff_toRat (a b : Amount) : a.equals b = true ↔ a.toRat = b.toRat := by
  rw [Amount.equals, compare_eq_cmp, beq_iff_eq, cmp_eq_zero]

/-! ### percentages: the conversions move the decimal point -/

namespace Pct

theorem equals_eq (p q : Pct) : p.equals q = (p.amount.toRat == q.amount.toRat) := by
  unfold Pct.equals
  rw [Bool.eq_iff_iff, equals_iff_toRat]
  simp

theorem ofAmount_toRat (a : Amount) : (Pct.ofAmount a).amount.toRat = a.toRat / 100 :=
  toRat_add_two a.value a.exp

theorem toAmount_eq (p : Pct) :
    p.toAmount = ⟨p.amount.value * 10 ^ (2 - p.amount.exp), p.amount.exp - 2⟩ := by
  unfold Pct.toAmount Amount.rescaleUp
  split
  · rw [rescale_of_le _ _ (by omega), show p.amount.exp - 2 = 2 - 2 by omega]; rfl
  · rw [show 2 - p.amount.exp = 0 by omega, pow_zero, mul_one]

theorem toAmount_value (p : Pct) : p.toAmount.value = p.amount.value * 10 ^ (2 - p.amount.exp) := by
  rw [toAmount_eq]

theorem toAmount_exp (p : Pct) : p.toAmount.exp = p.amount.exp - 2 := by rw [toAmount_eq]

theorem toAmount_toRat (p : Pct) : p.toAmount.toRat = p.amount.toRat * 100 := by
  obtain ⟨⟨v, e⟩⟩ := p
  rw [toAmount_eq, ← toRat_scale v e (2 - e), show e + (2 - e) = e - 2 + 2 by omega, toRat_add_two,
    div_mul_cancel₀ _ (by norm_num)]
  rfl

end Pct

end GoblVerif
