/-
  Error bounds (C01): the tax summary of prepared rows under the precise rule.

  Bases accumulate exactly.  So whatever is read off the groups as
  Σ base × a weight of (category, key) is the same reading of the combos of
  the rows (`baseRateTotals_wBases`, Proofs/CalcGroups.lean): with the weight
  ± (percentage + surcharge percentage) it is the tax (`baseRateTotals_w`),
  with the percentage or the surcharge percentage of one category that
  category's amount or surcharge (`baseRateTotals_g`).  One rounding per group
  amount and per group surcharge then gives the tax (`taxSummary_w`) and the
  amount and surcharge of one category (`taxSummary_g`).

  Names: a lemma `…_w` is about the tax (`selT`, the categories with their
  signs), its twin `…_g` about one category: the part a `sel` chooses, then
  its amount (`selP`) and its surcharge (`selS`) side by side.  A weight `…W`
  of Spec/C01.lean is a number of rounding points (ℕ), `…WQ` the rational
  weight built from the actual percentages, never larger.
-/
import GoblVerif.Proofs.CalcError
import GoblVerif.Proofs.CalcRows

namespace GoblVerif
open GoblVerif.Spec GoblVerif.Calc
namespace Calc
namespace Err

theorem ratAbs_eq (x : ℚ) : ratAbs x = |x| := by
  unfold ratAbs
  split
  · rename_i h; rw [abs_of_neg h]
  · rename_i h; rw [abs_of_nonneg (not_lt.mp h)]

theorem pctA_eq (p : Pct) : pctA p = |p.amount.toRat| := ratAbs_eq _

theorem pctA_nonneg (p : Pct) : 0 ≤ pctA p := by rw [pctA_eq]; exact abs_nonneg _

/-- surcharge percentage of a rate group / of a combo (0 when there is none) -/
def surR (rt : RateTotal) : ℚ := match rt.surcharge with | some (sp, _) => sp.amount.toRat | none => 0
def surC (cb : Combo) : ℚ := match cb.surcharge with | some sp => sp.amount.toRat | none => 0

variable {ret : String → Bool}

/-- a tax combo of the covered class: exempt or a percentage of at most 100 % in magnitude, with
or without a surcharge of at most 100 %; whether it is retained (subtracted) is a function `ret` of
its category alone -/
def ComboOk (ret : String → Bool) (cb : Combo) : Prop :=
  cb.retained = ret cb.cat ∧ (∀ p, cb.percent = some p → |p.amount.toRat| ≤ 1) ∧
  (∀ sp, cb.surcharge = some sp → |sp.amount.toRat| ≤ 1)

theorem ComboOk.retained {cb : Combo} (h : ComboOk ret cb) : cb.retained = ret cb.cat := h.1

theorem ComboOk.percent {cb : Combo} (h : ComboOk ret cb) {p : Pct} (hp : cb.percent = some p) :
    |p.amount.toRat| ≤ 1 := h.2.1 p hp

theorem ComboOk.surcharge {cb : Combo} (h : ComboOk ret cb) {sp : Pct} (hs : cb.surcharge = some sp) :
    |sp.amount.toRat| ≤ 1 := h.2.2 sp hs

/-! ## what is measured: `sel` of the percentage and the surcharge percentage

`selP` the percentage (a category's amount), `selS` the surcharge percentage (its surcharge), `selT`
both (the tax). -/

abbrev selP : ℚ → ℚ → ℚ := fun p _ => p
abbrev selS : ℚ → ℚ → ℚ := fun _ s => s
abbrev selT : ℚ → ℚ → ℚ := fun p s => p + s

def rateG (sel : ℚ → ℚ → ℚ) (rt : RateTotal) : ℚ :=
  match rt.percent with
  | some p => rt.base.toRat * sel p.amount.toRat (surR rt)
  | none => 0

def ratesG (sel : ℚ → ℚ → ℚ) (rts : List RateTotal) : ℚ := (rts.map (rateG sel)).sum

def comboG (sel : ℚ → ℚ → ℚ) (t : ℚ) (cb : Combo) : ℚ :=
  match cb.percent with
  | some p => t * sel p.amount.toRat (surC cb)
  | none => 0

/-- the exact tax of one combo on a row total `t`: retained taxes are subtracted -/
def comboQ (t : ℚ) (cb : Combo) : ℚ := if cb.retained then -(comboG selT t cb) else comboG selT t cb

/-- the exact tax of a row with total `t` (prices not including tax), as `Spec.C01.exactQ` has it -/
def rowQ (t : ℚ) (taxes : List Combo) : ℚ := (Spec.C01.rowTaxQ none t taxes).1

theorem rowQ_eq (t : ℚ) (taxes : List Combo) : rowQ t taxes = (taxes.map (comboQ t)).sum := by
  unfold rowQ Spec.C01.rowTaxQ
  simp only
  congr 1
  apply List.map_congr_left
  intro cb _
  unfold comboQ comboG surC
  cases hp : cb.percent with
  | none => simp
  | some p => cases hs : cb.surcharge <;> simp [Spec.C01.pq]

/-- what a row with total `t` contributes to category `k` -/
def rowG (sel : ℚ → ℚ → ℚ) (k : String) (t : ℚ) (taxes : List Combo) : ℚ :=
  ((taxes.filter (fun cb => cb.cat == k)).map (comboG sel t)).sum

/-- the coefficient `sel` reads off a key: of the percentage and the surcharge percentage, 0 for an exempt group -/
def keyW (sel : ℚ → ℚ → ℚ) (k : Key) : ℚ :=
  match k.2.2 with
  | some (p, s) => sel p (s.getD 0)
  | none => 0

theorem rateG_eq (sel : ℚ → ℚ → ℚ) (rt : RateTotal) : rateG sel rt = rt.base.toRat * keyW sel (rtKey rt) := by
  unfold rateG keyW rtKey surR
  cases rt.percent <;> cases rt.surcharge <;> simp

theorem comboG_eq (sel : ℚ → ℚ → ℚ) (t : ℚ) (cb : Combo) : comboG sel t cb = t * keyW sel (comboKey cb) := by
  unfold comboG keyW comboKey surC
  cases cb.percent <;> cases cb.surcharge <;> simp

theorem keyW_combo (sel : ℚ → ℚ → ℚ) (cb : Combo) :
    keyW sel (comboKey cb) = match cb.percent with | some p => sel p.amount.toRat (surC cb) | none => 0 := by
  unfold keyW comboKey surC
  cases cb.percent <;> cases cb.surcharge <;> simp

/-! ## Lipschitz in the row total

Every quantity of the summary is linear in the row totals (`comboG_eq`); so what the working rows are off
is carried into it with the coefficient as weight (`doc_rows_err`, Proofs/CalcErrorTotals.lean). -/

theorem comboG_diff (sel : ℚ → ℚ → ℚ) (T t : ℚ) (cb : Combo) :
    |comboG sel T cb - comboG sel t cb| = |keyW sel (comboKey cb)| * |T - t| := by
  rw [comboG_eq, comboG_eq, ← sub_mul, abs_mul, mul_comm]

theorem cWQ_nonneg (cb : Combo) : 0 ≤ cWQ cb := by
  unfold cWQ
  cases cb.percent with
  | none => simp
  | some p =>
    simp only
    have := pctA_nonneg p
    cases cb.surcharge with
    | none => simpa
    | some s => have := pctA_nonneg s; simp only; linarith

theorem comboWQ_nonneg (taxes : List Combo) : 0 ≤ comboWQ taxes :=
  List.sum_nonneg (by simpa using fun cb _ => cWQ_nonneg cb)

theorem keyW_selT_le (cb : Combo) : |keyW selT (comboKey cb)| ≤ cWQ cb := by
  rw [keyW_combo]
  unfold cWQ surC
  cases cb.percent with
  | none => simp
  | some p =>
    cases cb.surcharge with
    | none => simp [pctA_eq]
    | some s => simpa [pctA_eq] using abs_add_le _ _

theorem comboQ_diff (T t : ℚ) (cb : Combo) : |comboQ T cb - comboQ t cb| ≤ cWQ cb * |T - t| := by
  have hu := (comboG_diff selT T t cb).trans_le (mul_le_mul_of_nonneg_right (keyW_selT_le cb) (abs_nonneg _))
  unfold comboQ
  split
  · rw [neg_sub_neg, abs_sub_comm]; exact hu
  · exact hu

theorem rowQ_diff (T t : ℚ) (taxes : List Combo) : |rowQ T taxes - rowQ t taxes| ≤ comboWQ taxes * |T - t| := by
  rw [rowQ_eq T taxes, rowQ_eq t taxes]
  exact sum_err taxes _ _ cWQ _ (fun cb _ => comboQ_diff T t cb)

/-- the included category's share of a row -/
def incG (inc : Option String) (t : ℚ) (taxes : List Combo) : ℚ :=
  match inc with
  | none => 0
  | some k => rowG selP k t taxes

theorem kNQ_nonneg (inc : Option String) (taxes : List Combo) : 0 ≤ kNQ inc taxes := by
  unfold kNQ
  cases inc with
  | none => simp
  | some k =>
    refine List.sum_nonneg ?_
    simp only [List.mem_map, forall_exists_index, and_imp, forall_apply_eq_imp_iff₂]
    intro cb _
    cases cb.percent with
    | none => simp
    | some p => exact pctA_nonneg p

theorem incG_diff (inc : Option String) (taxes : List Combo) (T t : ℚ) :
    |incG inc T taxes - incG inc t taxes| ≤ kNQ inc taxes * |T - t| := by
  cases inc with
  | none => simp [incG, kNQ]
  | some k =>
    simp only [incG, rowG, kNQ]
    refine sum_err _ (comboG selP T) (comboG selP t) _ _ fun cb _ => (comboG_diff selP T t cb).le.trans_eq ?_
    rw [keyW_combo]
    cases cb.percent <;> simp [pctA_eq]

theorem keyW_selP_le (cb : Combo) (h : ComboOk ret cb) : |keyW selP (comboKey cb)| ≤ 1 := by
  rw [keyW_combo]
  cases hp : cb.percent with
  | none => simp
  | some p => exact h.percent hp

theorem keyW_selS_le (cb : Combo) (h : ComboOk ret cb) : |keyW selS (comboKey cb)| ≤ 1 := by
  rw [keyW_combo]
  unfold surC
  cases cb.percent with
  | none => simp
  | some p =>
    cases hs : cb.surcharge with
    | none => simp
    | some sp => exact h.surcharge hs

theorem rowG_diff (sel : ℚ → ℚ → ℚ) (hsel : ∀ cb, ComboOk ret cb → |keyW sel (comboKey cb)| ≤ 1)
    (k : String) (taxes : List Combo) (h : ∀ cb ∈ taxes, ComboOk ret cb) (T t : ℚ) :
    |rowG sel k T taxes - rowG sel k t taxes| ≤ (kN (some k) taxes : ℚ) * |T - t| := by
  simp only [rowG, kN]
  exact sum_err_const _ _ _ _ fun cb hcb => (comboG_diff sel T t cb).trans_le
    (mul_le_of_le_one_left (abs_nonneg _) (hsel cb (h cb (List.mem_filter.mp hcb).1)))

/-! ## the bases: `calculateBaseRateTotals` -/

/-- Σ groups base × (percentage + surcharge percentage), retained categories counted negatively -/
def catsQ (cats : List CatTotal) : ℚ :=
  (cats.map (fun ct => if ct.retained then -(ratesG selT ct.rates) else ratesG selT ct.rates)).sum

/-- Σ base × sel over the groups of category `k` (the first category with that code) -/
def catG (sel : ℚ → ℚ → ℚ) (k : String) (cats : List CatTotal) : ℚ :=
  match cats.find? (fun ct => ct.code == k) with
  | some ct => ratesG sel ct.rates
  | none => 0

/-- a prepared row of the covered class: combos of the class, total not finer than `M` and, when
it carries combos, at least as fine as the working precision -/
structure RowOkP (ret : String → Bool) (c M : ℕ) (rw : Row) : Prop where
  combos : ∀ cb ∈ rw.taxes, ComboOk ret cb
  fine : rw.taxes ≠ [] → c + 2 ≤ rw.total.exp
  exp_le : rw.total.exp ≤ M

theorem baseRateTotals_w (c : ℕ) (rows : List Row) (h : ∀ rw ∈ rows, ∀ cb ∈ rw.taxes, cb.retained = ret cb.cat) :
    catsQ (baseRateTotals exactOps .precise c rows) = (rows.map (fun rw => rowQ rw.total.toRat rw.taxes)).sum := by
  have := baseRateTotals_wBases (fun k key => (if ret k then -1 else 1) * keyW selT key) .precise c rows
  rw [sum_pairsOf (fun cb t => contrib .precise c t * ((if ret cb.cat then -1 else 1) * keyW selT (comboKey cb)))] at this
  have hr := baseRateTotals_retained exactOps .precise c rows h
  unfold catsQ ratesG
  rw [List.map_congr_left (g := fun ct => (ct.rates.map fun rt =>
      rt.base.toRat * ((if ret ct.code then -1 else 1) * keyW selT (rtKey rt))).sum) (fun ct hct => by
    rw [hr ct hct, List.map_congr_left (fun rt _ => rateG_eq selT rt)]
    cases ret ct.code <;> simp [List.sum_neg, Function.comp_def])]
  refine this.trans (congrArg _ (List.map_congr_left fun rw hrw => ?_))
  rw [rowQ_eq]
  refine congrArg _ (List.map_congr_left fun cb hcb => ?_)
  rw [comboQ, comboG_eq, h rw hrw cb hcb, contrib_of_ne (by decide)]
  split <;> ring

theorem baseRateTotals_g (sel : ℚ → ℚ → ℚ) (k : String) (c : ℕ) (rows : List Row) :
    catG sel k (baseRateTotals exactOps .precise c rows) = (rows.map (fun rw => rowG sel k rw.total.toRat rw.taxes)).sum := by
  have := baseRateTotals_wBases (fun k' key => if k' == k then keyW sel key else 0) .precise c rows
  rw [sum_pairsOf (fun cb t => contrib .precise c t * if cb.cat == k then keyW sel (comboKey cb) else 0)] at this
  simp only [wBases, mul_ite, mul_zero, sum_ite_const, ← rateG_eq, contrib_of_ne (show Rule.precise ≠ .currency by decide),
    ← comboG_eq] at this
  rw [find?_sum_of_distinct (baseRateTotals_summaryInv .precise c rows).codes k (fun ct => (ct.rates.map (rateG sel)).sum)] at this
  simp only [catG, ratesG, rowG, sum_filter_ite]
  exact this

theorem baseRateTotals_fine (c M : ℕ) (rows : List Row) (hrows : ∀ rw ∈ rows, RowOkP ret c M rw) (hM : c + 2 ≤ M) :
    ∀ ct ∈ baseRateTotals exactOps .precise c rows, ∀ rt ∈ ct.rates, c + 2 ≤ rt.base.exp ∧ rt.base.exp ≤ M :=
  baseRateTotals_exps .precise c (c + 2) M rows (by omega) fun rw hrw hne => ⟨(hrows rw hrw).fine hne, (hrows rw hrw).exp_le⟩

/-! ## the amounts: `calculateBaseCategoryTotal`, `calculateFinalSum` -/

/-- what a group adds to the category surcharge -/
def surAmt (rt : RateTotal) : ℚ :=
  match rt.percent, rt.surcharge with
  | some _, some (_, sa) => sa.toRat
  | _, _ => 0

theorem sum_surAmt (rates : List RateTotal) :
    (rates.map surAmt).sum = ((rates.filterMap Spec.C03.surOf).map Amount.toRat).sum := by
  induction rates with
  | nil => rfl
  | cons rt rates ih =>
    rw [List.map_cons, List.sum_cons, ih, List.filterMap_cons]
    unfold surAmt Spec.C03.surOf
    cases rt.percent <;> cases rt.surcharge <;> simp

theorem rateAmounts_err (rt : RateTotal) (c : ℕ) (h1 : c + 2 ≤ rt.base.exp) :
    |taxedAmount .precise c (rateAmounts exactOps rt c) - rateG selP rt| ≤ halfUlp (c + 2) ∧
    |surAmt (rateAmounts exactOps rt c) - rateG selS rt| ≤ ((rateW rt : ℚ) - 1) * halfUlp (c + 2) := by
  have h0 := halfUlp_nonneg (c + 2)
  have hper := rateAmounts_percent rt c
  have hW : (0 : ℚ) ≤ (rateW rt : ℚ) - 1 := by unfold rateW; split <;> norm_num
  cases hp : rt.percent with
  | none =>
    rw [hp] at hper
    simp only [taxedAmount, surAmt, rateG, hper, hp, sub_self, abs_zero]
    exact ⟨h0, mul_nonneg hW h0⟩
  | some p =>
    rw [hp] at hper
    have hamt : (rateAmounts exactOps rt c).amount = rt.base.mulX p.amount := by
      simp [rateAmounts, hp, pctOf]
    have hsur : (rateAmounts exactOps rt c).surcharge =
        rt.surcharge.map (fun x => (x.1, rt.base.mulX x.1.amount)) := by
      simp [rateAmounts, hp, pctOf]
    refine ⟨?_, ?_⟩
    · simp only [taxedAmount, rateG, hper, hp, contrib, hamt]
      exact le_trans (mulX_err rt.base p.amount) (halfUlp_mono _ _ h1)
    · simp only [surAmt, rateG, hper, hp, hsur, surR, rateW]
      cases hsr : rt.surcharge with
      | none => simp
      | some x =>
        obtain ⟨sp, sa0⟩ := x
        simp only [Option.map_some, Option.isSome_some, if_true]
        norm_num
        exact le_trans (mulX_err rt.base sp.amount) (halfUlp_mono _ _ h1)

theorem rateG_selT (rt : RateTotal) : rateG selT rt = rateG selP rt + rateG selS rt := by
  unfold rateG
  cases rt.percent <;> simp [mul_add]

theorem catAmounts_exp_le (c M : ℕ) (ct : CatTotal) (hinv : ∀ rt ∈ ct.rates, rt.base.exp ≤ M) (hc : c ≤ M) :
    (catAmounts exactOps .precise c ct).amount.exp ≤ M := by
  rw [catAmounts_amount_eq, foldl_step_exp (by decide)]
  refine foldl_max_le hc fun a ha => ?_
  obtain ⟨y, hy, hay⟩ := List.mem_filterMap.mp ha
  obtain ⟨x, hx, rfl⟩ := List.mem_map.mp hy
  rw [(rateAmounts_exps x c).2.1 a hay]
  exact hinv x hx

theorem catAmounts_sums (c : ℕ) (ct : CatTotal) :
    (catAmounts exactOps .precise c ct).amount.toRat =
      (ct.rates.map (fun x => taxedAmount .precise c (rateAmounts exactOps x c))).sum ∧
    optQ (catAmounts exactOps .precise c ct).surcharge =
      (ct.rates.map (fun x => surAmt (rateAmounts exactOps x c))).sum := by
  refine ⟨?_, ?_⟩
  · rw [catAmounts_amount]
    show ((ct.rates.map (rateAmounts exactOps · c)).map (taxedAmount .precise c)).sum = _
    rw [List.map_map]; rfl
  · have e := sum_surAmt (ct.rates.map (rateAmounts exactOps · c))
    rw [List.map_map] at e
    refine Eq.trans ?_ e.symm
    obtain ⟨hsome, hnone⟩ := catAmounts_surcharge .precise c ct (fun hr => absurd hr (by decide))
    cases hs : (catAmounts exactOps .precise c ct).surcharge with
    | none => rw [hnone hs]; rfl
    | some s => exact (hsome s hs).2

theorem catAmounts_g (c M : ℕ) (ct : CatTotal) (hinv : ∀ rt ∈ ct.rates, c + 2 ≤ rt.base.exp ∧ rt.base.exp ≤ M)
    (hc : c ≤ M) :
    Approx c M (catAmounts exactOps .precise c ct).amount (ratesG selP ct.rates) ct.rates.length ∧
    ApproxO c M (catAmounts exactOps .precise c ct).surcharge (ratesG selS ct.rates) ct.rates.length := by
  have he := catAmounts_exp_le c M ct (fun rt h => (hinv rt h).2) hc
  obtain ⟨h1, h2⟩ := catAmounts_sums c ct
  refine ⟨⟨he, ?_⟩, fun s hs => (catAmounts_surcharge_exp_le .precise (by decide) c ct s hs).trans he, ?_⟩
  · rw [h1]; exact sum_err_const ct.rates _ _ _ (fun x hx => (rateAmounts_err x c (hinv x hx).1).1)
  · rw [h2]
    refine sum_err_const ct.rates _ _ _ (fun x hx => le_trans (rateAmounts_err x c (hinv x hx).1).2 ?_)
    have : (rateW x : ℚ) ≤ 2 := by unfold rateW; split <;> norm_num
    nlinarith [halfUlp_nonneg (c + 2)]

theorem catAmounts_w (c M : ℕ) (ct : CatTotal) (hinv : ∀ rt ∈ ct.rates, c + 2 ≤ rt.base.exp ∧ rt.base.exp ≤ M) :
    |(catAmounts exactOps .precise c ct).amount.toRat + optQ (catAmounts exactOps .precise c ct).surcharge
      - ratesG selT ct.rates| ≤ (ratesW ct.rates : ℚ) * halfUlp (c + 2) := by
  obtain ⟨h1, h2⟩ := catAmounts_sums c ct
  rw [h1, h2, ← List.sum_map_add]
  unfold ratesW
  rw [cast_sum]
  refine sum_err ct.rates _ (rateG selT) (fun x => (rateW x : ℚ)) _ (fun x hx => ?_)
  obtain ⟨a, b⟩ := rateAmounts_err x c (hinv x hx).1
  rw [rateG_selT, add_sub_add_comm]
  exact le_trans (abs_add_le _ _) (by linarith)

theorem finalSum_exp_le (c M : ℕ) (cats : List CatTotal) (hc : c ≤ M)
    (h : ∀ ct ∈ cats, ct.amount.exp ≤ M) :
    (finalSum exactOps .precise c cats).exp ≤ M := by
  unfold finalSum
  suffices ∀ z : Amount, z.exp ≤ M → (cats.foldl _ z).exp ≤ M from this _ hc
  induction cats with
  | nil => exact fun _ hz => hz
  | cons ct cts ih =>
    intro z hz
    refine ih (fun x hx => h x (by simp [hx])) _ ?_
    have := h ct (by simp)
    simp only [mrp]
    cases ct.surcharge <;> split <;> simp only [sub_exp, add_exp, up_exp] <;> omega

/-- `PreciseSum` / `PreciseAmount`: the working figure `p` if it is not zero, else its presentation `a` -/
theorem Approx.preciseOr {c M : ℕ} {p a : Amount} {q w : ℚ} (h : Approx c M p q w) (hc : c ≤ M)
    (ha : a = exactOps.rescale p c) : Approx c M (if p.value != 0 then p else a) q w :=
  ⟨by split
      · exact h.exp_le
      · rw [ha]; exact (rescaleX_exp _ _).trans_le hc,
    by rw [(Calc.preciseOr c p a ha).2]; exact h.err⟩

theorem groupsOf_taxSummary (c : ℕ) (rows : List Row) :
    groupsOf (taxSummary exactOps .precise c rows).cats = groupsOf (baseRateTotals exactOps .precise c rows) := by
  unfold taxSummary roundTax groupsOf ratesW rateW catAmounts rateAmounts
  simp only [List.map_map, Function.comp_def]
  refine congrArg _ (List.map_congr_left fun ct _ => congrArg _ (List.map_congr_left fun rt _ => ?_))
  cases rt.percent <;> simp [Option.isSome_map]

theorem catSignedQ_eq (ct : CatTotal) :
    catSignedQ ct = if ct.retained then -(ct.amount.toRat + optQ ct.surcharge) else ct.amount.toRat + optQ ct.surcharge := by
  unfold catSignedQ
  cases ct.surcharge <;> simp [optQ]

/-- the exact tax here is that of the *working* row totals; what the rows themselves are off comes in with
`doc_rows_err` -/
theorem taxSummary_w (c M : ℕ) (rows : List Row) (hrows : ∀ rw ∈ rows, RowOkP ret c M rw) (hM : c + 2 ≤ M) :
    Approx c M (taxSummary exactOps .precise c rows).precise
      (rows.map (fun rw => rowQ rw.total.toRat rw.taxes)).sum (groupsOf (taxSummary exactOps .precise c rows).cats) := by
  have hc : c ≤ M := by omega
  have hfine := baseRateTotals_fine c M rows hrows hM
  rw [groupsOf_taxSummary]
  set B := baseRateTotals exactOps .precise c rows with hB
  refine Approx.preciseOr ⟨finalSum_exp_le c M _ hc fun ct hct => ?_, ?_⟩ hc (taxSummary_sum .precise c rows)
  · obtain ⟨x, hx, rfl⟩ := List.mem_map.mp hct
    exact catAmounts_exp_le c M x (fun rt h => (hfine x hx rt h).2) hc
  · rw [taxSummary_preciseSum .precise c rows, (finalSum_toRat_any .precise c B).1,
      List.map_map, ← baseRateTotals_w c rows fun rw hrw cb hcb => ((hrows rw hrw).combos cb hcb).retained]
    unfold catsQ groupsOf
    rw [cast_sum]
    refine sum_err B _ _ (fun x => (ratesW x.rates : ℚ)) _ (fun x hx => ?_)
    have h5 := catAmounts_w c M x (hfine x hx)
    simp only [Function.comp, catSignedQ_eq]
    show |(if x.retained then _ else _) - _| ≤ _
    split
    · rw [neg_sub_neg, abs_sub_comm]; exact h5
    · exact h5

theorem taxSummary_g (c M : ℕ) (rows : List Row) (hrows : ∀ rw ∈ rows, RowOkP ret c M rw) (hM : c + 2 ≤ M) (k : String) :
    ((taxSummary exactOps .precise c rows).cats.find? (fun ct => ct.code == k) = none →
      (rows.map (fun rw => rowG selP k rw.total.toRat rw.taxes)).sum = 0) ∧
    (∀ ct, (taxSummary exactOps .precise c rows).cats.find? (fun ct => ct.code == k) = some ct →
      ct.amount = ct.precise.rescaleX c ∧
      Approx c M ct.precise (rows.map (fun rw => rowG selP k rw.total.toRat rw.taxes)).sum ct.rates.length ∧
      ∃ ws : Option Amount, ct.surcharge = ws.map (·.rescaleX c) ∧
        ApproxO c M ws (rows.map (fun rw => rowG selS k rw.total.toRat rw.taxes)).sum ct.rates.length) := by
  have hc : c ≤ M := by omega
  have hfine := baseRateTotals_fine c M rows hrows hM
  have g := fun sel => baseRateTotals_g sel k c rows
  set B := baseRateTotals exactOps .precise c rows with hB
  have hfind : (taxSummary exactOps .precise c rows).cats.find? (fun ct => ct.code == k) =
      ((B.find? (fun ct => ct.code == k)).map (catAmounts exactOps .precise c)).map (roundCat c) := by
    rw [taxSummary_cats .precise c rows, List.find?_map, List.find?_map]; rfl
  rw [hfind]
  cases hf : B.find? (fun ct => ct.code == k) with
  | none => exact ⟨fun _ => by rw [← g selP]; simp only [catG, hf], fun ct hct => by simp at hct⟩
  | some ct0 =>
    refine ⟨fun hn => by simp at hn, fun ct hct => ?_⟩
    simp only [Option.map_some, Option.some.injEq] at hct
    subst hct
    have hinv := hfine ct0 (List.mem_of_find?_eq_some hf)
    obtain ⟨a1, a2⟩ := catAmounts_g c M ct0 hinv hc
    have hlen : (roundCat c (catAmounts exactOps .precise c ct0)).rates.length = ct0.rates.length := by
      simp [roundCat, catAmounts]
    have gP := g selP
    have gS := g selS
    simp only [catG, hf] at gP gS
    rw [hlen, ← gP, ← gS]
    exact ⟨rfl, a1, _, rfl, a2⟩

theorem taxSummary_group (c : ℕ) (rows : List Row) {ct : CatTotal} {rt : RateTotal}
    (hct : ct ∈ (taxSummary exactOps .precise c rows).cats) (hrt : rt ∈ ct.rates) :
    ∃ ct0 ∈ baseRateTotals exactOps .precise c rows, ∃ rt0 ∈ ct0.rates, ct.code = ct0.code ∧
      Spec.C02.keyOfRate rt = Spec.C02.keyOfRate rt0 ∧ rt.percent = rt0.percent ∧ rt.base = rt0.base.rescaleX c ∧
      (∀ q, rt0.percent = some q → rt.amount = (rt0.base.mulX q.amount).rescaleX c ∧
        rt.surcharge = rt0.surcharge.map fun x => (x.1, (rt0.base.mulX x.1.amount).rescaleX c)) := by
  rw [taxSummary_cats .precise c rows, List.map_map] at hct
  obtain ⟨ct0, hct0, rfl⟩ := List.mem_map.mp hct
  simp only [Function.comp] at hrt ⊢
  rw [roundCat_catAmounts_rates] at hrt
  obtain ⟨rt0, hrt0, rfl⟩ := List.mem_map.mp hrt
  refine ⟨ct0, hct0, rt0, hrt0, rfl, ?_, rateAmounts_percent rt0 c, ?_, fun q hq => ?_⟩
  · unfold roundRate rateAmounts Spec.C02.keyOfRate
    cases rt0.percent <;> cases rt0.surcharge <;> simp
  · simp only [roundRate, (rateAmounts_exps rt0 c).1, exact_rescale]
  · simp [roundRate, rateAmounts, hq, pctOf, Option.map_map, Function.comp_def]

end Err
end Calc
end GoblVerif
