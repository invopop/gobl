/-
  Why `math.Round(float64(N) / float64(D))` is the exact quotient rounded half
  away from zero when `|N| < 2^52`.

  `rnd53_err`: rounding to 53 bits moves `x = N/D` by at most `|x|·2^-53`,
  which for `|N| < 2^52` is less than `1/(2|D|)` (`err_lt_gap`).  `gap`: a
  quotient with denominator `D` that is not a half-integer lies at least
  `1/(2|D|)` away from every half-integer.  So the rounded value never crosses
  a tie `j + 1/2`, and a quotient that is a tie is a 53-bit number and stays
  (`same_side`).  `goRound` only asks between which ties its argument lies
  (`goRound_nonneg_iff`, `goRound_neg_iff`): `round_div_exact`.  Apart from that argument, `goRound_nearest`:
  `goRound` is a nearest integer, and at a tie the one further from zero; and `Calc.goRound_shift`: it commutes with
  a shift by whole units unless the shift crosses zero.
-/
import Mathlib.Data.Rat.Floor
import Mathlib.Tactic.Linarith
import Mathlib.Tactic.Ring
import Mathlib.Tactic.Positivity
import Mathlib.Tactic.FieldSimp
import Mathlib.Algebra.Order.Floor.Ring
import GoblVerif.Model.Float53

namespace GoblVerif
open Int
theorem ratfloor_eq (x : ℚ) : x.floor = ⌊x⌋ := rfl

theorem roundHalfEven_err (x : ℚ) : |((roundHalfEven x : ℤ) : ℚ) - x| ≤ 1/2 := by
  have h1 : ((x.floor : ℤ) : ℚ) ≤ x := Int.floor_le x
  have h2 : x < ((x.floor : ℤ) : ℚ) + 1 := Int.lt_floor_add_one x
  -- below `x` the distance is the fractional part `x - ⌊x⌋`, above it one minus that
  have down : x - x.floor ≤ 1/2 → |((x.floor : ℤ) : ℚ) - x| ≤ 1/2 := fun h => by
    rwa [abs_sub_comm, abs_of_nonneg (sub_nonneg.mpr h1)]
  have up : 1/2 ≤ x - x.floor → |((x.floor + 1 : ℤ) : ℚ) - x| ≤ 1/2 := fun h => by
    rw [Int.cast_add, Int.cast_one, abs_of_pos (sub_pos.mpr h2)]; linarith
  unfold roundHalfEven
  dsimp only
  split
  · exact down (le_of_lt ‹_›)
  · split
    · exact up (le_of_lt ‹_›)
    · split
      · exact down (not_lt.mp ‹_›)
      · exact up (not_lt.mp ‹¬ x - _ < 1/2›)

theorem roundHalfEven_int (z : ℤ) : roundHalfEven (z : ℚ) = z := by
  unfold roundHalfEven
  simp [ratfloor_eq]

theorem abs_eq_ite (q : ℚ) : (if 0 ≤ q then q else -q) = |q| := by
  split
  · rw [abs_of_nonneg]; assumption
  · exact (abs_of_neg (not_le.mp ‹_›)).symm

theorem abs_eq_natAbs_div (q : ℚ) : |q| = (q.num.natAbs : ℚ) / (q.den : ℚ) := by
  have hd : (0 : ℚ) < q.den := by exact_mod_cast q.den_pos
  conv_lhs => rw [← Rat.num_div_den q]
  rw [abs_div, abs_of_pos hd]
  congr 1
  rw [← Int.cast_abs, Int.abs_eq_natAbs]
  simp

theorem nat_log2_bounds (n : ℕ) (hn : n ≠ 0) :
    ((2 : ℚ) ^ (Nat.log2 n : ℤ) ≤ (n : ℚ)) ∧ ((n : ℚ) < (2 : ℚ) ^ ((Nat.log2 n : ℤ) + 1)) := by
  constructor
  · have := Nat.log2_self_le hn
    rw [zpow_natCast]
    exact_mod_cast this
  · have := @Nat.lt_log2_self n
    have h2 : ((Nat.log2 n : ℤ) + 1) = ((Nat.log2 n + 1 : ℕ) : ℤ) := by push_cast; ring
    rw [h2, zpow_natCast]
    exact_mod_cast this

theorem ilog2_spec (q : ℚ) (hq : q ≠ 0) :
    (2 : ℚ) ^ (ilog2 q) ≤ |q| ∧ |q| < (2 : ℚ) ^ (ilog2 q + 1) := by
  have hn : q.num.natAbs ≠ 0 := by
    simpa [Int.natAbs_eq_zero, Rat.num_eq_zero] using hq
  have hd : q.den ≠ 0 := q.den_nz
  obtain ⟨n1, n2⟩ := nat_log2_bounds _ hn
  obtain ⟨d1, d2⟩ := nat_log2_bounds _ hd
  have hdpos : (0 : ℚ) < q.den := by exact_mod_cast q.den_pos
  have habs := abs_eq_natAbs_div q
  unfold ilog2
  simp only [abs_eq_ite]
  generalize (q.num.natAbs : ℚ) = n at *
  generalize (q.den : ℚ) = d at *
  generalize (Nat.log2 q.num.natAbs : ℤ) = ln at *
  generalize (Nat.log2 q.den : ℤ) = ld at *
  -- upper: |q| < 2^(ln - ld + 1)
  have hup : |q| < (2 : ℚ) ^ (ln - ld + 1) := by
    rw [habs, div_lt_iff₀ hdpos]
    have : (2 : ℚ) ^ (ln - ld + 1) * (2 : ℚ) ^ ld = (2 : ℚ) ^ (ln + 1) := by
      rw [← zpow_add₀ two_ne_zero]; congr 1; ring
    calc n < (2 : ℚ) ^ (ln + 1) := n2
      _ = (2 : ℚ) ^ (ln - ld + 1) * (2 : ℚ) ^ ld := this.symm
      _ ≤ (2 : ℚ) ^ (ln - ld + 1) * d := by
          apply mul_le_mul_of_nonneg_left d1 (le_of_lt (zpow_pos two_pos _))
  -- lower: 2^(ln - ld - 1) < |q|
  have hlo : (2 : ℚ) ^ (ln - ld - 1) < |q| := by
    rw [habs, lt_div_iff₀ hdpos]
    have : (2 : ℚ) ^ (ln - ld - 1) * (2 : ℚ) ^ (ld + 1) = (2 : ℚ) ^ ln := by
      rw [← zpow_add₀ two_ne_zero]; congr 1; ring
    calc (2 : ℚ) ^ (ln - ld - 1) * d < (2 : ℚ) ^ (ln - ld - 1) * (2 : ℚ) ^ (ld + 1) := by
          apply mul_lt_mul_of_pos_left d2 (zpow_pos two_pos _)
      _ = (2 : ℚ) ^ ln := this
      _ ≤ n := n1
  split
  · rename_i h
    exact ⟨h, hup⟩
  · rename_i h
    rw [not_le] at h
    constructor
    · exact le_of_lt hlo
    · have : ln - ld - 1 + 1 = ln - ld := by ring
      rw [this]; exact h

theorem rnd53_err (q : ℚ) : |rnd53 q - q| ≤ |q| * (2 : ℚ) ^ (-53 : ℤ) := by
  unfold rnd53
  split
  · rename_i h; subst h; simp
  · rename_i hq
    dsimp only
    have upos : 0 < (2 : ℚ) ^ (ilog2 q - 52) := zpow_pos two_pos _
    -- half a unit in the last place, `2^(e-52)/2`, against `|q| ≥ 2^e`
    have hu : 1 / 2 * (2 : ℚ) ^ (ilog2 q - 52) = (2 : ℚ) ^ ilog2 q * (2 : ℚ) ^ (-53 : ℤ) := by
      rw [show (1 / 2 : ℚ) = (2 : ℚ) ^ (-1 : ℤ) from ((zpow_neg_one (2 : ℚ)).trans (one_div (2 : ℚ)).symm).symm,
        ← zpow_add₀ two_ne_zero, ← zpow_add₀ two_ne_zero]
      congr 1; ring
    rw [show ∀ r : ℚ, r * (2 : ℚ) ^ (ilog2 q - 52) - q = (r - q / (2 : ℚ) ^ (ilog2 q - 52)) * (2 : ℚ) ^ (ilog2 q - 52)
      from fun r => by rw [sub_mul, div_mul_cancel₀ _ upos.ne'], abs_mul, abs_of_pos upos]
    calc _ ≤ 1 / 2 * (2 : ℚ) ^ (ilog2 q - 52) := mul_le_mul_of_nonneg_right (roundHalfEven_err _) upos.le
      _ = _ := hu
      _ ≤ _ := mul_le_mul_of_nonneg_right (ilog2_spec q hq).1 (zpow_pos two_pos _).le

/-- representable numbers are fixed: q = m * 2^k with |m| < 2^53 -/
theorem rnd53_exact (m : ℤ) (k : ℤ) (hm : |m| < 2 ^ 53) : rnd53 ((m : ℚ) * (2 : ℚ) ^ k) = (m : ℚ) * (2 : ℚ) ^ k := by
  unfold rnd53
  split
  · rename_i h; rw [h]
  · rename_i hq
    dsimp only
    obtain ⟨hlo, _⟩ := ilog2_spec _ hq
    set q : ℚ := (m : ℚ) * (2 : ℚ) ^ k with hqdef
    set e := ilog2 q with he
    -- e ≤ 52 + k
    have hmabs : |(m : ℚ)| < (2 : ℚ) ^ (53 : ℤ) := by exact_mod_cast hm
    have hqabs : |q| < (2 : ℚ) ^ (53 + k) := by
      rw [hqdef, abs_mul, abs_of_pos (zpow_pos (two_pos : (0 : ℚ) < 2) k), zpow_add₀ two_ne_zero]
      exact mul_lt_mul_of_pos_right hmabs (zpow_pos two_pos k)
    have hlt : (2 : ℚ) ^ e < (2 : ℚ) ^ (53 + k) := lt_of_le_of_lt hlo hqabs
    have he_lt : e < 53 + k := (zpow_lt_zpow_iff_right₀ (by norm_num : (1 : ℚ) < 2)).mp hlt
    -- q / u is the integer m * 2^(k - e + 52)
    obtain ⟨j, hj⟩ : ∃ j : ℕ, (j : ℤ) = k - e + 52 := ⟨(k - e + 52).toNat, by omega⟩
    have hdiv : q / (2 : ℚ) ^ (e - 52) = ((m * 2 ^ j : ℤ) : ℚ) := by
      rw [hqdef, mul_div_assoc, ← zpow_sub₀ two_ne_zero]
      have : k - (e - 52) = (j : ℤ) := by omega
      rw [this, zpow_natCast]; push_cast; ring
    rw [hdiv, roundHalfEven_int, ← hdiv]
    exact div_mul_cancel₀ _ (zpow_ne_zero _ two_ne_zero)

theorem gap (N D j : ℤ) (hD : D ≠ 0) (hne : (N : ℚ) / D ≠ (2 * j + 1 : ℤ) / 2) :
    1 / (2 * |(D : ℚ)|) ≤ |(N : ℚ) / D - ((2 * j + 1 : ℤ) : ℚ) / 2| := by
  have hDq : (D : ℚ) ≠ 0 := Int.cast_ne_zero.mpr hD
  -- the difference is an integer over `2 D`, and the integer is not zero
  have hM : N * 2 - D * (2 * j + 1) ≠ 0 := fun h =>
    hne ((div_eq_div_iff hDq two_ne_zero).mpr (by exact_mod_cast (sub_eq_zero.mp h).trans (mul_comm _ _)))
  have h1 : (1 : ℚ) ≤ |(N : ℚ) * 2 - D * ((2 * j + 1 : ℤ) : ℚ)| := by exact_mod_cast Int.one_le_abs hM
  rw [div_sub_div _ _ hDq two_ne_zero, abs_div, abs_mul, abs_two, mul_comm 2]
  exact div_le_div_of_nonneg_right h1 (by positivity)

theorem err_lt_gap (N D : ℤ) (hD : D ≠ 0) (hN : |N| < 2 ^ 52) :
    |rnd53 ((N : ℚ) / D) - (N : ℚ) / D| < 1 / (2 * |(D : ℚ)|) := by
  have hDq : (D : ℚ) ≠ 0 := by exact_mod_cast hD
  have hDabs : 0 < |(D : ℚ)| := abs_pos.mpr hDq
  have h := rnd53_err ((N : ℚ) / D)
  have hNq : |(N : ℚ)| < (2 : ℚ) ^ (52 : ℤ) := by
    have : ((|N| : ℤ) : ℚ) < ((2 ^ 52 : ℤ) : ℚ) := by exact_mod_cast hN
    rw [Int.cast_abs] at this
    have h2 : ((2 ^ 52 : ℤ) : ℚ) = (2 : ℚ) ^ (52 : ℤ) := by norm_num
    rw [h2] at this; exact this
  have hpow : (2 : ℚ) ^ (52 : ℤ) * (2 : ℚ) ^ (-53 : ℤ) = 1 / 2 := by
    rw [← zpow_add₀ two_ne_zero]; norm_num
  calc |rnd53 ((N : ℚ) / D) - (N : ℚ) / D| ≤ |(N : ℚ) / D| * (2 : ℚ) ^ (-53 : ℤ) := h
    _ = |(N : ℚ)| * (2 : ℚ) ^ (-53 : ℤ) / |(D : ℚ)| := by rw [abs_div]; ring
    _ < (2 : ℚ) ^ (52 : ℤ) * (2 : ℚ) ^ (-53 : ℤ) / |(D : ℚ)| := by
        apply div_lt_div_of_pos_right _ hDabs
        exact mul_lt_mul_of_pos_right hNq (zpow_pos two_pos _)
    _ = 1 / (2 * |(D : ℚ)|) := by rw [hpow]; field_simp

theorem same_side_of_closer {r x t : ℚ} (h : |r - x| < |x - t|) : (x < t → r < t) ∧ (t < x → t < r) := by
  constructor
  · intro hlt
    rw [abs_of_neg (sub_neg.mpr hlt), neg_sub] at h
    exact (sub_lt_sub_iff_right x).mp (lt_of_le_of_lt (le_abs_self _) h)
  · intro hgt
    rw [abs_of_pos (sub_pos.mpr hgt), abs_sub_comm] at h
    exact (sub_lt_sub_iff_left x).mp (lt_of_le_of_lt (le_abs_self _) h)

theorem same_side (N D j : ℤ) (hD : D ≠ 0) (hN : |N| < 2 ^ 52) :
    let x : ℚ := (N : ℚ) / D
    let t : ℚ := ((2 * j + 1 : ℤ) : ℚ) / 2
    (x < t → rnd53 x < t) ∧ (t < x → t < rnd53 x) ∧ (x = t → rnd53 x = t) := by
  intro x t
  have closer : x ≠ t → |rnd53 x - x| < |x - t| := fun hne =>
    lt_of_lt_of_le (err_lt_gap N D hD hN) (gap N D j hD hne)
  refine ⟨fun h => (same_side_of_closer (closer h.ne)).1 h, fun h => (same_side_of_closer (closer h.ne')).2 h, ?_⟩
  intro heq
  -- a tie is `(2j+1)·2⁻¹` with `|2j+1| ≤ |2j+1|·|D| = 2|N| < 2^53`: representable
  have h2 : (2 * j + 1) * D = 2 * N := by
    have := (div_eq_div_iff (Int.cast_ne_zero.mpr hD) two_ne_zero).mp heq
    exact_mod_cast this.symm.trans (mul_comm _ _)
  have hbound : |2 * j + 1| < 2 ^ 53 := by
    have h3 : |2 * j + 1| * |D| = 2 * |N| := by rw [← abs_mul, h2, abs_mul, abs_two]
    have h4 := le_mul_of_one_le_right (abs_nonneg (2 * j + 1)) (Int.one_le_abs hD)
    omega
  have hx : t = ((2 * j + 1 : ℤ) : ℚ) * (2 : ℚ) ^ (-1 : ℤ) := by rw [zpow_neg_one]; rfl
  rw [heq, hx]
  exact rnd53_exact _ _ hbound

theorem rnd53_sign (N D : ℤ) (hD : D ≠ 0) (hN : |N| < 2 ^ 52) :
    let x : ℚ := (N : ℚ) / D
    (0 ≤ x → 0 ≤ rnd53 x) ∧ (x < 0 → rnd53 x < 0) := by
  intro x
  -- the relative error is below 1, so the rounded value is closer to `x` than zero is
  have closer : x ≠ 0 → |rnd53 x - x| < |x - 0| := fun hne => by
    rw [sub_zero]
    exact lt_of_le_of_lt (rnd53_err x) (mul_lt_of_lt_one_right (abs_pos.mpr hne)
      (by rw [zpow_neg]; exact inv_lt_one_of_one_lt₀ (by norm_num)))
  refine ⟨fun hx => ?_, fun hx => (same_side_of_closer (closer hx.ne)).1 hx⟩
  rcases hx.eq_or_lt with h0 | hpos
  · rw [← h0, rnd53, if_pos rfl]
  · exact ((same_side_of_closer (closer hpos.ne')).2 hpos).le

theorem goRound_nonneg_iff (x : ℚ) (hx : 0 ≤ x) (k : ℤ) :
    goRound x = k ↔ ((k : ℚ) - 1/2 ≤ x ∧ x < (k : ℚ) + 1/2) := by
  unfold goRound
  rw [if_pos hx, ratfloor_eq, Int.floor_eq_iff, sub_le_iff_le_add, ← lt_sub_iff_add_lt,
    show ((k : ℚ) + 1 - 1/2) = k + 1/2 by ring]

theorem goRound_neg (x : ℚ) : goRound (-x) = -goRound x := by
  unfold goRound
  rcases lt_trichotomy x 0 with h | rfl | h
  · rw [if_pos (neg_nonneg.mpr h.le), if_neg (not_le.mpr h), neg_neg]
  · rw [neg_zero]; decide +kernel
  · rw [if_neg (not_le.mpr (neg_neg_of_pos h)), if_pos h.le, neg_neg]

theorem goRound_neg_iff (x : ℚ) (hx : x < 0) (k : ℤ) :
    goRound x = k ↔ ((k : ℚ) - 1/2 < x ∧ x ≤ (k : ℚ) + 1/2) := by
  rw [← neg_inj, ← goRound_neg, goRound_nonneg_iff _ (neg_nonneg.mpr hx.le), Int.cast_neg, ← neg_add',
    neg_le_neg_iff, neg_add_eq_sub, ← neg_sub (k : ℚ), neg_lt_neg_iff, and_comm]

theorem rnd53_between (N D k : ℤ) (hD : D ≠ 0) (hN : |N| < 2 ^ 52) :
    let x : ℚ := (N : ℚ) / D
    ((k : ℚ) - 1/2 ≤ x → (k : ℚ) - 1/2 ≤ rnd53 x) ∧ ((k : ℚ) - 1/2 < x → (k : ℚ) - 1/2 < rnd53 x) ∧
    (x < (k : ℚ) + 1/2 → rnd53 x < (k : ℚ) + 1/2) ∧ (x ≤ (k : ℚ) + 1/2 → rnd53 x ≤ (k : ℚ) + 1/2) := by
  intro x
  obtain ⟨u1, -, u3⟩ := same_side N D k hD hN
  obtain ⟨-, l2, l3⟩ := same_side N D (k - 1) hD hN
  rw [show ((2 * k + 1 : ℤ) : ℚ) / 2 = (k : ℚ) + 1/2 by push_cast; ring] at u1 u3
  rw [show ((2 * (k - 1) + 1 : ℤ) : ℚ) / 2 = (k : ℚ) - 1/2 by push_cast; ring] at l2 l3
  exact ⟨fun h => h.lt_or_eq.elim (fun h => (l2 h).le) (fun h => (l3 h.symm).ge), l2, u1,
    fun h => h.lt_or_eq.elim (fun h => (u1 h).le) (fun h => (u3 h).le)⟩

/-- THE exactness argument: rounding the float quotient half-away equals rounding the exact quotient. -/
theorem round_div_exact (N D : ℤ) (hD : D ≠ 0) (hN : |N| < 2 ^ 52) :
    goRound (rnd53 ((N : ℚ) / D)) = goRound ((N : ℚ) / D) := by
  obtain ⟨sp, sn⟩ := rnd53_sign N D hD hN
  obtain ⟨b1, b2, b3, b4⟩ := rnd53_between N D (goRound ((N : ℚ) / D)) hD hN
  rcases le_or_gt 0 ((N : ℚ) / D) with hx0 | hx0
  · obtain ⟨lo, hi⟩ := (goRound_nonneg_iff _ hx0 _).mp rfl
    exact (goRound_nonneg_iff _ (sp hx0) _).mpr ⟨b1 lo, b3 hi⟩
  · obtain ⟨lo, hi⟩ := (goRound_neg_iff _ hx0 _).mp rfl
    exact (goRound_neg_iff _ (sn hx0) _).mpr ⟨b2 lo, b4 hi⟩

private theorem goRound_nearest_nonneg (x : ℚ) (hx : 0 ≤ x) :
    |(goRound x : ℚ) - x| ≤ 1/2 ∧ (|(goRound x : ℚ) - x| = 1/2 → |x| < |(goRound x : ℚ)|) := by
  obtain ⟨lo, hi⟩ := (goRound_nonneg_iff x hx _).mp rfl
  have hd : -(1/2) < (goRound x : ℚ) - x := neg_lt.mp (by rw [neg_sub]; exact sub_lt_iff_lt_add'.mpr hi)
  refine ⟨abs_le.mpr ⟨hd.le, sub_le_iff_le_add'.mpr (sub_le_iff_le_add.mp lo)⟩, fun he => ?_⟩
  rcases (abs_eq (by norm_num)).mp he with e | e
  · rw [abs_of_nonneg hx]
    exact lt_of_lt_of_le (sub_pos.mp (e ▸ by norm_num)) (le_abs_self _)
  · exact absurd (e ▸ hd) (lt_irrefl _)

theorem goRound_nearest (x : ℚ) :
    |(goRound x : ℚ) - x| ≤ 1/2 ∧ (|(goRound x : ℚ) - x| = 1/2 → |x| < |(goRound x : ℚ)|) := by
  rcases le_total 0 x with h | h
  · exact goRound_nearest_nonneg x h
  · have := goRound_nearest_nonneg (-x) (neg_nonneg.mpr h)
    rwa [goRound_neg, Int.cast_neg, neg_sub_neg, abs_sub_comm, abs_neg, abs_neg] at this

namespace Calc

theorem goRound_bounds (x : ℚ) : ((goRound x : ℤ) : ℚ) - 1/2 ≤ x ∧ x ≤ ((goRound x : ℤ) : ℚ) + 1/2 := by
  rcases le_or_gt 0 x with hx | hx
  · exact ((goRound_nonneg_iff x hx _).mp rfl).imp_right le_of_lt
  · exact ((goRound_neg_iff x hx _).mp rfl).imp_left le_of_lt

/-- the hypothesis says that the shift does not cross zero: the rounded value is zero, or has the strict sign of the shifted
    rounded value -/
theorem goRound_shift (x : ℚ) (K : ℤ)
    (h : goRound x = 0 ∨ 0 < (goRound x + K) * goRound x) :
    goRound (x + K) = goRound x + K := by
  wlog hx : 0 ≤ x generalizing x K
  · have hm : (-goRound x + -K) * -goRound x = (goRound x + K) * goRound x := by ring
    have := this (-x) (-K) (by rw [goRound_neg, hm, neg_eq_zero]; exact h) (by linarith)
    have h2 : -x + ((-K : ℤ) : ℚ) = -(x + K) := by push_cast; ring
    rw [h2, goRound_neg, goRound_neg] at this
    omega
  set m := goRound x with hm
  have hb := (goRound_nonneg_iff x hx m).mp hm.symm
  by_cases hy : 0 ≤ x + K
  · rw [goRound_nonneg_iff _ hy]
    push_cast
    constructor <;> linarith [hb.1, hb.2]
  · -- across zero: `x = m - 1/2` is excluded, since `0 ≤ x` then forces `1 ≤ m` and `x + K < 0` forces `m + K ≤ 0`
    rw [goRound_neg_iff _ (not_le.mp hy)]
    push_cast
    refine ⟨lt_of_le_of_ne (by linarith [hb.1]) fun heq => ?_, by linarith [hb.2]⟩
    have hxm : x = m - 1/2 := by linarith
    have hm1 : 1 ≤ m := by
      have : (0 : ℚ) < m := by linarith
      exact_mod_cast this
    have hmK : m + K ≤ 0 := by
      have : ((m + K : ℤ) : ℚ) < 1 := by push_cast; linarith [not_le.mp hy]
      have : m + K < 1 := by exact_mod_cast this
      omega
    rcases h with h0 | hpos
    · omega
    · exact absurd hpos (not_lt.mpr (Int.mul_nonpos_of_nonpos_of_nonneg hmK (by omega)))

end Calc

end GoblVerif
