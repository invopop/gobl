/-
  Helper lemmas for C09: the specification's items (what a signature covers, what a header presents),
  and what the digest text `alg;val` determines.
-/
import GoblVerif.Spec.C09

namespace GoblVerif
open GoblVerif.Spec.C09

theorem mem_digItems (i : Item) (d : Option Digest) :
    i ∈ digItems d ↔ ∃ x, d = some x ∧ i = .dig x.alg x.val := by
  cases d <;> simp [digItems]

theorem forall_covered (p : Header) (P : Item → Prop) : (∀ i ∈ covered p, P i) ↔
    P (.uuid p.uuid) ∧ (∀ d, p.dig = some d → P (.dig d.alg d.val)) ∧
    (∀ s ∈ p.stamps, P (.stamp s.prv s.val)) ∧ (∀ l ∈ p.links, P (.link l.key l.url)) ∧
    (∀ t ∈ p.tags, P (.tag t)) ∧ (∀ kv ∈ p.metas, P (.metaKV kv.1 kv.2)) ∧
    (p.notes ≠ "" → P (.notes p.notes)) := by
  have hd : digItems p.dig = p.dig.toList.map fun d => Item.dig d.alg d.val := by cases p.dig <;> rfl
  simp only [covered, hd, List.forall_mem_append, List.forall_mem_map, List.forall_mem_singleton,
    Option.mem_toList, and_assoc]
  by_cases hn : p.notes = "" <;> simp [hn]

theorem mem_present (h : Header) (i : Item) : i ∈ present h ↔
    match i with
    | .uuid u => u = h.uuid
    | .dig a v => ∃ d, h.dig = some d ∧ a = d.alg ∧ v = d.val
    | .stamp a v => ∃ s ∈ h.stamps, s.prv = a ∧ s.val = v
    | .link k u => ∃ l ∈ h.links, l.key = k ∧ l.url = u
    | .tag t => t ∈ h.tags
    | .metaKV k v => (k, v) ∈ h.metas
    | .notes s => s = h.notes := by
  simp only [present, List.mem_append, List.mem_map, List.mem_singleton, mem_digItems]
  cases i <;> simp

theorem Digest.str_val_inj (d d2 : Digest) (ha : d.alg = d2.alg) (h : d.str = d2.str) : d.val = d2.val := by
  simp only [Digest.str, ha, String.ext_iff, String.toList_append, List.append_assoc] at h
  exact String.ext_iff.mpr (List.append_cancel_left (List.append_cancel_left h))

theorem takeWhile_sep (a x : List Char) (ha : ';' ∉ a) : (a ++ ';' :: x).takeWhile (· != ';') = a := by
  have : ∀ c ∈ a, (c != ';') = true := fun c hc => bne_iff_ne.mpr fun e => ha (e ▸ hc)
  simp [List.takeWhile_append_of_pos this]

theorem digest_str_eq_iff (d d2 : Digest) (h1 : ';' ∉ d.alg.toList) (h2 : ';' ∉ d2.alg.toList) :
    d.str = d2.str ↔ (d.alg = d2.alg ∧ d.val = d2.val) := by
  refine ⟨fun h => ?_, fun ⟨ha, hv⟩ => by simp [Digest.str, ha, hv]⟩
  have h' := h
  simp only [Digest.str, String.ext_iff, String.toList_append, List.append_assoc] at h'
  have ha : d.alg = d2.alg := String.ext_iff.mpr (by
    have := congrArg (List.takeWhile (· != ';')) h'
    rwa [show ";".toList = [';'] from rfl, List.singleton_append, List.singleton_append,
      takeWhile_sep _ _ h1, takeWhile_sep _ _ h2] at this)
  exact ⟨ha, Digest.str_val_inj d d2 ha h⟩

end GoblVerif
