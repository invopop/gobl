/-
  Helper lemmas about the envelope model's verification functions.
-/
import GoblVerif.Model.Envelope
import GoblVerif.Proofs.Header

namespace GoblVerif

theorem find_key_isSome (ks : List Key) (s : Sig) :
    (ks.find? (fun k => jwsValid k s)).isSome = true ↔ s.signer ∈ ks := by
  simp only [List.find?_isSome, jwsValid, beq_iff_eq]
  constructor
  · rintro ⟨k, hk, rfl⟩; exact hk
  · intro h; exact ⟨s.signer, h, rfl⟩

theorem verifySignature_some (h : Header) (sg : Sig) (ks : List Key) :
    verifySignature h (some sg) ks =
      if ks.isEmpty || ks.contains sg.signer then (if h.contains sg.payload then .ok else .mismatch) else .noKey := by
  simp only [verifySignature]
  cases hk : ks.isEmpty
  · have hf := find_key_isSome ks sg
    cases hc : ks.contains sg.signer <;> cases hfd : ks.find? (fun k => jwsValid k sg) <;> simp_all
  · rfl

theorem verifySignature_some_ok (h : Header) (sg : Sig) (ks : List Key) :
    (verifySignature h (some sg) ks == .ok) =
      (h.contains sg.payload && (ks.isEmpty || ks.contains sg.signer)) := by
  rw [verifySignature_some]
  cases ks.isEmpty || ks.contains sg.signer <;> cases h.contains sg.payload <;> rfl

theorem verifySignature_none_ne_ok (h : Header) (ks : List Key) : verifySignature h none ks ≠ .ok := by
  simp only [verifySignature]
  split <;> simp

theorem verifySignature_ok_iff (h : Header) (s : Option Sig) (ks : List Key) :
    verifySignature h s ks = .ok ↔
      ∃ sg, s = some sg ∧ (ks = [] ∨ sg.signer ∈ ks) ∧ h.contains sg.payload = true := by
  cases s with
  | none => simp [verifySignature_none_ne_ok]
  | some sg =>
    rw [← beq_iff_eq, verifySignature_some_ok]
    simp [and_comm]

theorem Env.verify_ok_iff (e : Env) (ks : List Key) :
    e.verify ks = .ok ↔ e.sigs ≠ [] ∧
      ∀ s ∈ e.sigs, ∃ sg, s = some sg ∧ (ks = [] ∨ sg.signer ∈ ks) ∧ e.head.contains sg.payload = true := by
  simp only [← verifySignature_ok_iff, Env.verify]
  cases e.sigs with
  | nil => simp
  | cons a l => split <;> simp_all

theorem cliSigs_ok_iff (h : Header) (k : Key) : ∀ (ss : List (Option Sig)),
    cliSigs h k ss = .ok ↔ ∀ s ∈ ss, ∃ sg, s = some sg ∧ sg.signer = k ∧ h.contains sg.payload = true
  | [] => by simp [cliSigs]
  | none :: rest => by simp [cliSigs]
  | some sg :: rest => by
    simp only [cliSigs, jwsValid]
    by_cases hk : sg.signer = k
    · by_cases hc : h.contains sg.payload = true
      · simp [hk, hc, cliSigs_ok_iff h k rest]
      · simp [hk, hc]
    · simp [hk]

theorem Env.cliVerify_ok_iff (H : Nat → String) (e : Env) (key : Option Key) :
    Env.cliVerify H e key = .ok ↔ Env.validate H e = .ok ∧ ∃ k, key = some k ∧ e.verify [k] = .ok := by
  unfold Env.cliVerify
  cases hv : Env.validate H e <;> simp only [reduceCtorEq, false_and, true_and]
  cases key with
  | none => simp
  | some k =>
    simp only [Option.some.injEq, exists_eq_left', Env.verify_ok_iff]
    cases hs : e.sigs <;> simp [cliSigs_ok_iff]

theorem Env.sign_ok (H : Nat → String) (e e' : Env) (k : Key) (h : Env.sign H e k = (e', .ok)) :
    e' = { e with sigs := e.sigs ++ [some ⟨k, e.head⟩] } ∧ Env.validate H e' = .ok := by
  simp only [Env.sign] at h
  split at h
  · rename_i hv
    simp only [Prod.mk.injEq, and_true] at h
    exact h ▸ ⟨rfl, hv⟩
  · rename_i hno
    exact absurd (Prod.mk.inj h).2 hno

end GoblVerif
