/-
  The exact layer of the calculation in rational arithmetic.

  Where it rounds: every rounding primitive is one `rnd e q` (Proofs/Num.lean), the exact rational result rounded
  half away from zero at `e` decimals (`pctOf_rnd`, `remove_rnd`).  Where it does not: scaling up and
  accumulating never round, and `Add`, `Subtract` and the accumulations of `calculate` are exact, for any rounding
  rule, as long as what they take in is not finer than the running figure.  So a row re-adds
  (`adjustments_exact`), the document sums are the sums of their rows (`pre_exact`), and the final assembly is
  exact (`rawTotals_exact`), each under the hypotheses "not finer than".  C03 discharges them from the currency rule
  (every figure at the currency's exponent); the error bound of C01 uses the primitives and sums of this file, not the chain.
-/
import GoblVerif.Spec.C03
import GoblVerif.Proofs.CalcBasics
import Mathlib.Tactic.FieldSimp

namespace GoblVerif
open GoblVerif.Spec

namespace Calc

theorem factor_toRat (p : Pct) : (factor p).toRat = 1 + p.amount.toRat := by
  rw [factor, toRat_add, toRat_pow10, add_comm]

theorem pctOf_rnd (p : Pct) (a : Amount) : pctOf exactOps p a = rnd a.exp (a.toRat * p.amount.toRat) := mulX_rnd a p.amount

theorem remove_rnd (t : Amount) (p : Pct) : remove exactOps t p = rnd t.exp (t.toRat / (1 + p.amount.toRat)) := by
  rw [← factor_toRat]; exact divX_rnd t (factor p)

theorem up_toRat (a : Amount) (e : ℕ) : (up a e).toRat = a.toRat := by
  unfold up
  split
  · rename_i h
    obtain ⟨k, rfl⟩ := Nat.exists_eq_add_of_lt h
    rw [show a.exp + k + 1 - a.exp = k + 1 by omega, Nat.add_assoc]
    exact toRat_scale _ _ _
  · rfl

/-- adding an amount of no greater precision is exact -/
theorem add_toRat (a b : Amount) (h : b.exp ≤ a.exp) : (add exactOps a b).toRat = a.toRat + b.toRat :=
  addX_toRat a b h

theorem sub_toRat (a b : Amount) (h : b.exp ≤ a.exp) : (sub exactOps a b).toRat = a.toRat - b.toRat :=
  subX_toRat a b h

theorem accum_toRat (acc x : Amount) : (accum exactOps acc x).toRat = acc.toRat + x.toRat := by
  unfold accum
  rw [add_toRat _ _ (by rw [up_exp]; omega), up_toRat]

theorem accum_exp (acc x : Amount) : (accum exactOps acc x).exp = max acc.exp x.exp := by
  unfold accum; rw [add_exp, up_exp]

theorem amount_eq_of_toRat (a b : Amount) (he : a.exp = b.exp) (hq : a.toRat = b.toRat) : a = b := by
  cases a with | mk av ae => cases b with | mk bv be =>
  simp only at he
  subst he
  unfold Amount.toRat at hq
  simp only at hq
  have hp := p10q_ne ae
  have : (av : ℚ) = (bv : ℚ) := by
    field_simp at hq
    exact hq
  congr 1
  exact_mod_cast this

theorem toRat_at (a : Amount) (c : ℕ) (h : a.exp = c) : a.toRat = (a.value : ℚ) / ((pow10 c : ℤ) : ℚ) := by
  rw [← h]; rfl

theorem sum_toRat_at (c : ℕ) (xs : List Amount) (h : ∀ x ∈ xs, x.exp = c) :
    (xs.map Amount.toRat).sum = (((xs.map (·.value)).sum : ℤ) : ℚ) / ((pow10 c : ℤ) : ℚ) := by
  induction xs with
  | nil => simp
  | cons x xs ih =>
    simp only [List.map_cons, List.sum_cons]
    rw [ih (fun y hy => h y (by simp [hy])), toRat_at x c (h x (by simp))]
    push_cast
    ring

theorem toRat_of_value_zero (a : Amount) (h : a.value = 0) : a.toRat = 0 := by
  unfold Amount.toRat; rw [h]; simp

theorem value_zero_of_toRat {a : Amount} (h : a.toRat = 0) : a.value = 0 := by
  rw [toRat_at a _ rfl] at h
  exact_mod_cast (div_eq_zero_iff.mp h).resolve_right (p10q_ne _)

theorem rescale_toRat_zero (a : Amount) (c : ℕ) (h : a.value = 0) : (exactOps.rescale a c).toRat = 0 := by
  apply toRat_of_value_zero
  rw [exact_rescale, rescaleX_value, toRat_of_value_zero a h]
  unfold roundTo
  rw [zero_mul]
  exact roundHalfAway_int 0

theorem sum_map_getD {α β M : Type} [AddMonoid M] (f : α → Option β) (g : β → M) (l : List α) :
    (l.map fun x => ((f x).map g).getD 0).sum = ((l.filterMap f).map g).sum := by
  induction l with
  | nil => rfl
  | cons x l ih => rw [List.map_cons, List.sum_cons, ih, List.filterMap_cons]; cases f x <;> simp

theorem Err.sum_filter_ite {α : Type} (xs : List α) (p : α → Bool) (f : α → ℚ) :
    ((xs.filter p).map f).sum = (xs.map (fun x => if p x then f x else 0)).sum := by
  induction xs with
  | nil => simp
  | cons x xs ih =>
    simp only [List.filter_cons, List.map_cons, List.sum_cons]
    split <;> simp [ih]

/-- the exactness statements about accumulations are this, with `m := Amount.toRat` and `I` a condition on the exponent -/
theorem foldl_sum {α β : Type} (step : β → α → β) (m : β → ℚ) (w : α → ℚ) (I : β → Prop) (l : List α)
    (h : ∀ b, ∀ a ∈ l, I b → m (step b a) = m b + w a ∧ I (step b a)) (b : β) (hb : I b) :
    m (l.foldl step b) = m b + (l.map w).sum ∧ I (l.foldl step b) := by
  induction l generalizing b with
  | nil => simpa using hb
  | cons a l ih =>
    obtain ⟨h1, h2⟩ := h b a (by simp) hb
    obtain ⟨i1, i2⟩ := ih (fun b x hx => h b x (by simp [hx])) _ h2
    exact ⟨by rw [List.foldl_cons, i1, h1, List.map_cons, List.sum_cons, add_assoc], i2⟩

theorem foldl_accum_toRat (xs : List Amount) (z : Amount) :
    (xs.foldl (accum exactOps) z).toRat = z.toRat + (xs.map Amount.toRat).sum :=
  (foldl_sum _ Amount.toRat Amount.toRat (fun _ => True) xs (fun a x _ _ => ⟨accum_toRat a x, trivial⟩) z trivial).1

/-! ### the exponent of an accumulation

It ends at the finest precision it has met: that of the start value and of every element. -/

theorem foldl_max_le {xs : List Amount} {e n : ℕ} (he : e ≤ n) (hx : ∀ x ∈ xs, x.exp ≤ n) :
    xs.foldl (fun e x => max e x.exp) e ≤ n := by
  induction xs generalizing e with
  | nil => exact he
  | cons x xs ih =>
    exact ih (Nat.max_le.mpr ⟨he, hx x (by simp)⟩) (fun y hy => hx y (by simp [hy]))

theorem le_foldl_max (xs : List Amount) (e : ℕ) :
    e ≤ xs.foldl (fun e x => max e x.exp) e ∧ ∀ x ∈ xs, x.exp ≤ xs.foldl (fun e x => max e x.exp) e := by
  induction xs generalizing e with
  | nil => simp
  | cons x xs ih =>
    obtain ⟨h1, h2⟩ := ih (max e x.exp)
    refine ⟨by rw [List.foldl_cons]; omega, fun y hy => ?_⟩
    rw [List.foldl_cons]
    rcases List.mem_cons.mp hy with rfl | hy
    · omega
    · exact h2 y hy

theorem foldl_accum_exp (xs : List Amount) (z : Amount) :
    (xs.foldl (accum exactOps) z).exp = xs.foldl (fun e x => max e x.exp) z.exp := by
  induction xs generalizing z with
  | nil => rfl
  | cons x xs ih => rw [List.foldl_cons, ih, accum_exp, List.foldl_cons]

theorem foldl_accum_exp_ge (xs : List Amount) (z : Amount) : z.exp ≤ (xs.foldl (accum exactOps) z).exp := by
  rw [foldl_accum_exp]; exact (le_foldl_max xs z.exp).1

theorem foldl_accum_at (c : ℕ) (xs : List Amount) (z : Amount) (hz : z.exp = c) (hx : ∀ x ∈ xs, x.exp = c) :
    (xs.foldl (accum exactOps) z).exp = c := by
  rw [foldl_accum_exp]
  exact Nat.le_antisymm (foldl_max_le hz.le fun x h => (hx x h).le) (hz ▸ (le_foldl_max xs z.exp).1)

theorem lineSum_exp_ge_total {c : ℕ} {ls : List Line} {l : Line} {t : Amount} (hl : l ∈ ls) (ht : l.total = some t) :
    t.exp ≤ (lineSum exactOps c ls).exp := by
  unfold lineSum
  rw [foldl_accum_exp]
  exact (le_foldl_max _ _).2 t (List.mem_filterMap.mpr ⟨l, hl, ht⟩)

theorem lineSum_exp_ge (c : ℕ) (ls : List Line) : c ≤ (lineSum exactOps c ls).exp :=
  foldl_accum_exp_ge _ ⟨0, c⟩

open GoblVerif.Spec.C03 (q0 qsum)

theorem foldl_sub_toRat (xs : List Amount) (z : Amount) (h : ∀ x ∈ xs, x.exp ≤ z.exp) :
    (xs.foldl (sub exactOps) z).toRat = z.toRat - qsum xs ∧ (xs.foldl (sub exactOps) z).exp = z.exp := by
  obtain ⟨h1, h2⟩ := foldl_sum (sub exactOps) Amount.toRat (fun a => -a.toRat) (fun b => b.exp = z.exp) xs
    (fun b a ha hb => ⟨by rw [sub_toRat _ _ (hb ▸ h a ha)]; ring, hb⟩) z rfl
  exact ⟨h1.trans (by simp [qsum, sub_eq_add_neg, List.sum_neg, Function.comp_def]), h2⟩

theorem foldl_add_toRat (xs : List Amount) (z : Amount) (h : ∀ x ∈ xs, x.exp ≤ z.exp) :
    (xs.foldl (add exactOps) z).toRat = z.toRat + qsum xs ∧ (xs.foldl (add exactOps) z).exp = z.exp :=
  foldl_sum (add exactOps) Amount.toRat Amount.toRat (fun b => b.exp = z.exp) xs
    (fun _ a ha hb => ⟨add_toRat _ _ (hb ▸ h a ha), hb⟩) z rfl

theorem sub_opt_toRat (a : Amount) (o : Option Amount) (h : ∀ x, o = some x → x.exp ≤ a.exp) :
    (match o with | some x => sub exactOps a x | none => a).toRat = a.toRat - q0 o ∧
    (match o with | some x => sub exactOps a x | none => a).exp = a.exp := by
  cases o with
  | none => simp [q0]
  | some x => exact ⟨sub_toRat a x (h x rfl), rfl⟩

theorem add_opt_toRat (a : Amount) (o : Option Amount) (h : ∀ x, o = some x → x.exp ≤ a.exp) :
    (match o with | some x => add exactOps a x | none => a).toRat = a.toRat + q0 o ∧
    (match o with | some x => add exactOps a x | none => a).exp = a.exp := by
  cases o with
  | none => simp [q0]
  | some x => exact ⟨add_toRat a x (h x rfl), rfl⟩

theorem total2Of_toRat (sum : Amount) (dsum csum : Option Amount) (hd : ∀ x, dsum = some x → x.exp ≤ sum.exp)
    (hc : ∀ x, csum = some x → x.exp ≤ sum.exp) :
    (total2Of exactOps sum dsum csum).toRat = sum.toRat - q0 dsum + q0 csum := by
  obtain ⟨h1, h2⟩ := sub_opt_toRat sum dsum hd
  exact ((add_opt_toRat _ csum fun x hx => (hc x hx).trans h2.ge).1).trans (by rw [h1])

theorem eq_mk_sum {a : Amount} {c : ℕ} {xs : List Amount} (he : a.exp = c) (hx : ∀ x ∈ xs, x.exp = c)
    (hq : a.toRat = qsum xs) : a = ⟨(xs.map (·.value)).sum, c⟩ :=
  amount_eq_of_toRat _ ⟨_, c⟩ he (hq.trans (sum_toRat_at c xs hx))

/-! ### rows: lines and breakdown rows, any rule -/

theorem adjustments_exact (r : Rule) (c : ℕ) (qty price : Amount) (ds cs : List LineAdj) :
    let f := figures exactOps c r qty price ds cs
    (∀ d ∈ f.discounts, d.amount.exp ≤ f.sum.exp) → (∀ d ∈ f.charges, d.amount.exp ≤ f.sum.exp) →
    f.total.toRat = f.sum.toRat - qsum (f.discounts.map (·.amount)) + qsum (f.charges.map (·.amount)) := by
  simp only [figures_eq]
  intro hd hc
  set s := applyRule exactOps r c (exactOps.mul price qty)
  obtain ⟨d1, d2⟩ := foldl_sub_toRat ((ds.map (discountRow exactOps r c s)).map (·.amount)) s (by simpa using hd)
  obtain ⟨c1, -⟩ := foldl_add_toRat ((cs.map (chargeRow exactOps r c qty s)).map (·.amount))
    (((ds.map (discountRow exactOps r c s)).map (·.amount)).foldl (sub exactOps) s) (by rw [d2]; simpa using hc)
  rw [c1, d1]

/-! ### sums of rows: never round -/

theorem lineSum_toRat (c : ℕ) (ls : List Line) :
    (lineSum exactOps c ls).toRat = qsum (ls.filterMap (·.total)) := by
  unfold lineSum; rw [foldl_accum_toRat, toRat_zero, zero_add]; rfl

theorem optSum_toRat (c : ℕ) (xs : List Amount) : q0 (optSum exactOps c xs) = qsum xs := by
  cases xs with
  | nil => simp [optSum, q0, qsum]
  | cons x xs => simp [optSum, q0, qsum, foldl_accum_toRat, accum_toRat, toRat_zero]

theorem adjSum_toRat (c : ℕ) (ds : List DocAdj) : q0 (adjSum exactOps c ds) = qsum (ds.map (·.amount)) := by
  rw [adjSum_eq]; exact optSum_toRat c _

theorem advanceTotal_toRat (c : ℕ) (as : List Advance) : q0 (advanceTotal exactOps c as) = qsum (as.map (·.amount)) := by
  rw [advanceTotal_eq]; exact optSum_toRat c _

theorem adjSum_spec (c : ℕ) (ds : List DocAdj) :
    q0 (adjSum exactOps c ds) = qsum (ds.map (·.amount)) ∧ (adjSum exactOps c ds = none → ds = []) := by
  rw [adjSum_eq]
  exact ⟨optSum_toRat c _, fun h => List.map_eq_nil_iff.mp (optSum_eq_none.mp h)⟩

theorem advanceTotal_spec (c : ℕ) (as : List Advance) :
    q0 (advanceTotal exactOps c as) = qsum (as.map (·.amount)) ∧ (advanceTotal exactOps c as = none → as = []) := by
  rw [advanceTotal_eq]
  exact ⟨optSum_toRat c _, fun h => List.map_eq_nil_iff.mp (optSum_eq_none.mp h)⟩

/-! ### the document chain -/

theorem pre_exact (d : Doc) (p : Pre) (h : pre exactOps d = .ok p) :
    p.sum.toRat = qsum (p.lines.filterMap (·.total)) ∧
    (q0 p.dsum = qsum (p.discounts.map (·.amount)) ∧ (p.dsum = none → p.discounts = [])) ∧
    (q0 p.csum = qsum (p.charges.map (·.amount)) ∧ (p.csum = none → p.charges = [])) ∧
    ((∀ x, p.dsum = some x → x.exp ≤ p.sum.exp) → (∀ x, p.csum = some x → x.exp ≤ p.sum.exp) →
      p.total2.toRat = p.sum.toRat - q0 p.dsum + q0 p.csum) := by
  obtain ⟨lines, -, rfl⟩ := pre_ok_iff.mp h
  exact ⟨lineSum_toRat _ _, adjSum_spec d.c _, adjSum_spec d.c _, total2Of_toRat _ _ _⟩

/-- taking a figure out of a total and putting one of the same value back cancels, whatever the precisions: both are
rounded to the total's precision in the same way -/
theorem add_sub_cancel_toRat (a x y : Amount) (h : x.toRat = y.toRat) : add exactOps (sub exactOps a x) y = a := by
  unfold add sub
  simp only [exact_rescale, rescaleX_value, h]
  cases a
  simp

theorem rawTotals_totalWithTax_included {d : Doc} {p : Pre} {tx : TaxTotal} {ti : Amount}
    (hti : taxIncluded d.includes tx = some ti) :
    (rawTotals exactOps d p tx).totalWithTax = add exactOps (sub exactOps p.total2 ti) tx.precise := by
  simp only [rawTotals, hti]

theorem rawTotals_exact (d : Doc) (p : Pre) (tx : TaxTotal)
    (hti : ∀ x, taxIncluded d.includes tx = some x → x.exp ≤ p.total2.exp) (htax : tx.precise.exp ≤ p.total2.exp)
    (hrnd : ∀ x, d.rounding = some x → x.exp ≤ p.total2.exp) :
    let t := rawTotals exactOps d p tx
    t.total.toRat = p.total2.toRat - q0 t.taxIncluded ∧ t.totalWithTax.toRat = t.total.toRat + t.tax.toRat ∧
    t.payable.toRat = t.totalWithTax.toRat + q0 t.rounding ∧
    ∀ x, t.due = some x → (∀ a, t.advances = some a → a.exp ≤ p.total2.exp) →
      x.toRat = t.payable.toRat - q0 t.advances := by
  intro t
  obtain ⟨e1, e2, e3, -⟩ := rawTotals_exps exactOps d p tx
  refine ⟨(sub_opt_toRat p.total2 _ hti).1, add_toRat t.total tx.precise (e1 ▸ htax),
    (add_opt_toRat t.totalWithTax _ fun x hx => e2 ▸ hrnd x hx).1, fun x hx hadv => ?_⟩
  obtain ⟨a, ha, rfl⟩ := Option.map_eq_some_iff.mp (show t.advances.map _ = some x from hx)
  rw [ha, sub_toRat _ _ (e3 ▸ hadv a ha)]; rfl

end Calc
end GoblVerif
