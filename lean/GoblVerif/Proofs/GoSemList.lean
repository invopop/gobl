/-
  GoSemList (proofs): reasoning principles for the loops over LISTS that the
  go2lean translator emits (`for _, x := range xs { … }` with `return`,
  `break`, `continue` inside).  Nothing here is about a particular package.
  Companion of Proofs/GoSem.lean (condition-controlled loops).

  A `for x in l` loop with a pure body is, in every lawful monad (`Id`, `Except ε`),
  the structural recursion `forList` over the list, whose step is the body read as a
  plain function (`done` = break / return, `yield` = next element / continue).  After
  `simp only [forIn_list_id, pure_bind]` and `simp only [Id.run, id_pure]` a
  translated function contains no monadic code any more.  What `forList` computes
  is said by the shape of the body: NO EXIT is a left fold; FIRST HIT (the exit decided by
  the element, the state handed on unchanged until then) is `find?`; a FOUND POINTER (a first
  hit that hands on the element and its index, followed by "append or update in place") is
  `updFirst` of Proofs/Upsert.lean; everything else goes by an invariant.  A shape comes
  literally, as a rewriting rule for a body that is written so, or with the body a VARIABLE
  and an equation about it, for a body that has to be read first.
  Loops that write through their range variable: Proofs/GoSemCursor.lean.
-/
import GoblVerif.Proofs.GoSem
import GoblVerif.Proofs.Upsert

namespace GoblVerif.GoSem

/-- a loop over a list: `done` ends it (break / return), `yield` goes on -/
def forList {α β : Type} (f : α → β → ForInStep β) : List α → β → β
  | [], b => b
  | x :: xs, b => match f x b with
    | .done b' => b'
    | .yield b' => forList f xs b'

theorem forIn_pure {m : Type → Type} [Monad m] [LawfulMonad m] {α β : Type} (l : List α) (init : β)
    (f : α → β → m (ForInStep β)) (g : α → β → ForInStep β) (h : ∀ x s, f x s = pure (g x s)) :
    forIn l init f = pure (forList g l init) := by
  induction l generalizing init with
  | nil => rfl
  | cons a l ih =>
    rw [List.forIn_cons, h, pure_bind, forList]
    cases g a init with
    | done b => rfl
    | yield b => exact ih b

theorem forIn_list_id {α β : Type} (l : List α) (init : β) (f : α → β → Id (ForInStep β)) :
    forIn (m := Id) l init f = pure (forList (fun x s => (f x s).run) l init) :=
  forIn_pure l init f _ fun _ _ => rfl

/-- what the join point after an `if` without `else` becomes once it is inlined -/
theorem ite_bind_forIn {α β γ : Type} (c : Prop) [Decidable c] (l : List α) (s1 s2 : β)
    (B : α → β → Id (ForInStep β)) (k : β → Id γ) :
    (if c then forIn l s1 B >>= k else forIn l s2 B >>= k) = forIn l (if c then s1 else s2) B >>= k := by
  split <;> rfl

/-- in `Id`, bind is application -/
theorem id_bind {α β : Type} (x : Id α) (f : α → Id β) : (x >>= f) = f x.run := rfl

/-- `for x in l { if p x { s = r x; break } }`; the equation is needed at the initial state only: no other state
    is ever reached -/
theorem forList_first {α β : Type} (p : α → Prop) [DecidablePred p] (r : α → β) (body : α → β → ForInStep β) (s : β)
    (h : ∀ x, body x s = if p x then .done (r x) else .yield s) (l : List α) :
    forList body l s = ((l.find? fun x => decide (p x)).map r).getD s := by
  induction l with
  | nil => rfl
  | cons a l ih =>
    rw [forList, h, List.find?_cons]
    by_cases ha : p a
    · simp [ha]
    · simpa [ha] using ih

/-- the same with the early-return slot that `return` inside a loop makes of the state -/
theorem forList_return {α ρ : Type} (p : α → Prop) [DecidablePred p] (r : α → ρ)
    (body : α → Option ρ × Unit → ForInStep (Option ρ × Unit))
    (h : ∀ x, body x (none, ()) = if p x then .done (some (r x), ()) else .yield (none, ())) (l : List α) :
    forList body l (none, ()) = ((l.find? fun x => decide (p x)).map r, ()) := by
  rw [forList_first p (fun x => (some (r x), ())) body _ h]
  cases l.find? fun x => decide (p x) <;> rfl

/-- `for x in l { if p x { return e } }` -/
theorem forList_any {α ρ : Type} (p : α → Prop) [DecidablePred p] (r : ρ) (l : List α) :
    forList (fun x (_ : Option ρ × Unit) =>
        if p x then ForInStep.done (some r, ()) else ForInStep.yield (none, ())) l (none, ())
      = (if l.any (fun x => decide (p x)) then some r else none, ()) := by
  rw [forList_return p (fun _ => r) _ (fun _ => rfl), ← List.isSome_find?]
  cases l.find? fun x => decide (p x) <;> rfl

/-- `for x in l { if !q x { return e } }` -/
theorem forList_all {α ρ : Type} (q : α → Bool) (e : ρ) (body : α → Option ρ × Unit → ForInStep (Option ρ × Unit))
    (h : ∀ x, body x (none, ()) = if q x = true then .yield (none, ()) else .done (some e, ())) (l : List α) :
    forList body l (none, ()) = (if l.all q = true then none else some e, ()) := by
  rw [forList_return (fun x => ¬ q x = true) (fun _ => e) body (fun x => by rw [h]; cases q x <;> rfl),
    List.all_eq_not_any_not, ← List.isSome_find?]
  simp only [Bool.decide_eq_true, decide_not]
  cases l.find? (fun x => !q x) <;> rfl

/-- the flag loop `for x in l { if p x { m = true; break } }` on the flag `m` -/
theorem forList_flag {α : Type} (p : α → Prop) [DecidablePred p] (l : List α) (b : Bool) :
    forList (fun x (s : Bool) => if p x then ForInStep.done true else ForInStep.yield s) l b
      = (b || l.any (fun x => decide (p x))) := by
  rw [forList_first p (fun _ => true) _ _ (fun _ => rfl), ← List.isSome_find?]
  cases l.find? fun x => decide (p x) <;> simp

/-- `for _, c := range l { if bad(c) { return r } }` with its early-return slot -/
theorem forIn_all_guard {α ρ : Type} (l : List α) (p : α → Prop) [DecidablePred p] (r : ρ) :
    (forIn (m := Id) l ((none, ()) : Option ρ × Unit) fun a _ =>
        if p a then pure (ForInStep.done (some r, ())) else pure (ForInStep.yield (none, ())))
      = pure (if l.all (fun a => !decide (p a)) then (none, ()) else (some r, ())) := by
  rw [forIn_pure _ _ _ (fun a _ => if p a then .done (some r, ()) else .yield (none, ()))
    (fun a s => by split <;> rfl), forList_any]
  cases h : l.any (fun a => decide (p a)) <;> simp [List.all_eq_not_any_not, h]

/-- a loop that only updates its state is a left fold -/
theorem forList_fold {α β : Type} (g : β → α → β) (l : List α) (init : β) :
    forList (fun x s => ForInStep.yield (g s x)) l init = l.foldl g init := by
  induction l generalizing init with
  | nil => rfl
  | cons a l ih => simp only [forList, List.foldl_cons, ih]

theorem forList_eq_foldl {α β : Type} (f : α → β → ForInStep β) (g : β → α → β)
    (h : ∀ x s, f x s = ForInStep.yield (g s x)) (l : List α) (init : β) :
    forList f l init = l.foldl g init := by
  have : f = fun x s => ForInStep.yield (g s x) := by funext x s; exact h x s
  rw [this, forList_fold]

/-- NO EXIT, for a loop that has not been normalised and whose state holds the accumulator in some form: `mk` places
    the accumulator in the loop state (beside an empty `return` slot, under the cast from ℕ to ℤ); `b` is the state at
    the start (given apart so that literals need not be casts); the body equation is asked for the elements of `l` only. -/
theorem forIn_eq_foldl {α β σ : Type} (mk : σ → β) (f : σ → α → σ) (l : List α)
    (body : α → β → Id (ForInStep β))
    (h : ∀ x ∈ l, ∀ a, body x (mk a) = pure (.yield (mk (f a x)))) (a : σ) (b : β) (hb : b = mk a) :
    forIn l b body = pure (mk (l.foldl f a)) := by
  subst hb
  induction l generalizing a with
  | nil => rfl
  | cons x xs ih =>
    rw [List.forIn_cons, h x (List.mem_cons_self ..), List.foldl_cons]
    exact ih (fun y hy => h y (List.mem_cons_of_mem _ hy)) _

theorem forIn_foldl {α β : Type} (l : List α) (init : β) (f : α → β → Id (ForInStep β)) (g : β → α → β)
    (h : ∀ x s, f x s = pure (.yield (g s x))) : forIn l init f = pure (l.foldl g init) :=
  forIn_eq_foldl id g l f (fun x _ s => h x s) init init rfl

theorem foldl_pair {α β X : Type} (H : α × β → X → α × β) (A : α → X → α) (B : β → X → β)
    (h : ∀ s x, H s x = (A s.1 x, B s.2 x)) (l : List X) (a : α) (b : β) :
    l.foldl H (a, b) = (l.foldl A a, l.foldl B b) := by
  induction l generalizing a b with
  | nil => rfl
  | cons x l ih => simp only [List.foldl_cons, h, ih]

theorem forIn_list_inv {α β : Type} (l : List α) (f : α → β → Id (ForInStep β)) (P : β → Prop)
    (hstep : ∀ a b, P b → P (f a b).run.value) :
    ∀ b, P b → P (forIn (m := Id) l b f).run := by
  induction l with
  | nil => exact fun b hb => hb
  | cons a as ih =>
    intro b hb
    have hs := hstep a b hb
    rw [List.forIn_cons]
    cases h : (f a b).run with
    | done b' => rw [show f a b = pure (ForInStep.done b') from h]; rwa [h] at hs
    | yield b' => rw [show f a b = pure (ForInStep.yield b') from h]; rw [h] at hs; exact ih b' hs

theorem foldl_snoc_map {α β : Type} (f : α → β) (l : List α) (acc : List β) :
    l.foldl (fun s x => s ++ [f x]) acc = acc ++ l.map f := by
  induction l generalizing acc with
  | nil => simp
  | cons a l ih => simp [ih]

/-- an effect loop (`acc = append(acc, f(x))` for every element): the list is mapped -/
theorem forList_append {α β : Type} (f : α → β) (l : List α) (acc : List β) :
    forList (fun x s => ForInStep.yield (s ++ [f x])) l acc = acc ++ l.map f := by
  rw [forList_fold (fun s x => s ++ [f x]), foldl_snoc_map]

theorem forList_map {α β : Type} (body : α → List β → ForInStep (List β)) (f : α → β)
    (hb : ∀ x s, body x s = .yield (s ++ [f x])) (l : List α) (acc : List β) :
    forList body l acc = acc ++ l.map f := by
  have : body = fun x s => ForInStep.yield (s ++ [f x]) := by funext x s; exact hb x s
  rw [this, forList_append]

/-- an effect loop that threads a state `σ` (state first, rebuilt list second) which the rows do not read -/
theorem forList_effect {α β σ : Type} (body : α → σ × List β → ForInStep (σ × List β))
    (g : σ → α → σ) (f : α → β)
    (hb : ∀ x s, body x s = .yield (g s.1 x, s.2 ++ [f x])) (l : List α) (s : σ) (acc : List β) :
    forList body l (s, acc) = (l.foldl g s, acc ++ l.map f) := by
  induction l generalizing s acc with
  | nil => simp [forList]
  | cons a l ih => simp only [forList, hb, ih, List.foldl_cons, List.map_cons, List.append_assoc, List.singleton_append]

theorem all_zipIdx {α : Type} (q : α → Bool) (l : List α) (n : Nat) : (l.zipIdx n).all (fun x => q x.1) = l.all q := by
  conv => rhs; rw [← List.zipIdx_map_fst n l, List.all_map]
  rfl

/-- "some element fails `q`" is "not all satisfy `q`" (`q'` = `q` in the model's spelling) -/
theorem any_not_eq_not_all {α : Type} (l : List α) (q q' : α → Bool) (hq : ∀ x, q x = q' x) :
    (l.any fun x => decide ¬ (q x = true)) = !(l.all q') := by
  induction l with
  | nil => rfl
  | cons a l ih =>
    simp only [List.any_cons, List.all_cons, ih]
    rw [hq]
    cases q' a <;> simp

/-- `for x in l { if err := check(x); err != nil { errs[key] = err } }`, observed through `len(errs) > 0` -/
theorem errLoop {α β : Type} (body : α → List β → ForInStep (List β)) (ok : α → Bool)
    (h : ∀ x s, match body x s with
      | .yield s' => (if ok x = true then s' = s else s'.length > 0)
      | .done _ => False)
    (l : List α) (s : List β) :
    ((forList body l s).length > 0) ↔ (s.length > 0 ∨ l.all ok = false) := by
  induction l generalizing s with
  | nil => simp [forList]
  | cons a l ih =>
    have ha := h a s
    cases hb : body a s with
    | done s' => rw [hb] at ha; exact ha.elim
    | yield s' =>
      rw [hb] at ha
      simp only [forList, hb, ih s', List.all_cons]
      by_cases hok : ok a = true
      · simp only [hok, if_true] at ha
        subst ha
        simp [hok]
      · simp only [hok] at ha
        have hf : ok a = false := by simpa using hok
        simp [hf]
        left; exact ha

/-! ## found pointers

`for i, v := range l { if P(v) { q = v; q_at = i; break } }; if q == nil { l = append(l, d…) } else { *q = f(*q) }`: the
search loop splits the list at its first hit and hands on the hit with its index; what the code then does to the
list, whichever way it writes it, is `updFirst` (Proofs/Upsert.lean). -/

theorem find?_zipIdx {α : Type} (p : α → Bool) (l : List α) (k : Nat) :
    (l.zipIdx k).find? (fun x => p x.1) = (l.find? p).map fun m => (m, k + l.findIdx p) := by
  induction l generalizing k with
  | nil => rfl
  | cons a l ih =>
    rw [List.zipIdx_cons, List.find?_cons, List.find?_cons, List.findIdx_cons]
    cases p a
    · simp [ih, Nat.add_assoc, Nat.add_comm 1]
    · simp

theorem findIdx_found {α : Type} {p : α → Bool} {pre post : List α} {m : α} (h : ∀ x ∈ pre, ¬ p x = true) (hm : p m = true) :
    (pre ++ m :: post).findIdx p = pre.length := by
  rw [List.findIdx_append, if_neg (by rw [List.findIdx_eq_length.mpr (by simpa using h)]; omega),
    List.findIdx_cons, hm]; simp

/-- `p` is the condition `P` of the loop in the model's spelling -/
theorem forList_found {α : Type} (P : α → Prop) [DecidablePred P] (p : α → Bool) (hp : ∀ x, p x = true ↔ P x)
    (body : α × Nat → Option α × Option Nat → ForInStep (Option α × Option Nat))
    (hb : ∀ x, body x (none, none) = if P x.1 then .done (some x.1, some x.2) else .yield (none, none))
    (l : List α) (k : Nat) :
    forList body (l.zipIdx k) (none, none) = match l.find? p with
      | none => (none, none)
      | some m => (some m, some (k + l.findIdx p)) := by
  have hd : (fun x : α × Nat => decide (P x.1)) = fun x => p x.1 := by
    funext x; rw [Bool.eq_iff_iff, decide_eq_true_iff, hp]
  rw [forList_first (fun x : α × Nat => P x.1) (fun x => (some x.1, some x.2)) body _ hb, hd, find?_zipIdx]
  cases l.find? p <;> rfl

/-- for a loop that is rewritten where it stands (`Merge_eq` of Proofs/TaxTotalsSrc.lean says why) -/
theorem forIn_found {α : Type} (P : α → Prop) [DecidablePred P] (p : α → Bool) (hp : ∀ x, p x = true ↔ P x)
    (f : α × Nat → Option α × Option Nat → Id (ForInStep (Option α × Option Nat)))
    (hf : ∀ x s, f x s = if P x.1 then pure (.done (some x.1, some x.2)) else pure (.yield (s.1, s.2)))
    (l : List α) (k : Nat) :
    forIn (l.zipIdx k) (none, none) f = pure (match l.find? p with
      | none => (none, none)
      | some m => (some m, some (k + l.findIdx p))) := by
  rw [forIn_pure _ _ f (fun x s => if P x.1 then .done (some x.1, some x.2) else .yield (s.1, s.2))
    (fun x s => by rw [hf]; split <;> rfl), forList_found P p hp _ (fun _ => rfl)]

theorem find?_cases {α : Type} (p : α → Bool) (l : List α) :
    (l.find? p = none ∧ (∀ x ∈ l, ¬ p x = true) ∧ ∀ f d, updFirst p f d l = l ++ d) ∨
    (∃ pre m post, l = pre ++ m :: post ∧ (∀ x ∈ pre, ¬ p x = true) ∧ p m = true ∧ l.find? p = some m ∧
      l.findIdx p = pre.length ∧ ∀ f d, updFirst p f d l = pre ++ f m :: post) := by
  rcases first_hit p l with h | ⟨pre, m, post, rfl, h, hm⟩
  · exact .inl ⟨List.find?_eq_none.mpr h, h, fun _ _ => updFirst_none h⟩
  · exact .inr ⟨pre, m, post, rfl, h, hm, find?_found h hm, findIdx_found h hm, fun _ _ => updFirst_found h hm⟩

end GoblVerif.GoSem

namespace GoblVerif.Proofs.BillCalcSrc  -- the namespace of Proofs/BillCalcSrc.lean, whose statements are written with `mapE`

/-- `for x in l { y, err := step(x); if err != nil { return err }; … }` as a recursion -/
def mapE {ε α β : Type} (f : α → Except ε β) : List α → Except ε (List β)
  | [] => .ok []
  | x :: xs =>
    match f x with
    | .error e => .error e
    | .ok y =>
      match mapE f xs with
      | .error e => .error e
      | .ok ys => .ok (y :: ys)

/-- `for x in l { y, err := step(x); if err != nil { return err }; s = upd(s, y) }` -/
theorem forIn_except_foldl {ε α β τ : Type} (step : α → Except ε β) (upd : τ → β → τ)
    (body : α → τ → Except ε (ForInStep τ))
    (hb : ∀ x s, body x s = (step x).map fun y => .yield (upd s y)) (l : List α) (s : τ) :
    forIn l s body = (mapE step l).map fun ys => ys.foldl upd s := by
  induction l generalizing s with
  | nil => rfl
  | cons a l ih =>
    rw [List.forIn_cons, hb]
    simp only [mapE]
    cases step a with
    | error e => rfl
    | ok y =>
      simp only [Except.map, bind, Except.bind]
      rw [ih]
      cases mapE step l <;> rfl

/-- an effect loop of an error function that threads a state -/
theorem forIn_except_effect {ε α β σ : Type} (step : α → Except ε β) (g : σ → β → σ)
    (body : α → List β × σ → Except ε (ForInStep (List β × σ)))
    (hb : ∀ x s, body x s = match step x with
      | .error e => .error e
      | .ok y => .ok (.yield (s.1 ++ [y], g s.2 y)))
    (l : List α) (acc : List β) (s : σ) :
    forIn l (acc, s) body = match mapE step l with
      | .error e => .error e
      | .ok ys => .ok (acc ++ ys, ys.foldl g s) := by
  rw [forIn_except_foldl step (fun s y => (s.1 ++ [y], g s.2 y)) body (fun x s => by rw [hb]; cases step x <;> rfl)]
  cases mapE step l with
  | error e => rfl
  | ok ys =>
    simp only [Except.map]
    congr 1
    induction ys generalizing acc s with
    | nil => simp
    | cons y ys ih => simp [ih]

end GoblVerif.Proofs.BillCalcSrc

namespace GoblVerif.Proofs.TaxTotalsSrc
open GoblVerif.GoSem

/-- `for i, v := range l { if P v { p = v; p_at = i; break } }` from `p = nil` -/
theorem forList_search {α : Type} (P : α → Prop) [DecidablePred P] (l : List α) (k : Nat) :
    ((∀ x ∈ l, ¬ P x) ∧
      forList (fun (p : α × Nat) (s : Option α × Option Nat) =>
        if P p.1 then ForInStep.done (some p.1, some p.2) else ForInStep.yield (s.1, s.2)) (l.zipIdx k) (none, none)
        = (none, none)) ∨
    (∃ pre m post, l = pre ++ m :: post ∧ (∀ x ∈ pre, ¬ P x) ∧ P m ∧
      forList (fun (p : α × Nat) (s : Option α × Option Nat) =>
        if P p.1 then ForInStep.done (some p.1, some p.2) else ForInStep.yield (s.1, s.2)) (l.zipIdx k) (none, none)
        = (some m, some (k + pre.length))) := by
  rw [forList_found P (fun x => decide (P x)) (fun _ => decide_eq_true_iff) _ (fun _ => rfl)]
  rcases find?_cases (fun x => decide (P x)) l with ⟨hf, hno, -⟩ | ⟨pre, m, post, rfl, hpre, hm, hf, hi, -⟩
  · exact .inl ⟨by simpa using hno, by rw [hf]⟩
  · exact .inr ⟨pre, m, post, rfl, by simpa using hpre, by simpa using hm, by rw [hf, hi]⟩

end GoblVerif.Proofs.TaxTotalsSrc
