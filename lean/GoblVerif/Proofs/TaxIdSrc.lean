/-
  TaxIdSrc (proofs): what the tie of Props/C13.lean (namespace `Src`: regenerated Go checker = model) needs and
  several checkers share.  What the string primitives of Model/GoStr.lean do on the inputs the checkers give them, in
  the vocabulary of Model/TaxId.lean (`atoi` on gated strings is the model's `atoi?`; facts about the primitives alone
  are in Proofs/GoStr.lean).  Loop shapes, stated with the body as the translator prints it and the string a variable, on
  the loop principles of Proofs/GoSem.lean and GoSemList.lean: `bind_all_guard`, `forIn_parse_digits`,
  `forIn_wsum` and `forFuel_sub97` (these two for GB alone; the Go loops of the untied AT and CH are the same).  The recursions of the models
  as the folds in which translated loops arrive.  What `Re.reMatch` finds for each pattern text.  No generated definition
  is named here: every theorem that names one, and every other loop that one checker alone has, is in Props/C13.lean.
-/
import GoblVerif.Model.GoStr
import GoblVerif.Model.TaxIdRe
import GoblVerif.Proofs.GoSemCursor
import GoblVerif.Proofs.GoMap
import GoblVerif.Proofs.GoStr
import GoblVerif.Proofs.TaxId

namespace GoblVerif.TaxIdSrc
open GoblVerif.GoStr hiding Str isDig
open GoblVerif.TaxId GoblVerif.GoSem

theorem isDigitRune_runeOf (c : Char) : isDigitRune (runeOf c) = TaxId.isDig c := by
  simp only [isDigitRune, runeOf, TaxId.isDig]
  congr 1
  apply propext; omega

/-- the digit test of PT, IT, CO: `x := v - 48; x < 0 || x > 9` -/
theorem rune_guard (c : Char) : (runeOf c - 48 < 0 ∨ runeOf c - 48 > 9) ↔ ¬ (TaxId.isDig c = true) := by
  simp only [runeOf, TaxId.isDig, decide_eq_true_eq]
  omega

/-- the digit test of NL and IN: `char >= '0' && char <= '9'` -/
theorem rune_digit_cond (c : Char) : (runeOf c ≥ 48 ∧ runeOf c ≤ 57) ↔ TaxId.isDig c = true := by
  simp only [runeOf, TaxId.isDig, decide_eq_true_eq]
  omega

theorem ofRune_runeOf (c : Char) : ofRune (runeOf c) = [c] := by
  simp [ofRune, runeOf, Char.ofNat_toNat]

theorem ofByte_toNat (c : Char) : ofByte c.toNat = [c] := by
  simp [ofByte, Char.ofNat_toNat]

/-- `int(c - '0')` on a digit: the byte subtraction does not wrap -/
theorem byte_sub_digit (c : Char) : ((c.toNat - 48 : Nat) : Int) = (dval c : Int) := rfl

theorem runeOf_sub_digit {c : Char} (h : TaxId.isDig c = true) : runeOf c - 48 = (dval c : Int) := by
  have := isDig_bounds h
  simp only [runeOf, dval]; omega

/-- `if char >= '0' && char <= '9' { … char - '0' … } else { … }` on a gated character (NL, IN) -/
theorem rune_digit_or_letter {c : Char} (h : isAZ09 c = true) :
    (TaxId.isDig c = true ∧ (runeOf c ≥ 48 ∧ runeOf c ≤ 57) ∧ runeOf c - 48 = (dval c : Int)) ∨
    (¬ TaxId.isDig c = true ∧ ¬ (runeOf c ≥ 48 ∧ runeOf c ≤ 57) ∧ 65 ≤ c.toNat) := by
  by_cases hd : TaxId.isDig c = true
  · exact .inl ⟨hd, (rune_digit_cond c).mpr hd, runeOf_sub_digit hd⟩
  · exact .inr ⟨hd, mt (rune_digit_cond c).mp hd, (isUp_bounds_of_isAZ09 h hd).1⟩

theorem runeOf_N : runeOf 'N' = 78 := rfl
theorem runeOf_L : runeOf 'L' = 76 := rfl
theorem runeOf_B : runeOf 'B' = 66 := rfl
theorem isDig_N : TaxId.isDig 'N' = false := by decide
theorem isDig_L : TaxId.isDig 'L' = false := by decide
theorem isDig_B : TaxId.isDig 'B' = false := by decide


theorem isDig_eq (c : Char) : GoStr.isDig c = TaxId.isDig c := rfl

theorem atoiU_eq (s : Str) : atoiU s = atoi? s := by
  simp only [atoiU, atoi?, digitsVal, allDig, dval]
  rfl

theorem not_sign_of_isAZ09 {c : Char} (h : isAZ09 c = true) : c ≠ '-' ∧ c ≠ '+' := by
  constructor <;> (intro e; subst e; simp [isAZ09, TaxId.isDig, isUp] at h)

theorem atoi_eq_of_head (s : Str) (h : ∀ c ∈ s.head?, c ≠ '-' ∧ c ≠ '+') :
    atoi s = match atoi? s with
      | some n => ((n : Int), none)
      | none => (0, some errSyntax) := by
  unfold atoi
  split
  · rename_i t; exact absurd rfl (h '-' (by simp)).1
  · rename_i t; exact absurd rfl (h '+' (by simp)).2
  · rw [atoiU_eq]
    rfl

/-- behind the generic gate `^[A-Z0-9]+$` no sign can occur -/
theorem atoi_gated (s : Str) (hg : s.all isAZ09 = true) :
    atoi s = match atoi? s with
      | some n => ((n : Int), none)
      | none => (0, some errSyntax) := by
  apply atoi_eq_of_head
  intro c hc
  cases s with
  | nil => simp at hc
  | cons x xs =>
    simp only [List.head?_cons, Option.mem_def, Option.some.injEq] at hc
    subst hc
    simp only [List.all_cons, Bool.and_eq_true] at hg
    exact not_sign_of_isAZ09 hg.1

theorem allDig_mem {s : Str} (hd : s.all TaxId.isDig = true) {c : Char} (hc : c ∈ s) : TaxId.isDig c = true :=
  List.all_eq_true.mp hd c hc

theorem allDig_getElem {s : Str} (hd : s.all TaxId.isDig = true) (i : Nat) (hi : i < s.length) : TaxId.isDig s[i] = true :=
  allDig_mem hd (List.getElem_mem hi)

theorem atoi_digits (s : Str) (hne : s ≠ []) (hd : s.all TaxId.isDig = true) : atoi s = ((atoi0 s : Int), none) := by
  rw [atoi_gated s (allDig_isAZ09 hd)]
  simp [atoi0, atoi?, hne, allDig_eq, hd]

/-- `strconv.Atoi(string(c))` on a digit -/
theorem atoi_single_digit {c : Char} (h : TaxId.isDig c = true) : atoi [c] = ((dval c : Int), none) := by
  rw [atoi_digits [c] (by simp) (by simp [h]), atoi0_single c h]

/-- behind the generic gate, `n, _ := strconv.Atoi(s)` is the model's `atoi0` -/
theorem atoi_gated_fst (s : Str) (hg : s.all isAZ09 = true) : (atoi s).1 = (atoi0 s : Int) := by
  rw [atoi_gated s hg, atoi0]
  cases atoi? s <;> rfl

theorem itoa_digit (n : Nat) (h : n < 10) : itoa (n : Int) = [digitChar n] := by
  rw [GoStr.itoa_natCast, Nat.toDigits_of_lt_base h, digitChar, GoStr.ofNat48 n h]

theorem itoa_two (n : Nat) (h1 : 10 ≤ n) (h2 : n < 100) : itoa (n : Int) = [digitChar (n / 10), digitChar (n % 10)] := by
  rw [GoStr.itoa_natCast, Nat.toDigits_of_base_le (by decide) h1, Nat.toDigits_of_lt_base (by omega), digitChar, digitChar,
    GoStr.ofNat48 _ (by omega), GoStr.ofNat48 _ (by omega)]
  rfl

theorem fmt02d_lt100 (n : Nat) (h : n < 100) : fmt02d (n : Int) = [digitChar (n / 10), digitChar (n % 10)] := by
  by_cases h10 : n < 10
  · have hq : n / 10 = 0 := Nat.div_eq_of_lt h10
    have hr : n % 10 = n := Nat.mod_eq_of_lt h10
    have h0 : (0 : Int) ≤ (n : Int) := by omega
    simp [fmt02d, itoa_digit n h10, hq, hr, h0]
    rfl
  · have h0 : (0 : Int) ≤ (n : Int) := by omega
    simp [fmt02d, itoa_two n (by omega) h, h0]

theorem errNew_isSome (m : String) : (errNew m).isSome = true := rfl
theorem errNew_isNone (m : String) : (errNew m).isNone = false := rfl
theorem errNew_ne_none (m : String) : errNew m ≠ none := by simp [errNew]

/-! `for _, c := range s { if bad(c) { return e } }`: the state of the loop that the `do` notation builds is
  `(early-return slot, ())`. -/

/-- the digit gate of PL: `for _, char := range s { if !unicode.IsDigit(char) { return false } }` -/
theorem all_isDigitRune (s : Str) :
    s.all (fun a => !decide (¬ isDigitRune (runeOf a) = true)) = allDig s := by
  simp [allDig, isDigitRune_runeOf]

/-- the digit gate of PT, IT, CO: `x := v - 48; if x < 0 || x > 9 { return … }` -/
theorem all_rune_guard (s : Str) :
    s.all (fun a => !decide (runeOf a - 48 < 0 ∨ runeOf a - 48 > 9)) = allDig s := by
  simp only [allDig, rune_guard, decide_not, Bool.not_not, Bool.decide_eq_true]

/-- a digit gate in front of the rest of a function: the rest runs with an empty return slot when every character
    passes, and with the error in it otherwise -/
theorem bind_all_guard {α ρ β : Type} (l : List α) (p : α → Prop) [DecidablePred p] (r : ρ) (f : Option ρ × Unit → Id β) :
    ((forIn (m := Id) l ((none, ()) : Option ρ × Unit) fun a _ =>
        if p a then pure (ForInStep.done (some r, ())) else pure (ForInStep.yield (none, ()))) >>= f)
      = if l.all (fun a => !decide (p a)) then f (none, ()) else f (some r, ()) := by
  rw [forIn_all_guard]; split <;> rfl

/-- `ws[i]` on a table of non-negative weights (out of range: 0 on both sides) -/
theorem getElem!_map_natCast (ws : List Nat) (i : Nat) :
    (ws.map (Nat.cast : Nat → Int))[i]! = ((ws.getD i 0 : Nat) : Int) := by
  rw [List.getElem!_eq_getElem?_getD, List.getElem?_map, List.getD_eq_getElem?_getD]
  cases ws[i]? <;> rfl

/-- `digits[i]` once the digits of `s` have been stored -/
theorem getElem!_map_dval (s : Str) (i : Nat) (hi : i < s.length) :
    (s.map fun c => (dval c : Int))[i]! = (dval s[i] : Int) := by
  simp [hi]

theorem getD_of_lt (s : Str) (i : Nat) (hi : i < s.length) (d : Char) : s.getD i d = s[i] :=
  (List.getElem_eq_getD d).symm

/-- `d, err := strconv.Atoi(string(s[i]))` inside a string of digits -/
theorem atoi_byteAt {s : Str} (hd : s.all TaxId.isDig = true) (i : Nat) (hi : i < s.length) :
    atoi (ofByte (byteAt s i)) = ((dval s[i] : Int), none) := by
  rw [byteAt_getElem s i hi, ofByte_toNat, atoi_single_digit (allDig_getElem hd i hi)]

/-- `for i, c := range s { d, err := strconv.Atoi(string(c)); if err != nil { return r }; digits[i] = d }`
    on a string of digits that fits into `digits` (PL, GR) -/
theorem forIn_parse_digits {ρ : Type} (r : ρ) (s : Str) (hd : s.all TaxId.isDig = true) (n : Nat) (hn : s.length ≤ n) :
    (forIn (m := Id) s.zipIdx ((none : Option ρ), List.replicate n (0 : Int)) fun it st =>
        if (atoi (ofRune (runeOf it.1))).2.isSome = true then pure (ForInStep.done (some r, st.2))
        else pure (ForInStep.yield (none, st.2.set (Int.toNat (it.2 : Int)) (atoi (ofRune (runeOf it.1))).1)))
      = pure (none, s.map (fun c => (dval c : Int)) ++ List.replicate (n - s.length) 0) := by
  rw [forIn_eq_foldl (fun l => ((none : Option ρ), l)) (fun l it => l.set it.2 (dval it.1 : Int)) _ _ ?_ _ _ rfl]
  · exact congrArg (fun l => pure (none, l)) (foldl_set_zipIdx (fun c => (dval c : Int)) 0 s [] n hn)
  · intro it hit l
    rw [ofRune_runeOf, atoi_single_digit (allDig_mem hd (List.fst_mem_of_mem_zipIdx hit))]
    rfl

/-- `for c > 0 { c -= 97 }` -/
theorem forFuel_sub97 (g : Int → ForInStep Int)
    (hg : ∀ c, g c = if ¬ c > 0 then .done c else .yield (c - 97)) :
    ∀ (f : Nat) (c : Int), forFuel g f c = GB.subLoop f c
  | 0, c => rfl
  | f + 1, c => by
    rw [forFuel, hg, GB.subLoop]
    by_cases h : c > 0
    · simp [h, forFuel_sub97 g hg f]
    · simp [h]

/-- `for i, m := range ws { sum += int(val[i]-'0') * m }` (GB; the untied AT and CH have the same loop one place on) -/
theorem forIn_wsum (ws : List Nat) (val : Str) (k acc : Nat) (hlen : k + ws.length ≤ val.length) :
    (forIn (m := Id) ((ws.map (Nat.cast : Nat → Int)).zipIdx k) (acc : Int)
        fun it s => pure (ForInStep.yield (s + Int.ofNat (byteAt val it.2 - 48) * it.1)))
      = pure ((wloop ws (val.drop k) acc : Nat) : Int) := by
  induction ws generalizing k acc with
  | nil => simp [wloop]
  | cons w ws ih =>
    have hk : k < val.length := by simp at hlen; omega
    rw [List.drop_eq_getElem_cons hk]
    simp only [List.map_cons, List.zipIdx_cons, List.forIn_cons, wloop]
    rw [byteAt_getElem val _ hk]
    have e : (acc : Int) + Int.ofNat (val[k].toNat - 48) * (w : Int) = ((acc + dval val[k] * w : Nat) : Int) := by
      simp only [dval, Int.ofNat_eq_natCast]; push_cast; rfl
    rw [e]
    exact ih (k + 1) (acc + dval val[k] * w) (by simp at hlen ⊢; omega)

/-! ## the loops of the models as folds over the indexed string

  Both kinds of translated loop end as `List.foldl … (l.zipIdx o)` (`forIn_eq_foldl`, `forFuel_scan`); these say
  that the recursions of Model/TaxId.lean are the same folds (`wloop_eq_foldl` stands with `wloop` in TaxIdDigits).
  The closed forms of Proofs/TaxId.lean (`XX.…_eq_dot`) pair weights and digits through `dot`, which stops at the shorter
  list; the fold walks the indexed string up to the loop bound.  Where no such cut can occur the closed form is used
  instead: BR, DE. -/

theorem PT.sumLoop_eq_foldl (k : Nat) (cs : Str) (i sum : Nat) :
    PT.sumLoop k cs i sum = ((cs.take k).zipIdx i).foldl (fun a p => a + dval p.1 * (10 - p.2)) sum :=
  countedLoop_eq_foldl dval _ PT.sumLoop (fun _ _ _ => by simp [PT.sumLoop]) (fun _ _ _ => rfl) (fun _ _ _ _ _ => rfl) k cs i sum

theorem GR.sumLoop_eq_foldl (k : Nat) (ds : List Nat) (i sum : Nat) :
    GR.sumLoop k ds i sum = ((ds.take k).zipIdx i).foldl (fun a p => a + p.1 * 2 ^ (8 - p.2)) sum :=
  countedLoop_eq_foldl id _ GR.sumLoop (fun _ _ _ => by simp [GR.sumLoop]) (fun _ _ _ => rfl) (fun _ _ _ _ _ => rfl) k ds i sum

theorem CO.sumLoop_eq_foldl (l : Nat) (vs : Str) (i sum : Nat) :
    CO.sumLoop l vs i sum
      = (vs.zipIdx i).foldl (fun a p => a + dval p.1 * CO.nitMultipliers.getD (l - p.2 - 1) 0) sum := by
  induction vs generalizing i sum with
  | nil => rfl
  | cons v vs ih => simp only [CO.sumLoop, List.zipIdx_cons, List.foldl_cons, ih]

/-- what one round of IN's loop adds: the base-36 digits of the doubled or single value -/
def inStep (c : Char) (i : Nat) : Nat :=
  let product := IN.charToValue c * (if i % 2 != 0 then 2 else 1)
  product / 36 + product % 36

theorem IN.loop_eq_foldl (cs : Str) (i sum : Nat) :
    IN.loop cs i sum = (cs.zipIdx i).foldl (fun a p => a + inStep p.1 p.2) sum := by
  induction cs generalizing i sum with
  | nil => rfl
  | cons c cs ih => simp only [IN.loop, List.zipIdx_cons, List.foldl_cons, ih, inStep]

theorem NL.mod97Loop_eq_foldl (cs : List Nat) (r : Nat) :
    NL.mod97Loop cs r = cs.foldl (fun r c => (if c > 9 then r * 10 * 10 else r * 10) + c) r := by
  induction cs generalizing r with
  | nil => rfl
  | cons c cs ih => simp only [NL.mod97Loop, List.foldl_cons, ih]

/-- BR parses every character; on a string of digits its loop is `wloop`, which has its fold in `wloop_eq_foldl` -/
theorem BR.sumLoop_eq_wloop (ws : List Nat) (s : Str) (acc : Nat) (hd : s.all TaxId.isDig = true) (hl : ws.length ≤ s.length) :
    BR.sumLoop ws s acc = some (wloop ws s acc) := by
  rw [BR.sumLoop_eq, wloop_eq_dot, if_pos ⟨hl, all_take hd _⟩]

/-- what one round of the right-to-left loop of `common.ComputeLuhnCheckDigit` adds to the sum -/
def luhnStep (d pos : Nat) : Nat :=
  if pos % 2 == 0 then (if d * 2 > 9 then d * 2 - 9 else d * 2) else d

theorem luhnLoop_eq_foldl (cs : Str) (pos sum : Nat) :
    luhnLoop cs pos sum = (cs.zipIdx pos).foldl (fun a p => a + luhnStep (dval p.1) p.2) sum := by
  induction cs generalizing pos sum with
  | nil => rfl
  | cons c cs ih => simp only [luhnLoop, List.zipIdx_cons, List.foldl_cons, ih, luhnStep]

/-- one round of the loop of DE's `validateTaxCodeChecksum` on the pair `(p, sum)`, for the digit `d` -/
def deStep (d p : Nat) : Nat × Nat :=
  let sum := (d + p) % 10
  let sum := if sum == 0 then 10 else sum
  ((2 * sum) % 11, sum)

/-- the second component (Go's `sum`, overwritten in every round) does not matter: the fold is the ISO 7064 recursion -/
theorem foldl_deStep_fst (l : List (Char × Nat)) (st : Nat × Nat) :
    (l.foldl (fun st it => deStep (dval it.1) st.1) st).1 = (l.map fun it => dval it.1).foldl Spec.TaxId.DE.step st.1 := by
  induction l generalizing st with
  | nil => rfl
  | cons x xs ih => rw [List.foldl_cons, ih]; simp [deStep, Spec.TaxId.DE.step, Nat.add_comm]

theorem DE.loop_eq_foldl (k : Nat) (cs : Str) (o : Nat) (st : Nat × Nat) (hk : k ≤ cs.length) (hd : cs.all TaxId.isDig = true) :
    DE.loop k cs st.1 = some (((cs.take k).zipIdx o).foldl (fun st it => deStep (dval it.1) st.1) st).1 := by
  rw [DE.loop_eq k cs st.1 hk (all_take hd k), foldl_deStep_fst,
    show (fun it : Char × Nat => dval it.1) = dval ∘ Prod.fst from rfl, ← List.map_map, List.zipIdx_map_fst]
  rfl

theorem DE.foldl_le (l : List (Char × Nat)) (st : Nat × Nat) (h : 1 ≤ st.1 ∧ st.1 ≤ 10) :
    (l.foldl (fun st it => deStep (dval it.1) st.1) st).1 ≤ 10 :=
  foldl_deStep_fst l st ▸ (DE.fold_range _ _ h).2

theorem table_keys_nodup : (Re.table.map Prod.fst).Nodup := by decide +kernel

theorem reMatch_at (i : Nat) {p : String} {f : Str → Bool} (h : Re.table[i]? = some (p, f)) : Re.reMatch p = f := by
  funext s
  rw [Re.reMatch, lookup_eq_some_of_mem table_keys_nodup (List.mem_of_getElem? h)]

open GoblVerif.TaxId.Re in
theorem re_ae : reMatch "^\\d{15}$" = AE.regime := reMatch_at 0 rfl
open GoblVerif.TaxId.Re in
theorem re_at : reMatch "^U\\d{8}$" = AT.fmt := reMatch_at 1 rfl
open GoblVerif.TaxId.Re in
theorem re_be : reMatch "^0?\\d{9}$" = BE.fmt := reMatch_at 2 rfl
open GoblVerif.TaxId.Re in
theorem re_ch : reMatch "^E\\d{9}$" = CH.fmt := reMatch_at 3 rfl
open GoblVerif.TaxId.Re in
theorem re_de : reMatch "^[1-9]\\d{8}$" = DE.fmt := reMatch_at 4 rfl
open GoblVerif.TaxId.Re in
theorem re_fr_vat : reMatch "^\\d{11}$" = FR.vatRe := reMatch_at 9 rfl
open GoblVerif.TaxId.Re in
theorem re_d9 : reMatch "^\\d{9}$" = FR.sirenRe := reMatch_at 10 rfl
open GoblVerif.TaxId.Re in
theorem re_d12 : reMatch "^\\d{12}$" = matchSeq (rep 12 TaxId.isDig) := reMatch_at 11 rfl
open GoblVerif.TaxId.Re in
theorem re_gd : reMatch "^GD\\d{3}$" = matchSeq (isCh 'G' :: isCh 'D' :: rep 3 TaxId.isDig) := reMatch_at 12 rfl
open GoblVerif.TaxId.Re in
theorem re_ha : reMatch "^HA\\d{3}$" = matchSeq (isCh 'H' :: isCh 'A' :: rep 3 TaxId.isDig) := reMatch_at 13 rfl
open GoblVerif.TaxId.Re in
theorem re_in : reMatch "^[0-9]{2}[A-Z]{5}[0-9]{4}[A-Z]{1}[1-9A-Z]{1}Z[0-9A-Z]{1}$" = IN.fmt := reMatch_at 14 rfl
open GoblVerif.TaxId.Re in
theorem re_mx_person : reMatch "^([A-ZÑ\\&]{4})([0-9]{6})([A-Z0-9]{3})$" = MX.personRe := reMatch_at 15 rfl
open GoblVerif.TaxId.Re in
theorem re_mx_company : reMatch "^([A-ZÑ\\&]{3})([0-9]{6})([A-Z0-9]{3})$" = MX.companyRe := reMatch_at 16 rfl
open GoblVerif.TaxId.Re in
theorem re_pl : reMatch "^[1-9]((\\d[1-9])|([1-9]\\d))\\d{7}$" = PL.fmt := reMatch_at 17 rfl

end GoblVerif.TaxIdSrc
