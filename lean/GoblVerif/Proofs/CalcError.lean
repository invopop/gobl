/-
  Error bounds (C01), the steps and the notion.  One rounding (multiplication,
  division, lowering the precision) moves a value by at most half a unit of its
  precision (`rnd_err`); errors of rows add up with their weights (`sum_err`);
  half a minor unit plus fewer than 100 half-units of the working precision
  (currency + 2 decimals) is less than one minor unit (`unit_bound`);
  presentation is one more rounding (`presents_near`).  Then the notion the
  whole bound is written in: a working amount (`Approx`, `Top`, `ApproxO`) with
  its closure lemmas, on the exact chain of Proofs/CalcExact.lean.
-/
import GoblVerif.Proofs.CalcExact
import GoblVerif.Spec.C01

namespace GoblVerif
open GoblVerif.Spec GoblVerif.Calc

/- Generic facts are declared in `GoblVerif`, everything about presentation and working amounts in `GoblVerif.Calc.Err`;
`halfUlp` and `Calc.optQ` have the names the statements of Props/C01.lean use. -/

theorem abs_add_sub_le (a b a' b' : ℚ) : |a + b - (a' + b')| ≤ |a - a'| + |b - b'| := by
  rw [add_sub_add_comm]; exact abs_add_le _ _

theorem abs_sub_sub_le (a b a' b' : ℚ) : |a - b - (a' - b')| ≤ |a - a'| + |b - b'| := by
  rw [sub_sub_sub_comm]; exact abs_sub _ _

theorem le_weight {x a b h : ℚ} (hx : x ≤ a * h) (hab : a ≤ b) (h0 : 0 ≤ h) : x ≤ b * h :=
  hx.trans (mul_le_mul_of_nonneg_right hab h0)

theorem sum_le_length {α : Type} (xs : List α) (f : α → ℚ) (B : ℚ) (h : ∀ x ∈ xs, f x ≤ B) :
    (xs.map f).sum ≤ xs.length * B := by
  have := List.sum_le_sum h
  simpa using this

theorem cast_sum {α : Type} (xs : List α) (f : α → ℕ) :
    (((xs.map f).sum : ℕ) : ℚ) = (xs.map (fun x => (f x : ℚ))).sum := by
  induction xs with
  | nil => simp
  | cons x xs ih => simp only [List.map_cons, List.sum_cons, Nat.cast_add, ih]

theorem forall₂_imp_mem {α β : Type} {R S : α → β → Prop} {xs : List α} {ys : List β} (h : List.Forall₂ R xs ys)
    (H : ∀ x y, x ∈ xs → y ∈ ys → R x y → S x y) : List.Forall₂ S xs ys := by
  induction h with
  | nil => exact .nil
  | cons hr _ ih =>
    exact .cons (H _ _ (by simp) (by simp) hr) (ih fun x y hx hy => H x y (by simp [hx]) (by simp [hy]))

theorem roundTo_err (e : ℕ) (q : ℚ) :
    |((roundTo e q : ℤ) : ℚ) / ((pow10 e : ℤ) : ℚ) - q| ≤ 1 / (2 * ((pow10 e : ℤ) : ℚ)) := by
  have hp := p10q_pos e
  have h : |((roundHalfAway (q * ((pow10 e : ℤ) : ℚ)) : ℤ) : ℚ) - _| ≤ 1 / 2 := (goRound_nearest _).1
  unfold roundTo
  have : ((roundHalfAway (q * ((pow10 e : ℤ) : ℚ)) : ℤ) : ℚ) / ((pow10 e : ℤ) : ℚ) - q =
      (((roundHalfAway (q * ((pow10 e : ℤ) : ℚ)) : ℤ) : ℚ) - q * ((pow10 e : ℤ) : ℚ)) / ((pow10 e : ℤ) : ℚ) := by
    field_simp
  rw [this, abs_div, abs_of_pos hp, div_le_iff₀ hp]
  calc _ ≤ (1 : ℚ) / 2 := h
    _ = 1 / (2 * ((pow10 e : ℤ) : ℚ)) * ((pow10 e : ℤ) : ℚ) := by field_simp

/-- half a unit of the `e`-th decimal -/
def halfUlp (e : ℕ) : ℚ := 1 / (2 * ((pow10 e : ℤ) : ℚ))

theorem halfUlp_mono (e e' : ℕ) (h : e ≤ e') : halfUlp e' ≤ halfUlp e := by
  unfold halfUlp
  have h1 := p10q_pos e
  have h2 := p10q_pos e'
  have : ((pow10 e : ℤ) : ℚ) ≤ ((pow10 e' : ℤ) : ℚ) := by
    have : pow10 e ≤ pow10 e' := by
      unfold pow10
      exact_mod_cast Nat.pow_le_pow_right (by norm_num) h
    exact_mod_cast this
  apply one_div_le_one_div_of_le (by positivity)
  linarith

theorem halfUlp_nonneg (e : ℕ) : 0 ≤ halfUlp e := by
  unfold halfUlp
  have := p10q_pos e
  positivity

theorem rnd_err (e : ℕ) (q : ℚ) : |(rnd e q).toRat - q| ≤ halfUlp e := roundTo_err e q

theorem mulX_err (a b : Amount) : |(a.mulX b).toRat - a.toRat * b.toRat| ≤ halfUlp a.exp := by
  rw [mulX_rnd]; exact rnd_err _ _

theorem remove_err (t : Amount) (p : Pct) :
    (remove exactOps t p).exp = t.exp ∧
    |(remove exactOps t p).toRat - t.toRat / (1 + p.amount.toRat)| ≤ halfUlp t.exp := by
  rw [remove_rnd]; exact ⟨rfl, rnd_err _ _⟩

theorem sum_err₂ {α β : Type} {R : α → β → Prop} {xs : List α} {ys : List β} (h : List.Forall₂ R xs ys)
    (f : α → ℚ) (g w : β → ℚ) (e : ℚ) (H : ∀ x, ∀ y ∈ ys, R x y → |f x - g y| ≤ w y * e) :
    |(xs.map f).sum - (ys.map g).sum| ≤ (ys.map w).sum * e := by
  induction h with
  | nil => simp
  | cons hr _ ih =>
    simp only [List.map_cons, List.sum_cons, add_mul]
    exact (abs_add_sub_le _ _ _ _).trans (add_le_add (H _ _ (by simp) hr) (ih fun x y hy => H x y (by simp [hy])))

theorem sum_err {α : Type} (xs : List α) (f g w : α → ℚ) (h : ℚ)
    (H : ∀ x ∈ xs, |f x - g x| ≤ w x * h) : |(xs.map f).sum - (xs.map g).sum| ≤ (xs.map w).sum * h :=
  sum_err₂ (List.forall₂_same.mpr fun _ _ => rfl) f g w h fun _ y hy e => e ▸ H y hy

theorem sum_err_const {α : Type} (xs : List α) (f g : α → ℚ) (B : ℚ)
    (H : ∀ x ∈ xs, |f x - g x| ≤ B) : |(xs.map f).sum - (xs.map g).sum| ≤ xs.length * B := by
  have := sum_err xs f g (fun _ => 1) B (by simpa using H)
  simpa using this

theorem unit_bound (c : ℕ) (N : ℚ) (hN : N < 100) :
    halfUlp c + N * halfUlp (c + 2) < 1 / ((pow10 c : ℤ) : ℚ) := by
  have hp := p10q_pos c
  have hp2 : ((pow10 (c + 2) : ℤ) : ℚ) = ((pow10 c : ℤ) : ℚ) * 100 := by
    unfold pow10; push_cast; ring
  have h2 : (0 : ℚ) < halfUlp (c + 2) := by unfold halfUlp; have := p10q_pos (c + 2); positivity
  have e : halfUlp c + 100 * halfUlp (c + 2) = 1 / ((pow10 c : ℤ) : ℚ) := by
    unfold halfUlp; rw [hp2]; field_simp; ring
  rw [← e]
  have := mul_lt_mul_of_pos_right hN h2
  linarith

/-- "within half a minor unit (the presentation rounding) plus `n` half-units of the working precision" -/
def Calc.Err.Within (c : ℕ) (a q n : ℚ) : Prop := |a - q| ≤ halfUlp c + n * halfUlp (c + 2)

theorem Calc.Err.Within.mono {c : ℕ} {a q n m : ℚ} (h : n ≤ m) (H : Within c a q n) : Within c a q m :=
  H.trans (add_le_add le_rfl (mul_le_mul_of_nonneg_right h (halfUlp_nonneg _)))

theorem Calc.Err.Within.lt_unit {c : ℕ} {a q n m : ℚ} (H : Within c a q n) (h : n ≤ m) (hm : m < 100) :
    |a - q| < 1 / ((pow10 c : ℤ) : ℚ) :=
  (Within.mono h H).trans_lt (unit_bound c m hm)

theorem Calc.Err.presents_rescale (c : ℕ) (a : Amount) : Spec.C01.presents c (a.rescaleX c) a.toRat :=
  eq_rnd_iff.mp (rescaleX_rnd a c)

theorem Calc.Err.presents_err (c : ℕ) (a : Amount) (q : ℚ) (h : Spec.C01.presents c a q) : |a.toRat - q| ≤ halfUlp c := by
  rw [eq_rnd_iff.mpr h]; exact rnd_err c q

theorem Calc.Err.presents_near {c : ℕ} {a : Amount} {w q B : ℚ} (hp : Spec.C01.presents c a w) (hw : |w - q| ≤ B) :
    |a.toRat - q| ≤ halfUlp c + B :=
  (abs_sub_le _ w _).trans (add_le_add (presents_err c a w hp) hw)

theorem Calc.Err.presented_le (c : ℕ) (a : Amount) (q n : ℚ) (h : |a.toRat - q| ≤ n * halfUlp (c + 2)) :
    Within c (a.rescaleX c).toRat q n :=
  presents_near (presents_rescale c a) h

theorem Calc.Err.presented_some (c : ℕ) (o : Option Amount) (q n : ℚ)
    (h : ∀ y, o = some y → |y.toRat - q| ≤ n * halfUlp (c + 2)) :
    ∀ x, o.map (exactOps.rescale · c) = some x → Within c x.toRat q n := by
  intro x hx
  obtain ⟨y, hy, rfl⟩ := Option.map_eq_some_iff.mp hx
  exact presented_le c y q n (h y hy)

namespace Calc

/-- the rational value of an optional total (absent = 0) -/
def optQ (o : Option Amount) : ℚ := (o.map Amount.toRat).getD 0

theorem optQ_eq (o : Option Amount) : optQ o = Spec.C03.q0 o := by cases o <;> rfl

namespace Err

/-! ## working amounts

What every stage of the calculation proves of every amount it makes, as one relation: the amount, the
exact value it stands for, a weight in half-units of the working precision, and the precision bound
that lets the amount be added to a running total without rounding.  The bound and the weight come out
of the same case distinction at every stage, so they travel together; the stages compose by the
closure lemmas below, and the weights of `Spec/C01.lean` are the compositions. -/

/-- `a` is a working amount for the exact value `q`: not finer than `M` (adding it to an amount at `M`
does not round) and within `w` half-units of the working precision (currency + 2 decimals) of `q` -/
structure Approx (c M : ℕ) (a : Amount) (q w : ℚ) : Prop where
  exp_le : a.exp ≤ M
  err : |a.toRat - q| ≤ w * halfUlp (c + 2)

/-- a running total: a working amount at `M` exactly -/
structure Top (c M : ℕ) (a : Amount) (q w : ℚ) : Prop where
  exp_eq : a.exp = M
  err : |a.toRat - q| ≤ w * halfUlp (c + 2)

/-- an optional working amount; an absent one stands for 0 -/
structure ApproxO (c M : ℕ) (o : Option Amount) (q w : ℚ) : Prop where
  exp_le : ∀ a, o = some a → a.exp ≤ M
  err : |optQ o - q| ≤ w * halfUlp (c + 2)

namespace Approx
variable {c M : ℕ} {a : Amount} {q w : ℚ}

theorem exact (h : a.exp ≤ M) : Approx c M a a.toRat 0 := ⟨h, by simp⟩

theorem mono (h : Approx c M a q w) {w' : ℚ} (hw : w ≤ w') : Approx c M a q w' :=
  ⟨h.exp_le, le_weight h.err hw (halfUlp_nonneg _)⟩

theorem up (h : Approx c M a q w) {e : ℕ} (he : e ≤ M) : Approx c M (up a e) q w :=
  ⟨by rw [up_exp]; exact max_le h.exp_le he, by rw [up_toRat]; exact h.err⟩

theorem neg (h : Approx c M a q w) : Approx c M (neg a) (-q) w :=
  ⟨h.exp_le, by rw [neg_toRat, neg_sub_neg, abs_sub_comm]; exact h.err⟩

theorem mul (h : Approx c M a q w) (hf : c + 2 ≤ a.exp) (p : Amount) :
    Approx c M (a.mulX p) (q * p.toRat) (1 + |p.toRat| * w) :=
  ⟨h.exp_le, by
    rw [show (a.mulX p).toRat - q * p.toRat = ((a.mulX p).toRat - a.toRat * p.toRat) + p.toRat * (a.toRat - q) by ring,
      add_mul, one_mul, mul_assoc]
    exact (abs_add_le _ _).trans (add_le_add ((mulX_err a p).trans (halfUlp_mono _ _ hf))
      (by rw [abs_mul]; exact mul_le_mul_of_nonneg_left h.err (abs_nonneg _)))⟩

/-- `Amount.Remove` with a percentage ≥ 0: dividing by 1 + percentage ≥ 1 contracts what the amount carries -/
theorem remove (h : Approx c M a q w) (hf : c + 2 ≤ a.exp) {p : Pct} (hp : 0 ≤ p.amount.toRat) :
    Approx c M (Calc.remove exactOps a p) (q / (1 + p.amount.toRat)) (w + 1) := by
  obtain ⟨e1, e2⟩ := remove_err a p
  refine ⟨e1 ▸ h.exp_le, ?_⟩
  have hd : |a.toRat / (1 + p.amount.toRat) - q / (1 + p.amount.toRat)| ≤ |a.toRat - q| := by
    rw [← sub_div, abs_div, abs_of_pos (by linarith : (0 : ℚ) < 1 + p.amount.toRat)]
    exact div_le_self (abs_nonneg _) (by linarith)
  have := h.err
  have := halfUlp_mono _ _ hf
  rw [add_mul, one_mul]
  linarith [abs_sub_le (Calc.remove exactOps a p).toRat (a.toRat / (1 + p.amount.toRat)) (q / (1 + p.amount.toRat))]

theorem shift (h : Approx c M a q w) {q' v : ℚ} (hq : |q - q'| ≤ v * halfUlp (c + 2)) : Approx c M a q' (w + v) :=
  ⟨h.exp_le, by rw [add_mul]; exact (abs_sub_le _ _ _).trans (add_le_add h.err hq)⟩

theorem toO (h : Approx c M a q w) : ApproxO c M (some a) q w :=
  ⟨fun _ e => by cases e; exact h.exp_le, h.err⟩

end Approx

namespace ApproxO
variable {c M : ℕ} {o : Option Amount} {q w : ℚ}

theorem none (hw : 0 ≤ w) : ApproxO c M none 0 w :=
  ⟨nofun, by simpa [optQ] using mul_nonneg hw (halfUlp_nonneg _)⟩

theorem get (h : ApproxO c M o q w) {a : Amount} (ha : o = some a) : Approx c M a q w := by
  subst ha; exact ⟨h.exp_le _ rfl, h.err⟩

theorem shift (h : ApproxO c M o q w) {q' v : ℚ} (hq : |q - q'| ≤ v * halfUlp (c + 2)) : ApproxO c M o q' (w + v) :=
  ⟨h.exp_le, by rw [add_mul]; exact (abs_sub_le _ _ _).trans (add_le_add h.err hq)⟩

end ApproxO

namespace Top
variable {c M : ℕ} {a b : Amount} {o : Option Amount} {q r w v : ℚ}

theorem approx (h : Top c M a q w) : Approx c M a q w := ⟨h.exp_eq.le, h.err⟩

theorem mono (h : Top c M a q w) {w' : ℚ} (hw : w ≤ w') : Top c M a q w' :=
  ⟨h.exp_eq, le_weight h.err hw (halfUlp_nonneg _)⟩

theorem add (ha : Top c M a q w) (hb : Approx c M b r v) : Top c M (add exactOps a b) (q + r) (w + v) :=
  ⟨ha.exp_eq, by
    rw [add_toRat _ _ (ha.exp_eq ▸ hb.exp_le), add_mul]
    exact (abs_add_sub_le _ _ _ _).trans (add_le_add ha.err hb.err)⟩

theorem sub (ha : Top c M a q w) (hb : Approx c M b r v) : Top c M (sub exactOps a b) (q - r) (w + v) :=
  ⟨ha.exp_eq, by
    rw [sub_toRat _ _ (ha.exp_eq ▸ hb.exp_le), add_mul]
    exact (abs_sub_sub_le _ _ _ _).trans (add_le_add ha.err hb.err)⟩

/-- the shape `pre` and `rawTotals` subtract (add) an optional figure in; it unifies with their own
matches under `exact`, not under `rw` -/
theorem subO (ha : Top c M a q w) (ho : ApproxO c M o r v) :
    Top c M (match (generalizing := false) o with | some x => Calc.sub exactOps a x | none => a) (q - r) (w + v) := by
  cases o with
  | some x => exact ha.sub (ho.get rfl)
  | none =>
    have h2 : |(0 : ℚ) - r| ≤ v * halfUlp (c + 2) := ho.err
    exact ⟨ha.exp_eq, by rw [add_mul]; exact (abs_sub_sub_le a.toRat 0 q r).trans' (by simp) |>.trans (add_le_add ha.err h2)⟩

theorem addO (ha : Top c M a q w) (ho : ApproxO c M o r v) :
    Top c M (match (generalizing := false) o with | some x => Calc.add exactOps a x | none => a) (q + r) (w + v) := by
  cases o with
  | some x => exact ha.add (ho.get rfl)
  | none =>
    have h2 : |(0 : ℚ) - r| ≤ v * halfUlp (c + 2) := ho.err
    exact ⟨ha.exp_eq, by rw [add_mul]; exact (abs_add_sub_le a.toRat 0 q r).trans' (by simp) |>.trans (add_le_add ha.err h2)⟩

variable {α : Type} (f : α → Amount) (g wt : α → ℚ) (xs : List α)

theorem foldl_sub (h : ∀ x ∈ xs, Approx c M (f x) (g x) (wt x)) (ha : Top c M a q w) :
    Top c M ((xs.map f).foldl (Calc.sub exactOps) a) (q - (xs.map g).sum) (w + (xs.map wt).sum) := by
  obtain ⟨h1, h2⟩ := foldl_sub_toRat (xs.map f) a (by simpa using fun x hx => ha.exp_eq ▸ (h x hx).exp_le)
  refine ⟨h2.trans ha.exp_eq, ?_⟩
  rw [h1, Spec.C03.qsum, List.map_map, add_mul]
  exact (abs_sub_sub_le _ _ _ _).trans (add_le_add ha.err (sum_err xs _ g wt _ fun x hx => (h x hx).err))

theorem foldl_add (h : ∀ x ∈ xs, Approx c M (f x) (g x) (wt x)) (ha : Top c M a q w) :
    Top c M ((xs.map f).foldl (Calc.add exactOps) a) (q + (xs.map g).sum) (w + (xs.map wt).sum) := by
  obtain ⟨h1, h2⟩ := foldl_add_toRat (xs.map f) a (by simpa using fun x hx => ha.exp_eq ▸ (h x hx).exp_le)
  refine ⟨h2.trans ha.exp_eq, ?_⟩
  rw [h1, Spec.C03.qsum, List.map_map, add_mul]
  exact (abs_add_sub_le _ _ _ _).trans (add_le_add ha.err (sum_err xs _ g wt _ fun x hx => (h x hx).err))

end Top

/-- `calculateDiscountSum`, `calculateChargeSum`, `totalAdvance` -/
theorem Approx.optSum {c M : ℕ} {α : Type} (hc : c ≤ M) (f : α → Amount) (g wt : α → ℚ) (xs : List α)
    (h : ∀ x ∈ xs, Approx c M (f x) (g x) (wt x)) :
    ApproxO c M (optSum exactOps c (xs.map f)) (xs.map g).sum (xs.map wt).sum := by
  refine ⟨fun a ha => ?_, ?_⟩
  · rw [optSum_eq_some ha]
    rw [foldl_accum_exp]
    exact foldl_max_le hc (by simpa using fun x hx => (h x hx).exp_le)
  · rw [optQ_eq, optSum_toRat, Spec.C03.qsum, List.map_map]
    exact sum_err xs _ g wt _ fun x hx => (h x hx).err

end Err
end Calc
end GoblVerif
