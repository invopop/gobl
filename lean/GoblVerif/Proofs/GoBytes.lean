/-
  GoBytes (proofs): facts about the trusted byte primitives of Model/GoBytes.lean
  (slices, copy, the integer `|`, utf8.DecodeRuneInString's width, the order of
  byte strings) and its insertion sort, which is the stable sort `sortL` of
  Model/Json.lean under any map that keeps the keys' order.  Nothing here is
  about a particular package.
-/
import GoblVerif.Model.GoBytes
import GoblVerif.Model.Json

namespace GoblVerif.GoBytes
open GoblVerif

theorem slice_extend (pre mid post : Bytes) (start : Nat) (h : start ≤ pre.length) :
    slice (pre ++ mid ++ post) start (pre.length + mid.length) = slice (pre ++ mid ++ post) start pre.length ++ mid := by
  unfold slice
  have e1 : List.take (pre.length + mid.length) (pre ++ mid ++ post) = pre ++ mid := by
    rw [show pre.length + mid.length = (pre ++ mid).length by simp, List.take_left']
    rfl
  have e2 : List.take pre.length (pre ++ mid ++ post) = pre := by
    rw [List.append_assoc, List.take_left']; rfl
  rw [e1, e2, List.drop_append_of_le_length h]

theorem slice_empty (l : Bytes) (i : Nat) : slice l i i = [] := by
  unfold slice
  rw [List.drop_eq_nil_iff]; simp; omega

theorem slice_full (l : Bytes) (start : Nat) : slice l start l.length = List.drop start l := by
  unfold slice; simp

theorem copy_fresh (src : Bytes) : GoBytes.copy (List.replicate src.length 0) src = src := by
  simp [GoBytes.copy]

theorem appendFloat_nil (t : Bytes) : appendFloat [] t 69 (-1) 64 = t := by
  simp [appendFloat]

theorem or16 (r v : Nat) (h : v < 16) : (r * 16) ||| v = r * 16 + v := by
  have := Nat.shiftLeft_add_eq_or_of_lt (b := v) (i := 4) (by simpa using h) r
  simp only [Nat.shiftLeft_eq] at this
  exact this.symm

theorem intOr_step (r v : Nat) (h : v < 16) : intOr ((r : Int) * 2 ^ Int.toNat 4) (Int.ofNat v) = ((r * 16 + v : Nat) : Int) := by
  unfold intOr
  have e1 : ((r : Int) * 2 ^ Int.toNat 4).toNat = r * 16 := by
    have : (2 : Int) ^ Int.toNat 4 = 16 := by decide
    rw [this]; omega
  rw [e1, show (Int.ofNat v).toNat = v from rfl, or16 r v h]; rfl

/-- utf8.DecodeRuneInString consumes at least one byte of a non-empty string: every branch of it
    answers a width from 1 to 4 -/
theorem decodeRune_width (l : Bytes) (h : l ≠ []) : 1 ≤ (decodeRune l).2 := by
  fun_cases decodeRune l <;> first | contradiction | (dsimp only; decide)

theorem decodeRune_width_at (s : Bytes) (i : Int) (h0 : 0 ≤ i) (h : i < (s.length : Int)) :
    1 ≤ (decodeRune (List.drop i.toNat s)).2 := by
  apply decodeRune_width
  intro hn
  have := congrArg List.length hn
  simp at this
  omega

theorem ltBytes_eq_ltS : ∀ a b : Bytes, ltBytes a b = ltS a b
  | [], [] => rfl
  | [], _ :: _ => rfl
  | _ :: _, [] => rfl
  | a :: as, b :: bs => by simp only [ltBytes, ltS, ltBytes_eq_ltS as bs]

theorem insertBy_map {α β : Type} (g : Str × α → β) (lt : β → β → Bool) (hlt : ∀ a b, lt (g a) (g b) = ltS a.1 b.1)
    (k : Str) (v : α) : ∀ l : List (Str × α), insertBy lt (g (k, v)) (l.map g) = (insSorted k v l).map g
  | [] => rfl
  | (k', v') :: r => by
    simp only [List.map_cons, insertBy, insSorted, hlt]
    split
    · rw [List.map_cons, insertBy_map g lt hlt k v r]
    · rfl

theorem stableSort_map {α β : Type} (g : Str × α → β) (lt : β → β → Bool) (hlt : ∀ a b, lt (g a) (g b) = ltS a.1 b.1) :
    ∀ l : List (Str × α), stableSort lt (l.map g) = (sortL l).map g
  | [] => rfl
  | (k, v) :: r => by
    simp only [List.map_cons, stableSort, sortL]
    rw [stableSort_map g lt hlt r]
    exact insertBy_map g lt hlt k v (sortL r)

theorem insertBy_perm {α : Type} (lt : α → α → Bool) (x : α) : ∀ l, (insertBy lt x l).Perm (x :: l)
  | [] => .refl _
  | y :: r => by
    unfold insertBy
    split
    · exact ((insertBy_perm lt x r).cons y).trans (.swap x y r)
    · exact .refl _

theorem stableSort_perm {α : Type} (lt : α → α → Bool) : ∀ l, (stableSort lt l).Perm l
  | [] => .refl _
  | x :: l => (insertBy_perm lt x (stableSort lt l)).trans ((stableSort_perm lt l).cons x)

end GoblVerif.GoBytes
