/-
  CodecSrc (proofs): what the string primitives of Model/GoStrings.lean (and
  Model/GoStr.lean, Model/GoJson.lean) do, in the vocabulary of
  Model/Codec.lean, and the loop / branch shapes that the go2lean translator
  emits for the text codec of /repo/num.  Nothing here mentions the generated
  definitions (Generated/CodecSrc.lean): the theorems about those are in
  Props/C06.lean, namespace Src, so that a change of the Go source breaks a
  theorem with a name.
-/
import GoblVerif.Model.Codec
import GoblVerif.Model.GoStrings
import GoblVerif.Model.GoJson
import GoblVerif.Proofs.Codec
import GoblVerif.Proofs.GoStr
import GoblVerif.Proofs.GoSem

namespace GoblVerif.CodecTie
open GoblVerif GoblVerif.Codec GoblVerif.GoStr GoblVerif.GoSem

/-! ## the parser side: `strings.HasPrefix` / `TrimPrefix` / `Split`, the digit test -/

/-- `GoStrings.isNeg`, `Codec.hasPrefixMinus` (and `Spec.C06.negative`: `negative_eq`) are one function -/
theorem isNeg_eq (s : Str) : GoStrings.isNeg s = hasPrefixMinus s := rfl

theorem hasPrefix_minus (s : Text) : GoStr.hasPrefix s ['-'] = hasPrefixMinus s := by
  cases s with
  | nil => rfl
  | cons c r => simp [GoStr.hasPrefix, List.isPrefixOf, hasPrefixMinus_cons, eq_comm]

theorem trimPrefix_minus (s : Text) : GoStrings.trimPrefix s ['-'] = trimPrefixMinus s := by
  cases s with
  | nil => rfl
  | cons c r =>
    by_cases h : c = '-'
    · subst h; rfl
    · simp [GoStrings.trimPrefix, List.isPrefixOf, trimPrefixMinus, h, Ne.symm h]

theorem split_dot (s : Text) : GoStrings.split s ['.'] = splitOn '.' s := by
  unfold GoStrings.split
  induction s with
  | nil => rfl
  | cons c cs ih =>
    by_cases h : c = '.'
    · subst h; simp [GoStrings.splitGo, splitOn, List.isPrefixOf, ih]
    · have h' : ('.' == c) = false := by simp [Ne.symm h]
      simp only [GoStrings.splitGo, splitOn, List.isPrefixOf, h', h, ih, Bool.false_and, if_false, Bool.false_eq_true]
      cases splitOn '.' cs <;> rfl

theorem isDig_eq (c : Char) : GoStr.isDig c = isDigitC c := by
  simp [GoStr.isDig, isDigitC]

theorem digitsVal_eq (s : Text) : GoStr.digitsVal s = natOfDigits s := by
  unfold GoStr.digitsVal natOfDigits
  congr 1
  funext n c
  simp [digitVal, Nat.mul_comm]

theorem atoiU_eq (s : Text) : GoStr.atoiU s = if isDigits s = true then some (natOfDigits s) else none := by
  unfold GoStr.atoiU isDigits
  have : s.all GoStr.isDig = s.all isDigitC := by congr 1; funext c; exact isDig_eq c
  rw [this, digitsVal_eq]

/-! ## `strconv.ParseInt` -/

/-- `strconv.ParseInt(s, 10, 64)` in the vocabulary of the model -/
def goParseInt (s : Text) : Int × Option Str :=
  match parseInt64 s with
  | .ok v => (v, none)
  | .error .syntax => (0, some GoStr.errSyntax)
  | .error .range => (if hasPrefixMinus s = true then minInt64 else maxInt64, some GoStrings.errRange)

theorem parseInt_eq (s : Text) : GoStrings.parseInt s = goParseInt s := by
  rw [GoStrings.parseInt, goParseInt, parseInt64_eq, atoiU_eq, isNeg_eq]
  by_cases hd : isDigits (GoStrings.afterSign s) = true
  swap
  · simp [hd]
  -- the two range tests, `> 2^63` below zero and `≥ 2^63` above, are `> lim`
  cases hasPrefixMinus s <;> simp only [hd, if_true, lim, sg, Bool.false_eq_true, if_false, minInt64, maxInt64]
  · by_cases h : natOfDigits (GoStrings.afterSign s) ≥ 9223372036854775808
    · rw [if_pos h, if_pos (by omega)]
    · rw [if_neg h, if_neg (by omega)]
  · split <;> rfl

/-! ## the digit scan -/

/-- the digit scan of `isDigits`: `for i := 0; i < len(s); i++ { if s[i] < '0' || s[i] > '9' { return r0 } }` -/
def digitScanStep (s : Text) (r0 : Bool) (b : Option Bool × Int) : ForInStep (Option Bool × Int) :=
  if ¬ b.2 < (s.length : Int) then .done (none, b.2)
  else if byteAt s b.2.toNat < 48 ∨ byteAt s b.2.toNat > 57 then .done (some r0, b.2)
  else .yield (none, b.2 + 1)

theorem forFuel_digitScan (s : Text) (r0 : Bool) :
    ∀ (k j : Nat), j + k = s.length →
      (forFuel (digitScanStep s r0) k (none, (j : Int))).1 = (if (s.drop j).all isDigitC = true then none else some r0) ∧
      ((forFuel (digitScanStep s r0) k (none, (j : Int))).1 = none →
        (forFuel (digitScanStep s r0) k (none, (j : Int))).2 = (s.length : Int))
  | 0, j, h => by
    have hj : j = s.length := by omega
    simp [forFuel, hj]
  | k + 1, j, h => by
    have hj : j < s.length := by omega
    have hd : s.drop j = s[j] :: s.drop (j + 1) := (List.drop_eq_getElem_cons hj)
    have hlt : ((j : Int) < (s.length : Int)) := by exact_mod_cast hj
    simp only [forFuel, digitScanStep, hlt, not_true_eq_false, if_false, Int.toNat_natCast, byteAt_getElem s j hj, hd, List.all_cons]
    by_cases hb : s[j].toNat < 48 ∨ s[j].toNat > 57
    · have : isDigitC s[j] = false := by simp [isDigitC]; omega
      simp [hb, this]
    · have : isDigitC s[j] = true := by simp [isDigitC]; omega
      simp only [hb, if_false, this, Bool.true_and]
      have := forFuel_digitScan s r0 k (j + 1) (by omega)
      simpa [digitScanStep] using this

theorem forFuel_digitScan0 (s : Text) (r0 : Bool) :
    (forFuel (digitScanStep s r0) s.length (none, 0)).1 = (if s.all isDigitC = true then none else some r0) ∧
    ((forFuel (digitScanStep s r0) s.length (none, 0)).1 = none →
      (forFuel (digitScanStep s r0) s.length (none, 0)).2 = (s.length : Int)) := by
  simpa using forFuel_digitScan s r0 s.length 0 (by simp)

/-! ## the printer side: `%d`, `%0*d`, `strings.Contains` / `TrimRight` / `TrimSuffix` -/

theorem itoa_eq (v : Int) : GoStr.itoa v = fmtInt v := by
  rw [GoStr.itoa_toDigits, fmtInt, natToDigits_eq]
  split
  · rfl
  · rw [show v.toNat = v.natAbs by omega]

theorem fmtPad0_eq (w : Nat) (v : Int) : GoStrings.fmtPad0 w v = fmtIntPad0 w v := by
  simp only [GoStrings.fmtPad0, fmtIntPad0, padZeros, natToDigits_eq, GoStr.natDigits_toDigitsCore, Nat.toDigits]

theorem contains_dot (s : Text) : GoStrings.contains s ['.'] = s.contains '.' := by
  induction s with
  | nil => rfl
  | cons c r ih =>
    simp only [GoStrings.contains, ih, List.isPrefixOf, List.contains_cons]
    by_cases h : c = '.'
    · subst h; simp
    · have : ('.' == c) = false := by simp [Ne.symm h]
      simp [this]

theorem trimRight_zeros (s : Text) : GoStrings.trimRight s ['0'] = trimRightZeros s := by
  unfold GoStrings.trimRight trimRightZeros
  congr 2
  funext c
  by_cases h : c = '0' <;> simp [h]

theorem trimSuffix_dot (s : Text) : GoStrings.trimSuffix s ['.'] = trimSuffixDot s := by
  unfold GoStrings.trimSuffix trimSuffixDot
  rcases List.eq_nil_or_concat s with h | ⟨t, c, h⟩
  · subst h; rfl
  · subst h
    by_cases hc : c = '.'
    · subst hc; simp [List.isSuffixOf]
    · simp [hc]
      exact fun e => hc e.symm

/-! ## bytes, the JSON layer -/

theorem ofBytes_toBytes (s : Text) : GoStrings.ofBytes (GoStrings.toBytes s) = s := by
  unfold GoStrings.ofBytes GoStrings.toBytes
  rw [List.map_map]
  conv => rhs; rw [← List.map_id s]
  congr 1
  funext c
  simp [Char.ofNat_toNat]

theorem toBytes_length (s : Text) : (GoStrings.toBytes s).length = s.length := by
  simp [GoStrings.toBytes]

theorem toNat_eq_34 (c : Char) : c.toNat = 34 ↔ c = '"' := by
  constructor
  · intro h
    have : Char.ofNat c.toNat = c := Char.ofNat_toNat c
    rw [h] at this; rw [← this]
  · intro h; subst h; rfl

theorem jsonText_error (value : Text) (e : Err) (h : Codec.jsonText value = .error e) : e = .json := by
  unfold Codec.jsonText at h
  split at h
  · split at h
    · injection h with h; exact h.symm
    · cases h
  · cases h

/-! ## the result shapes of the translation -/

/-- the format texts of the `fmt.Errorf` calls of amount.go and percentage.go, one for each `Err`;
    `Props.C06.Src.src_AmountFromString` and its neighbours hold the regenerated code to them -/
def errFormat : Err → String
  | .separators => "amount must contain 0 or 1 decimal separators: %v"
  | .major => "invalid major number '%v', %w"
  | .majorDigits => "invalid major number '%v', only digits expected"
  | .minor => "invalid decimal number '%v', %w"
  | .minorDigits => "invalid decimal number '%v', only digits expected"
  | .decimals => "invalid decimal number '%v', too many decimal places"
  | .range => "invalid number '%v', value out of range"
  | .json => "invalid JSON"
  | .empty => "invalid percentage, empty string"

/-- Go's `(value, error)` pair: the zero value and the format text on an error -/
def toGo : Except Err Amount → Amount × Option Str
  | .ok a => (a, none)
  | .error e => (⟨0, 0⟩, GoStr.errNew (errFormat e))

def toGoP : Except Err Pct → Pct × Option Str
  | .ok p => (p, none)
  | .error e => (⟨⟨0, 0⟩⟩, GoStr.errNew (errFormat e))

/-- the wrappers: the receiver keeps its value on an error -/
def toGoU {α : Type} (cur : α) : Except Err α → Option Str × α
  | .ok a => (none, a)
  | .error e => (GoStr.errNew (errFormat e), cur)

/-- `jsonText` in the result shape of the translation -/
def jsonTextGo : Except Err (Text × Bool) → Text × Bool × Option Str
  | .ok (t, null) => (t, null, none)
  | .error _ => ([], false, some GoJson.errJson)

theorem errJson_eq : GoStr.errNew (errFormat .json) = some GoJson.errJson := by decide

theorem toGo_snd_isSome (r : Except Err Amount) : (toGo r).2.isSome = true ↔ ∃ e, r = .error e := by
  cases r <;> simp [toGo, GoStr.errNew]

theorem toGo_snd_eq_none (r : Except Err Amount) : (toGo r).2 = none ↔ ∃ a, r = .ok a := by
  cases r <;> simp [toGo, GoStr.errNew]

theorem toGoP_snd_eq_none (r : Except Err Pct) : (toGoP r).2 = none ↔ ∃ p, r = .ok p := by
  cases r <;> simp [toGoP, GoStr.errNew]

/-- `toGo` through a call of `ParseInt`: the `if err != nil { return … }` of the translation
    (through a plain test it goes by `apply_ite`) -/
theorem toGo_intPart (s : Text) (e : Err) (k : Int → Except Err Amount) :
    toGo (intPart s e k) =
      if (goParseInt s).2.isSome = true then (⟨0, 0⟩, GoStr.errNew (errFormat e)) else toGo (k (goParseInt s).1) := by
  unfold intPart
  cases h : parseInt64 s with
  | ok v => simp [goParseInt, h]
  | error x => cases x <;> simp [goParseInt, h, toGo]

/-! ## percentages -/

/-- `str[l-1:] == "%"` is `getLast? = some '%'`, `str[:l-1]` is `dropLast` -/
theorem drop_last_eq (s : Text) (c : Char) (hne : s ≠ []) :
    (List.drop (Int.toNat ((s.length : Int) - 1)) s = [c]) ↔ s.getLast? = some c := by
  rcases List.eq_nil_or_concat s with h | ⟨t, d, h⟩
  · exact absurd h hne
  · subst h
    have : Int.toNat (((t.concat d).length : Int) - 1) = t.length := by simp
    rw [this]
    simp

theorem take_last_eq (s : Text) : List.take (Int.toNat ((s.length : Int) - 1)) s = s.dropLast := by
  have : Int.toNat ((s.length : Int) - 1) = s.length - 1 := by omega
  rw [this, List.dropLast_eq_take]

end GoblVerif.CodecTie
