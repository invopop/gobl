/-
  Helper lemmas for C20.  `Total.Merge` is, at both levels (categories by code, rate groups by
  `Matches`), an `upsert` by a key (Proofs/Upsert.lean): the group of a rate row (`groupKey`), the
  code of a category.  What holds of a fold of upserts by any key is proved for `mergeInto`.
-/
import GoblVerif.Model.Merge
import GoblVerif.Spec.C20
import GoblVerif.Proofs.Num
import GoblVerif.Proofs.UpsertSum

namespace GoblVerif.Merge
open GoblVerif GoblVerif.Spec.C20

/-! ### merging a list into a list -/

section fold
variable {α κ M : Type} (p : α → α → Bool) (f : α → α → α)

/-- `ys` merged into `xs` one by one: `p · y` selects the element `m` that absorbs `y`, as `f m y` -/
def mergeInto (xs ys : List α) : List α := ys.foldl (fun l y => upsert (p · y) (f · y) y l) xs

theorem forall_mergeInto (Inv : α → Prop) (hInv : ∀ m y, Inv m → Inv y → p m y = true → Inv (f m y))
    (xs ys : List α) (hxs : ∀ m ∈ xs, Inv m) (hys : ∀ y ∈ ys, Inv y) : ∀ m ∈ mergeInto p f xs ys, Inv m := by
  unfold mergeInto
  induction ys generalizing xs with
  | nil => exact hxs
  | cons y ys ih =>
    have hy := hys y (by simp)
    exact ih _ (forall_updFirst hxs (fun m hm h => hInv m y (hxs m hm) hy h) (by simpa using hy))
      (fun z hz => hys z (by simp [hz]))

theorem sum_mergeInto [AddCommMonoid M] (Inv : α → Prop) (g : α → M)
    (hInv : ∀ m y, Inv m → Inv y → p m y = true → Inv (f m y))
    (hg : ∀ m y, Inv m → Inv y → p m y = true → g (f m y) = g m + g y)
    (xs ys : List α) (hxs : ∀ m ∈ xs, Inv m) (hys : ∀ y ∈ ys, Inv y) :
    ((mergeInto p f xs ys).map g).sum = (xs.map g).sum + (ys.map g).sum := by
  induction ys generalizing xs with
  | nil => simp [mergeInto]
  | cons y ys ih =>
    have hy := hys y (by simp)
    -- one element first: the invariant survives it (`forall_mergeInto`), the measure rises by `g y`
    have h1 := forall_mergeInto p f Inv hInv xs [y] hxs (by simpa using hy)
    rw [show mergeInto p f xs (y :: ys) = mergeInto p f (mergeInto p f xs [y]) ys from rfl,
      ih _ h1 (fun z hz => hys z (by simp [hz])),
      show mergeInto p f xs [y] = upsert (p · y) (f · y) y xs from rfl,
      sum_map_updFirst g (g y) (fun m hm h => hg m y (hxs m hm) hy h) (by simp), List.map_cons, List.sum_cons, add_assoc]

variable {p f} {key : α → κ}

theorem nodup_mergeInto [DecidableEq κ] (hk : ∀ y, Keyed (p · y) (f · y) y key) (xs ys : List α)
    (h : (xs.map key).Nodup) : ((mergeInto p f xs ys).map key).Nodup := by
  unfold mergeInto
  induction ys generalizing xs with
  | nil => exact h
  | cons y ys ih => exact ih _ ((hk y).nodup h)

theorem mergeInto_self (hk : ∀ y, Keyed (p · y) (f · y) y key) (neg : α → α) (hneg : ∀ x, key (neg x) = key x)
    (pre post : List α) (h : ((pre ++ post).map key).Nodup) :
    mergeInto p f (pre ++ post) (post.map neg) = pre ++ post.map (fun x => f x (neg x)) := by
  unfold mergeInto
  induction post generalizing pre with
  | nil => simp
  | cons x post ih =>
    have hx : p x (neg x) = true := ((hk (neg x)).sel x).mpr (hneg x).symm
    have hpre : ∀ y ∈ pre, ¬ p y (neg x) = true := fun y hy => by
      rw [(hk (neg x)).sel, hneg]
      rw [List.map_append, List.map_cons, List.nodup_append] at h
      exact fun e => h.2.2 _ (List.mem_map_of_mem hy) _ (by simp) e
    have h' : ((pre ++ [f x (neg x)] ++ post).map key).Nodup := by
      simpa [(hk (neg x)).keep x hx] using h
    rw [List.map_cons, List.foldl_cons, upsert, updFirst_found hpre hx, List.map_cons]
    simpa using ih (pre ++ [f x (neg x)]) h'

end fold

theorem wsum_eq_sum {α : Type} (sel : α → Bool) (w : α → ℤ) (l : List α) :
    wsum sel w l = (l.map fun x => if sel x then w x else 0).sum := by
  induction l with
  | nil => rfl
  | cons x xs ih => simp only [wsum, ih, List.map_cons, List.sum_cons]

theorem pairwiseNot_iff_nodup {α κ : Type} {eqv : α → α → Bool} {key : α → κ}
    (h : ∀ a b, eqv a b = true ↔ key a = key b) (l : List α) :
    pairwiseNot eqv l = true ↔ (l.map key).Nodup := by
  induction l with
  | nil => simp [pairwiseNot]
  | cons x xs ih =>
    simp only [pairwiseNot, Bool.and_eq_true, List.all_eq_true, Bool.not_eq_true', ih, List.map_cons, List.nodup_cons,
      List.mem_map, not_exists, not_and, Bool.eq_false_iff, Ne, h]
    exact and_congr_left fun _ => forall_congr' fun y => ⟨fun g hy e => g hy e.symm, fun g hy e => g hy e.symm⟩

/-! ### rate groups: `sameGroup` is equality of a key -/

/-- what identifies a rate group: extensions, country, the percentage as a number and,
    unless the group is exempt, the surcharge percentage as a number -/
def groupKey (r : RateTotal) : List (String × String) × String × Option ℚ × Option ℚ :=
  (r.ext, r.country, r.percent.map (·.amount.toRat),
    r.percent.bind fun _ => r.surcharge.map (·.percent.amount.toRat))

theorem samePercent_iff (p q : Option Pct) :
    samePercent p q = true ↔ p.map (·.amount.toRat) = q.map (·.amount.toRat) := by
  rcases p with _ | p <;> rcases q with _ | q <;> simp [samePercent]

theorem sameSurchargePercent_iff (s t : Option Surcharge) :
    sameSurchargePercent s t = true ↔ s.map (·.percent.amount.toRat) = t.map (·.percent.amount.toRat) := by
  rcases s with _ | s <;> rcases t with _ | t <;> simp [sameSurchargePercent]

theorem sameGroup_iff (k r : RateTotal) : sameGroup k r = true ↔ groupKey k = groupKey r := by
  simp only [sameGroup, groupKey, Bool.and_eq_true, Bool.or_eq_true, beq_iff_eq, samePercent_iff,
    sameSurchargePercent_iff, Prod.mk.injEq, and_assoc]
  rcases k.percent with _ | p <;> rcases r.percent with _ | q <;> simp

theorem sameGroup_congr {a a' b b' : RateTotal} (ha : groupKey a = groupKey a') (hb : groupKey b = groupKey b') :
    sameGroup a b = sameGroup a' b' := by
  rw [Bool.eq_iff_iff, sameGroup_iff, sameGroup_iff, ha, hb]

theorem sameGroup_refl (k : RateTotal) : sameGroup k k = true := (sameGroup_iff k k).mpr rfl

theorem sameGroup_symm (a b : RateTotal) : sameGroup a b = sameGroup b a := by
  rw [Bool.eq_iff_iff, sameGroup_iff, sameGroup_iff, eq_comm]

theorem sameGroup_trans {a b c : RateTotal} (h1 : sameGroup a b = true) (h2 : sameGroup b c = true) :
    sameGroup a c = true :=
  (sameGroup_iff a c).mpr (((sameGroup_iff a b).mp h1).trans ((sameGroup_iff b c).mp h2))

/-- `RateTotal.Matches` decides exactly "same rate group" of the specification -/
theorem matches_eq_sameGroup (a b : RateTotal) : a.matches b = sameGroup a b := by
  unfold RateTotal.matches sameGroup extEquals samePercent sameSurchargePercent
  rcases a.percent with _ | p <;> rcases b.percent with _ | q
  · simp [Bool.beq_eq_decide_eq]
  · simp
  · simp
  · rcases a.surcharge with _ | s <;> rcases b.surcharge with _ | t <;>
      simp [Pct.equals_eq, Bool.beq_eq_decide_eq, Bool.and_assoc]

/-! ### the two levels of `Merge` as upserts by a key -/

theorem mergeRate_eq (l : List RateTotal) (rt : RateTotal) :
    mergeRate l rt = upsert (·.matches rt) (·.absorb rt) rt l :=
  eq_updFirst (mergeRate · rt) rfl (fun _ _ => rfl) l

theorem mergeCategory_eq (l : List CategoryTotal) (ct : CategoryTotal) :
    mergeCategory l ct = upsert (·.code == ct.code) (·.absorb ct) ct l :=
  eq_updFirst (mergeCategory · ct) rfl (fun _ _ => rfl) l

theorem mergeRates_eq (rs rts : List RateTotal) :
    mergeRates rs rts = mergeInto RateTotal.matches RateTotal.absorb rs rts := by
  rw [mergeRates, funext₂ mergeRate_eq]; rfl

theorem mergeCategories_eq (cs cts : List CategoryTotal) :
    mergeCategories cs cts = mergeInto (fun m c => m.code == c.code) CategoryTotal.absorb cs cts := by
  rw [mergeCategories, funext₂ mergeCategory_eq]; rfl

/-- Absorbing a row of the same group keeps the group of the matched row: extensions,
    country and percentage are not touched, and a surcharge is only copied into a row
    that has none — an exempt one, whose key ignores it, or one whose partner has none either. -/
theorem groupKey_absorb (m x : RateTotal) (h : sameGroup m x = true) : groupKey (m.absorb x) = groupKey m := by
  rw [sameGroup_iff] at h
  simp only [groupKey, Prod.mk.injEq] at h ⊢
  refine ⟨rfl, rfl, rfl, ?_⟩
  obtain ⟨-, -, hp, hs⟩ := h
  show (m.percent.bind fun _ => (m.absorb x).surcharge.map _) = _
  revert hp hs
  unfold RateTotal.absorb
  rcases m.percent with _ | p
  · intros; rfl
  · rcases x.percent with _ | q
    · simp
    · rcases m.surcharge with _ | s <;> rcases x.surcharge with _ | t <;> simp

theorem keyedRate (rt : RateTotal) : Keyed (·.matches rt) (·.absorb rt) rt groupKey :=
  ⟨fun _ => by rw [matches_eq_sameGroup, sameGroup_iff],
   fun m h => groupKey_absorb m rt (by rwa [matches_eq_sameGroup] at h)⟩

theorem keyedCat (ct : CategoryTotal) : Keyed (·.code == ct.code) (·.absorb ct) ct (·.code) :=
  ⟨fun _ => beq_iff_eq, fun _ _ => rfl⟩

theorem cat_absorb_code (m c : CategoryTotal) : (m.absorb c).code = m.code := rfl

theorem cat_absorb_rates (m c : CategoryTotal) : (m.absorb c).rates = mergeRates m.rates c.rates := rfl

/-! ### negation -/

theorem rate_negate_negate (r : RateTotal) : r.negate.negate = r := by
  obtain ⟨k, co, ex, b, p, su, a⟩ := r
  rcases su with _ | s <;> simp [RateTotal.negate, negate_negate]

theorem category_negate_negate (c : CategoryTotal) : c.negate.negate = c := by
  obtain ⟨code, ret, rates, am, su, ap⟩ := c
  rcases su with _ | s <;>
    simp [CategoryTotal.negate, negate_negate, Function.comp_def, rate_negate_negate]

theorem groupKey_negate (r : RateTotal) : groupKey r.negate = groupKey r := by
  unfold groupKey RateTotal.negate
  rcases r.surcharge with _ | s <;> rfl

theorem sub_same_exp (a b : Amount) (h : b.exp = a.exp) : a.sub b = ⟨a.value - b.value, a.exp⟩ :=
  sub_of_exp_eq a b h

/-! ### summaries at one precision: every figure adds -/

theorem uniformRate_iff (e : ℕ) (r : RateTotal) :
    uniformRate e r = true ↔ r.base.exp = e ∧ r.amount.exp = e ∧ ∀ s, r.surcharge = some s → s.amount.exp = e := by
  unfold uniformRate
  rcases r.surcharge with _ | s <;> simp [and_assoc]

theorem uniformCategory_iff (e : ℕ) (c : CategoryTotal) :
    uniformCategory e c = true ↔
      c.amount.exp = e ∧ (∀ s, c.surcharge = some s → s.exp = e) ∧ ∀ r ∈ c.rates, uniformRate e r = true := by
  unfold uniformCategory
  rcases c.surcharge with _ | s <;> simp [and_assoc]

theorem uniform_iff (e : ℕ) (t : Total) :
    uniform e t = true ↔ t.sum.exp = e ∧ ∀ c ∈ t.categories, uniformCategory e c = true := by
  unfold uniform; simp

theorem absorb_uniform (e : ℕ) (m x : RateTotal) (hm : uniformRate e m = true) (hx : uniformRate e x = true) :
    uniformRate e (m.absorb x) = true := by
  rw [uniformRate_iff] at *
  obtain ⟨m1, m2, m3⟩ := hm
  obtain ⟨x1, x2, x3⟩ := hx
  unfold RateTotal.absorb
  refine ⟨by simp [Amount.add, m1], by simp [Amount.add, m2], ?_⟩
  rcases hms : m.surcharge with _ | ms <;> rcases hxs : x.surcharge with _ | xs <;> simp_all [Amount.add]

theorem absorb_base (e : ℕ) (m x : RateTotal) (hm : uniformRate e m = true) (hx : uniformRate e x = true) :
    (m.absorb x).base.value = m.base.value + x.base.value := by
  have h1 := ((uniformRate_iff e m).mp hm).1
  have h2 := ((uniformRate_iff e x).mp hx).1
  unfold RateTotal.absorb
  simp only
  rw [add_of_exp_eq _ _ (by omega)]

theorem absorb_amount (e : ℕ) (m x : RateTotal) (hm : uniformRate e m = true) (hx : uniformRate e x = true) :
    (m.absorb x).amount.value = m.amount.value + x.amount.value := by
  have h1 := ((uniformRate_iff e m).mp hm).2.1
  have h2 := ((uniformRate_iff e x).mp hx).2.1
  unfold RateTotal.absorb
  simp only
  rw [add_of_exp_eq _ _ (by omega)]

/-- the surcharge of the absorbing row is the sum of the two rows' surcharges
    (absent = 0), whichever side carries one — no condition on the rows' shape -/
theorem absorb_surcharge (e : ℕ) (m x : RateTotal) (hm : uniformRate e m = true) (hx : uniformRate e x = true) :
    surchargeValue (m.absorb x) = surchargeValue m + surchargeValue x := by
  have m3 := ((uniformRate_iff e m).mp hm).2.2
  have x3 := ((uniformRate_iff e x).mp hx).2.2
  unfold surchargeValue RateTotal.absorb
  rcases hms : m.surcharge with _ | ms <;> rcases hxs : x.surcharge with _ | xs <;> simp_all
  rw [add_of_exp_eq _ _ (by omega)]

theorem rates_uniform (e : ℕ) (rs rts : List RateTotal) (hrs : ∀ r ∈ rs, uniformRate e r = true)
    (hrts : ∀ r ∈ rts, uniformRate e r = true) : ∀ r ∈ mergeRates rs rts, uniformRate e r = true := by
  rw [mergeRates_eq]
  exact forall_mergeInto _ _ _ (fun m x hm hx _ => absorb_uniform e m x hm hx) rs rts hrs hrts

theorem rates_figure (e : ℕ) (f : RateTotal → ℤ) (k : RateTotal)
    (hf : ∀ m x, uniformRate e m = true → uniformRate e x = true → f (m.absorb x) = f m + f x)
    (rs rts : List RateTotal) (hrs : ∀ r ∈ rs, uniformRate e r = true) (hrts : ∀ r ∈ rts, uniformRate e r = true) :
    wsum (sameGroup k) f (mergeRates rs rts) = wsum (sameGroup k) f rs + wsum (sameGroup k) f rts := by
  simp only [wsum_eq_sum, mergeRates_eq]
  refine sum_mergeInto _ _ (uniformRate e · = true) _ (fun m x hm hx _ => absorb_uniform e m x hm hx)
    (fun m x hm hx h => ?_) rs rts hrs hrts
  rw [matches_eq_sameGroup] at h
  rw [sameGroup_congr rfl (groupKey_absorb m x h), ← sameGroup_congr rfl ((sameGroup_iff m x).mp h), hf m x hm hx]
  split <;> simp

theorem cat_absorb_uniform (e : ℕ) (m c : CategoryTotal) (hm : uniformCategory e m = true)
    (hc : uniformCategory e c = true) : uniformCategory e (m.absorb c) = true := by
  rw [uniformCategory_iff] at *
  obtain ⟨m1, m2, m3⟩ := hm
  obtain ⟨c1, c2, c3⟩ := hc
  refine ⟨by simp [CategoryTotal.absorb, Amount.add, m1], ?_, rates_uniform e m.rates c.rates m3 c3⟩
  unfold CategoryTotal.absorb
  rcases hms : m.surcharge with _ | ms <;> rcases hcs : c.surcharge with _ | cs <;> simp_all [Amount.add]

theorem cat_absorb_amount (e : ℕ) (m c : CategoryTotal) (hm : uniformCategory e m = true)
    (hc : uniformCategory e c = true) : (m.absorb c).amount.value = m.amount.value + c.amount.value := by
  have h1 := ((uniformCategory_iff e m).mp hm).1
  have h2 := ((uniformCategory_iff e c).mp hc).1
  unfold CategoryTotal.absorb
  simp only
  rw [add_of_exp_eq _ _ (by omega)]

theorem cat_absorb_surcharge (e : ℕ) (m c : CategoryTotal) (hm : uniformCategory e m = true)
    (hc : uniformCategory e c = true) :
    catSurchargeValue (m.absorb c) = catSurchargeValue m + catSurchargeValue c := by
  have h1 := ((uniformCategory_iff e m).mp hm).2.1
  have h2 := ((uniformCategory_iff e c).mp hc).2.1
  unfold catSurchargeValue CategoryTotal.absorb
  rcases hms : m.surcharge with _ | ms <;> rcases hcs : c.surcharge with _ | cs <;> simp_all
  rw [add_of_exp_eq _ _ (by omega)]

theorem categories_uniform (e : ℕ) (cs cts : List CategoryTotal) (hcs : ∀ c ∈ cs, uniformCategory e c = true)
    (hcts : ∀ c ∈ cts, uniformCategory e c = true) : ∀ c ∈ mergeCategories cs cts, uniformCategory e c = true := by
  rw [mergeCategories_eq]
  exact forall_mergeInto _ _ _ (fun m c hm hc _ => cat_absorb_uniform e m c hm hc) cs cts hcs hcts

theorem categories_figure (e : ℕ) (g : CategoryTotal → ℤ) (code : String)
    (hg : ∀ m c, uniformCategory e m = true → uniformCategory e c = true → g (m.absorb c) = g m + g c)
    (cs cts : List CategoryTotal) (hcs : ∀ c ∈ cs, uniformCategory e c = true)
    (hcts : ∀ c ∈ cts, uniformCategory e c = true) :
    wsum (fun c => c.code == code) g (mergeCategories cs cts) =
      wsum (fun c => c.code == code) g cs + wsum (fun c => c.code == code) g cts := by
  simp only [wsum_eq_sum, mergeCategories_eq]
  refine sum_mergeInto _ _ (uniformCategory e · = true) _ (fun m x hm hx _ => cat_absorb_uniform e m x hm hx)
    (fun m x hm hx h => ?_) cs cts hcs hcts
  rw [cat_absorb_code, ← beq_iff_eq.mp h, hg m x hm hx]
  split <;> simp

/-! ### a summary merged with its negation -/

theorem add_negate_zero (a : Amount) : (a.add a.negate).value = 0 := by
  rw [add_of_exp_eq a a.negate rfl]
  simp [Amount.negate]

theorem rate_absorb_negate_zero (r : RateTotal) : rateZero (r.absorb r.negate) = true := by
  unfold rateZero surchargeValue RateTotal.absorb RateTotal.negate
  simp only [add_negate_zero, beq_self_eq_true, Bool.true_and]
  rcases r.surcharge with _ | s
  · simp
  · simp [add_negate_zero]

theorem cat_absorb_negate_zero (c : CategoryTotal) :
    (c.absorb c.negate).amount.value = 0 ∧ catSurchargeValue (c.absorb c.negate) = 0 := by
  refine ⟨add_negate_zero c.amount, ?_⟩
  unfold catSurchargeValue CategoryTotal.absorb CategoryTotal.negate
  rcases c.surcharge with _ | s
  · simp
  · simp [add_negate_zero]

theorem rates_self_negate (rs : List RateTotal) (h : pairwiseNot sameGroup rs = true) :
    mergeRates rs (rs.map RateTotal.negate) = rs.map (fun r => r.absorb r.negate) := by
  rw [mergeRates_eq]
  exact mergeInto_self keyedRate _ groupKey_negate [] rs ((pairwiseNot_iff_nodup sameGroup_iff rs).mp h)

theorem categories_self_negate (cs : List CategoryTotal)
    (h : pairwiseNot (fun a b => a.code == b.code) cs = true) :
    mergeCategories cs (cs.map CategoryTotal.negate) = cs.map (fun c => c.absorb c.negate) := by
  rw [mergeCategories_eq]
  exact mergeInto_self keyedCat CategoryTotal.negate (fun _ => rfl) [] cs
    ((pairwiseNot_iff_nodup (key := (·.code)) (fun _ _ => beq_iff_eq) cs).mp h)

/-! ### no duplicates are created -/

theorem noDuplicates_iff (t : Total) :
    noDuplicates t = true ↔
      pairwiseNot (fun (a b : CategoryTotal) => a.code == b.code) t.categories = true ∧
      ∀ c ∈ t.categories, pairwiseNot sameGroup c.rates = true := by
  unfold noDuplicates; simp

theorem mergeRates_nodup (rs rts : List RateTotal) (h : pairwiseNot sameGroup rs = true) :
    pairwiseNot sameGroup (mergeRates rs rts) = true := by
  rw [pairwiseNot_iff_nodup sameGroup_iff] at h ⊢
  rw [mergeRates_eq]
  exact nodup_mergeInto keyedRate rs rts h

theorem mergeCategories_nodup (cs cts : List CategoryTotal)
    (h : pairwiseNot (fun (a b : CategoryTotal) => a.code == b.code) cs = true)
    (hcs : ∀ c ∈ cs, pairwiseNot sameGroup c.rates = true) (hcts : ∀ c ∈ cts, pairwiseNot sameGroup c.rates = true) :
    pairwiseNot (fun (a b : CategoryTotal) => a.code == b.code) (mergeCategories cs cts) = true ∧
      ∀ c ∈ mergeCategories cs cts, pairwiseNot sameGroup c.rates = true := by
  have hk : ∀ a b : CategoryTotal, (a.code == b.code) = true ↔ a.code = b.code := fun _ _ => beq_iff_eq
  rw [pairwiseNot_iff_nodup hk] at h ⊢
  rw [mergeCategories_eq]
  exact ⟨nodup_mergeInto keyedCat cs cts h,
    forall_mergeInto _ _ (fun c => pairwiseNot sameGroup c.rates = true)
      (fun m x hm _ _ => mergeRates_nodup m.rates x.rates hm) cs cts hcs hcts⟩

end GoblVerif.Merge
