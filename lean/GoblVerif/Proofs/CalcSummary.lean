/-
  From the tax part of the calculation model to the executable oracle
  `Spec.C02.summaryOk`:

  * the rows the model accumulates (`prepareRow`, `removeIncluded`) are the
    specification's tax-exclusive working totals (`Spec.C02.exclusive`:
    Proofs/CalcRows.lean);
  * the invariant of the accumulation (Proofs/CalcGroups.lean) says what every
    group's base is; from it amounts, surcharges, category sums and the tax sum
    as exact rationals for both rounding rules, and their presentation by
    `tax.Total.round`.

  The file opens with the oracle itself, clause by clause, as propositions (`Spec.C02.rateOk_iff` …
  `summaryRowsOk_iff`: "a is q rounded to the currency" is `a = rnd c q`); nothing below unfolds a clause.
-/
import GoblVerif.Spec.C02
import GoblVerif.Proofs.CalcRows

namespace GoblVerif.Spec.C02
open GoblVerif GoblVerif.Calc

theorem presentedAs_iff {c : ℕ} {q : ℚ} {a : Amount} : presentedAs c q a = true ↔ a = rnd c q := by
  simp [presentedAs, eq_rnd_iff]

theorem pairwiseDistinct_iff {α : Type} [DecidableEq α] {l : List α} :
    pairwiseDistinct l = true ↔ l.Nodup := by
  unfold List.Nodup
  induction l with
  | nil => simp [pairwiseDistinct]
  | cons x xs ih =>
    simp only [pairwiseDistinct, Bool.and_eq_true, Bool.not_eq_true', ih, List.pairwise_cons, List.contains_eq_mem,
      decide_eq_false_iff_not]
    exact and_congr_left' ⟨fun h y hy e => h (e ▸ hy), fun h hm => h x hm rfl⟩

theorem rateOk_iff {c : ℕ} {cs : List Contribution} {cat : String} {rt : RateTotal} :
    rateOk c cs cat rt = true ↔
      rt.base = rnd c (baseQ (groupOf cs cat (keyOfRate rt))) ∧ rt.amount = rnd c (amountQ c cs cat rt) ∧
      ∀ q s, surchargeQ c cs cat rt = some q → rt.surcharge = some s → s.2 = rnd c q := by
  unfold rateOk
  cases surchargeQ c cs cat rt <;> cases rt.surcharge <;> simp [presentedAs_iff, and_assoc]

theorem catOk_iff {c : ℕ} {cs : List Contribution} {ct : CatTotal} :
    catOk c cs ct = true ↔ (∀ rt ∈ ct.rates, rateOk c cs ct.code rt = true) ∧
      ct.amount = rnd c (catAmountQ c cs ct) ∧
      (∀ s, ct.surcharge = some s → catSurchargesQ c cs ct ≠ [] ∧ s = rnd c (catSurchargesQ c cs ct).sum) ∧
      (ct.surcharge = none → catSurchargesQ c cs ct = []) := by
  unfold catOk
  cases ct.surcharge <;> simp [presentedAs_iff, and_assoc]

theorem partitionOk_iff {cs : List Contribution} {cats : List CatTotal} :
    partitionOk cs cats = true ↔ (cats.map (·.code)).Nodup ∧ (∀ ct ∈ cats, (ct.rates.map keyOfRate).Nodup) ∧
      ∀ x ∈ cs, ∃ ct ∈ cats, ct.code = x.cat ∧ ∃ rt ∈ ct.rates, keyOfRate rt = x.key := by
  simp only [partitionOk, Bool.and_eq_true, List.all_eq_true, List.any_eq_true, beq_iff_eq, decide_eq_true_eq,
    pairwiseDistinct_iff, and_assoc]

theorem taxSumOk_iff {c : ℕ} {taxQ : ℚ} {t : Totals} :
    taxSumOk c taxQ t = true ↔ (∀ x, t.taxes = some x → x.sum = rnd c taxQ ∧ x.cats ≠ []) ∧ t.tax = rnd c taxQ := by
  unfold taxSumOk
  cases t.taxes <;> simp [presentedAs_iff]

theorem includedOk_iff {inc : Option String} {cats : List CatTotal} {t : Totals} :
    includedOk inc cats t = true ↔ (inc = none → t.taxIncluded = none) ∧
      ∀ k, inc = some k → t.taxIncluded = (cats.find? (fun ct => ct.code == k)).map (·.amount) := by
  unfold includedOk
  cases inc <;> simp

theorem onlyIncludedOk_iff {c : ℕ} {inc : Option String} {cats : List CatTotal} {gross : Amount} {t : Totals} :
    onlyIncludedOk c inc cats gross t = true ↔ ∀ k ct, inc = some k → cats = [ct] → ct.code = k →
      ct.retained = false → ct.surcharge = none → t.totalWithTax = rnd c gross.toRat := by
  unfold onlyIncludedOk
  cases inc with
  | none => simp
  | some k =>
    match cats with
    | [] => simp
    | [ct] =>
      by_cases h : (ct.code == k && !ct.retained && ct.surcharge.isNone) = true
      · simp_all [presentedAs_iff]
      · simp only [h, Bool.false_eq_true, if_false, true_iff]
        intro k' ct' hk hc
        cases hk; cases hc
        exact fun h1 h2 h3 => absurd (by simp [h1, h2, h3]) h
    | _ :: _ :: _ => simp

theorem summaryRowsOk_iff {rule : Rule} {c : ℕ} {inc : Option String} {rows : List Row} {gross : Amount} {out : Out} :
    summaryRowsOk rule c inc rows gross out = true ↔ (out.totals = none → rows = []) ∧ ∀ t, out.totals = some t →
      partitionOk (contributions rule c inc rows) (catsOf t) = true ∧
      (∀ ct ∈ catsOf t, catOk c (contributions rule c inc rows) ct = true) ∧
      taxSumOk c ((catsOf t).map (catTaxQ c (contributions rule c inc rows))).sum t = true ∧
      includedOk inc (catsOf t) t = true ∧ onlyIncludedOk c inc (catsOf t) gross t = true := by
  unfold summaryRowsOk
  cases out.totals <;> simp [and_assoc]

end GoblVerif.Spec.C02

namespace GoblVerif.Calc
open GoblVerif.Spec GoblVerif.Spec.C02
open GoblVerif.Spec.C03 (surOf)
open Err (roundCat roundRate)

theorem rescale_presents (c : ℕ) (a : Amount) (q : ℚ) (h : a.toRat = q) : exactOps.rescale a c = rnd c q :=
  h ▸ rescaleX_rnd a c

theorem keyOfRate_roundRate (c : ℕ) (rt : RateTotal) : keyOfRate (roundRate c rt) = keyOfRate rt := by
  unfold roundRate keyOfRate
  cases rt.surcharge <;> rfl

/-- **one group, calculated and presented**: it satisfies the oracle; its working amount and
surcharge, as the oracle computes them from the contributions, are the ones the category adds up -/
theorem roundRate_ok (r : Rule) (c : ℕ) (ws : List Contribution) (cat : String) (x : RateTotal)
    (h : GroupFacts r c ws cat x) :
    keyOfRate (roundRate c (rateAmounts exactOps x c)) = keyOfRate x ∧
    Spec.C02.rateOk c ws cat (roundRate c (rateAmounts exactOps x c)) = true ∧
    amountQ c ws cat (roundRate c (rateAmounts exactOps x c)) = taxedAmount r c (rateAmounts exactOps x c) ∧
    surchargeQ c ws cat (roundRate c (rateAmounts exactOps x c)) =
      (surOf (rateAmounts exactOps x c)).map Amount.toRat := by
  obtain ⟨h1, h2, h3⟩ := h
  have hk : keyOfRate (roundRate c (rateAmounts exactOps x c)) = keyOfRate x :=
    (keyOfRate_roundRate c _).trans (rateAmounts_key x c)
  -- a percentage of the base: its value is the oracle's working figure, and it is what the category adds
  have hq : ∀ p : Pct, (pctOf exactOps p x.base).toRat =
      pctAt (workExp c (groupOf ws cat (keyOfRate x))) (baseQ (groupOf ws cat (keyOfRate x))) p ∧
      contrib r c (pctOf exactOps p x.base) = (pctOf exactOps p x.base).toRat := fun p =>
    ⟨by rw [← h1, ← h2, pctOf_rnd]; rfl, by
      by_cases hr : r = .currency
      · exact contrib_at r c _ (h3 hr)
      · exact contrib_of_ne hr c _⟩
  have hb := rescale_presents c x.base _ h1
  have hp := fun p : Pct => rescale_presents c (pctOf exactOps p x.base) _ (hq p).1
  have hz := rescale_presents c ⟨0, c⟩ 0 (toRat_zero c)
  rw [rateOk_iff]
  unfold amountQ surchargeQ taxedAmount surOf
  refine ⟨hk, ?_⟩
  rw [hk]
  unfold roundRate rateAmounts
  simp only [exact_rescale] at hb hp hz
  cases x.percent with
  | none => cases x.surcharge <;> simp [hb, hz]
  | some p => cases x.surcharge <;> simp [hb, hp, (hq _).1, (hq _).2]

/-- **one category, calculated and presented**: it satisfies the oracle, and what the
oracle takes as its tax is what `calculateFinalSum` adds -/
theorem roundCat_ok (r : Rule) (c : ℕ) (ws : List Contribution) (ct : CatTotal) (h : CatInv r c ws ct) :
    Spec.C02.catOk c ws (roundCat c (catAmounts exactOps r c ct)) = true ∧
    catTaxQ c ws (roundCat c (catAmounts exactOps r c ct)) = catSignedQ (catAmounts exactOps r c ct) ∧
    (roundCat c (catAmounts exactOps r c ct)).rates.map keyOfRate = ct.rates.map keyOfRate := by
  obtain ⟨_, hF, _⟩ := h
  have hR := fun x hx => roundRate_ok r c ws ct.code x (hF x hx)
  have hrates := roundCat_catAmounts_rates r c ct
  obtain ⟨hA, hS⟩ := roundCat_catAmounts_sums r c ct (amountQ c ws ct.code) (surchargeQ c ws ct.code)
    (fun x hx => (hR x hx).2.2.1) (fun x hx => (hR x hx).2.2.2)
  change catAmountQ c ws (roundCat c (catAmounts exactOps r c ct)) = _ at hA
  change catSurchargesQ c ws (roundCat c (catAmounts exactOps r c ct)) = _ at hS
  obtain ⟨hsome, hnone⟩ := catAmounts_surcharge r c ct fun hr x hx => (hF x hx).currency hr
  refine ⟨catOk_iff.mpr ⟨?_, ?_, ?_, ?_⟩, ?_, ?_⟩
  · rw [hrates]
    exact List.forall_mem_map.mpr fun x hx => (hR x hx).2.1
  · rw [hA]; exact rescale_presents c _ _ rfl
  · rw [hS, Err.roundCat_surcharge]
    intro s' hs'
    obtain ⟨s, hsc, rfl⟩ := Option.map_eq_some_iff.mp hs'
    exact ⟨by simpa using (hsome s hsc).1, rescale_presents c s _ (hsome s hsc).2⟩
  · rw [hS, Err.roundCat_surcharge]
    intro hs'
    rw [hnone (Option.map_eq_none_iff.mp hs')]; rfl
  · unfold catTaxQ catSignedQ
    rw [hA, hS]
    show (if (catAmounts exactOps r c ct).retained then _ else _) = _
    cases hsc : (catAmounts exactOps r c ct).surcharge with
    | none => simp [hnone hsc]
    | some s => simp [(hsome s hsc).2]
  · rw [hrates, List.map_map]
    exact List.map_congr_left fun x hx => (hR x hx).1

/-- everything the oracle says about the summary itself -/
structure SummaryFacts (r : Rule) (c : ℕ) (cs : List Contribution) (tx : TaxTotal) : Prop where
  partition : partitionOk cs tx.cats = true
  cats : tx.cats.all (Spec.C02.catOk c cs) = true
  sum_precise : tx.preciseSum.toRat = ((tx.cats.map (catTaxQ c cs)).sum : ℚ)
  sum_presented : tx.sum = exactOps.rescale tx.preciseSum c
  cat_presented : ∀ ct ∈ tx.cats, ct.amount = exactOps.rescale ct.precise c
  cat_plain : ∀ ct ∈ tx.cats, ct.retained = false → ct.surcharge = none → catTaxQ c cs ct = ct.precise.toRat

theorem taxTotal_summary (r : Rule) (c : ℕ) (inc : Option String) (rows : List Row) (tx : TaxTotal)
    (h : taxTotal exactOps r c inc rows = .ok tx) : SummaryFacts r c (contributions r c inc rows) tx := by
  have htx : tx = taxSummary exactOps r c (rows.map (exclRow c inc)) := taxTotal_rows r c inc rows tx h
  have hcats := taxSummary_cats r c (rows.map (exclRow c inc))
  have hsumP := taxSummary_preciseSum r c (rows.map (exclRow c inc))
  have hsum := taxSummary_sum r c (rows.map (exclRow c inc))
  rw [← htx, List.map_map] at hcats
  rw [← htx] at hsumP hsum
  obtain ⟨i1, i2, i3⟩ := baseRateTotals_inv r c inc rows
  set cs := contributions r c inc rows with hcs
  set cats0 := baseRateTotals exactOps r c (rows.map (exclRow c inc)) with hc0
  have hcats : tx.cats = cats0.map (fun ct => roundCat c (catAmounts exactOps r c ct)) := hcats
  have hok : ∀ ct ∈ cats0, _ := fun ct hct => roundCat_ok r c cs ct (i2 ct hct)
  refine ⟨?_, ?_, ?_, hsum, ?_, ?_⟩
  · refine partitionOk_iff.mpr ⟨?_, ?_, fun x hx => ?_⟩
    · rw [hcats, List.map_map]
      exact i1
    · rw [hcats, List.forall_mem_map]
      intro ct0 h0
      rw [(hok ct0 h0).2.2]
      exact (i2 ct0 h0).keys
    · obtain ⟨ct0, h0, hcode⟩ := List.mem_map.mp (i3 x hx)
      refine ⟨roundCat c (catAmounts exactOps r c ct0), by rw [hcats]; exact List.mem_map_of_mem h0, hcode, ?_⟩
      have hm := (i2 ct0 h0).covered x hx hcode.symm
      rw [← (hok ct0 h0).2.2] at hm
      exact List.mem_map.mp hm
  · rw [hcats, List.all_eq_true, List.forall_mem_map]
    exact fun ct0 h0 => (hok ct0 h0).1
  · rw [hsumP, (finalSum_toRat_any r c _).1, hcats, List.map_map, List.map_map]
    exact congrArg List.sum (List.map_congr_left fun ct0 h0 => ((hok ct0 h0).2.1).symm)
  · rw [hcats, List.forall_mem_map]
    exact fun _ _ => rfl
  · rw [hcats, List.forall_mem_map]
    intro ct0 h0 hret hsur
    rw [(hok ct0 h0).2.1]
    unfold catSignedQ
    rw [show (catAmounts exactOps r c ct0).retained = false from hret, Option.map_eq_none_iff.mp hsur]
    simp
    rfl

section
variable {r : Rule} {c : ℕ} {cs : List Contribution} {tx : TaxTotal} (F : SummaryFacts r c cs tx)
include F

theorem SummaryFacts.precise_toRat : tx.precise.toRat = ((tx.cats.map (catTaxQ c cs)).sum : ℚ) :=
  (precise_rounded c tx F.sum_presented).2.trans F.sum_precise

theorem taxSumOk_of_facts (t : Totals) (ht : t.taxes = if tx.cats.isEmpty then none else some tx)
    (htax : t.tax = exactOps.rescale tx.precise c) :
    taxSumOk c ((tx.cats.map (catTaxQ c cs)).sum : ℚ) t = true := by
  refine taxSumOk_iff.mpr ⟨fun x hx => ?_, htax ▸ rescale_presents c _ _ F.precise_toRat⟩
  rw [ht] at hx
  split at hx
  · cases hx
  · cases hx
    exact ⟨F.sum_presented ▸ rescale_presents c _ _ F.sum_precise, fun e => ‹¬ _› (by simp [e])⟩

theorem includedOk_of_facts (inc : Option String) (t : Totals)
    (ht : t.taxIncluded = (taxIncluded inc tx).map (exactOps.rescale · c)) : includedOk inc tx.cats t = true := by
  refine includedOk_iff.mpr ⟨fun hi => by rw [ht, hi]; rfl, fun k hi => ?_⟩
  rw [ht, hi]
  show ((tx.cats.find? (fun ct => ct.code == k)).map CatTotal.preciseAmount).map _ = _
  cases hf : tx.cats.find? (fun ct => ct.code == k) with
  | none => rfl
  | some ct => exact congrArg some (preciseAmount_rounded c ct (F.cat_presented ct (List.mem_of_find?_eq_some hf))).1

/-- then the included tax is the whole tax -/
theorem SummaryFacts.only_included {k : String} {ct : CatTotal} (hc : tx.cats = [ct]) (hcode : ct.code = k)
    (hret : ct.retained = false) (hsur : ct.surcharge = none) :
    taxIncluded (some k) tx = some ct.preciseAmount ∧ ct.preciseAmount.toRat = tx.precise.toRat := by
  have hmem : ct ∈ tx.cats := by rw [hc]; simp
  refine ⟨by unfold taxIncluded; rw [hc]; simp [hcode], ?_⟩
  rw [(preciseAmount_rounded c ct (F.cat_presented ct hmem)).2,
    F.precise_toRat, hc]
  simp only [List.map_cons, List.map_nil, List.sum_cons, List.sum_nil, add_zero]
  exact (F.cat_plain ct hmem hret hsur).symm

end

theorem summaryRowsOk_finish (d : Doc) (p : Pre) (tx : TaxTotal)
    (htx : taxTotal exactOps d.rule d.c d.includes p.rows = .ok tx) :
    summaryRowsOk d.rule d.c d.includes p.rows p.total2 (finish exactOps d p tx) = true := by
  have F := taxTotal_summary d.rule d.c d.includes p.rows tx htx
  set t := roundTotals exactOps d.c (rawTotals exactOps d p tx) with ht
  have f_taxes : t.taxes = if tx.cats.isEmpty then none else some tx := rfl
  have hcatsOf : catsOf t = tx.cats := by
    unfold catsOf
    rw [f_taxes]
    by_cases he : tx.cats.isEmpty = true
    · rw [if_pos he]; exact (List.isEmpty_iff.mp he).symm
    · rw [if_neg he]
  refine summaryRowsOk_iff.mpr ⟨fun h => (by cases h), fun _ h => ?_⟩
  cases h
  rw [← ht, hcatsOf]
  refine ⟨F.partition, List.all_eq_true.mp F.cats, taxSumOk_of_facts F t f_taxes rfl,
    includedOk_of_facts F d.includes t rfl, onlyIncludedOk_iff.mpr fun k ct hi hc hcode hret hsur => ?_⟩
  obtain ⟨hti, hq⟩ := F.only_included hc hcode hret hsur
  rw [← hi] at hti
  rw [show t.totalWithTax = exactOps.rescale (rawTotals exactOps d p tx).totalWithTax d.c from rfl,
    rawTotals_totalWithTax_included hti, add_sub_cancel_toRat _ _ _ hq]
  exact rescale_presents d.c _ _ rfl

theorem summaryRowsOk_calculate (d : Doc) (out : Out) (p : Pre) (hp : pre exactOps d = .ok p)
    (h : calculate exactOps d = .ok out) :
    summaryRowsOk d.rule d.c d.includes p.rows p.total2 out = true := by
  obtain ⟨p', hp', ⟨he, rfl⟩ | ⟨-, tx, htx, rfl⟩⟩ := calculate_ok h <;> cases hp.symm.trans hp'
  · exact summaryRowsOk_iff.mpr ⟨fun _ => List.isEmpty_iff.mp he, fun t h => (by cases h)⟩
  · exact summaryRowsOk_finish d p tx htx

end GoblVerif.Calc
