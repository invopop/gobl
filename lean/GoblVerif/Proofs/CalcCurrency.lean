/-
  The calculation model under the `currency` rounding rule: every computed
  figure sits at the currency's exponent, so no step of the exact chain
  (Proofs/CalcExact.lean) rounds, and figures at one exponent add as integers.
-/
import GoblVerif.Proofs.CalcTax
import GoblVerif.Proofs.CalcExact

namespace GoblVerif.Calc
open GoblVerif.Spec.C03 (surOf qsum)

/-- the property's guard for one line discount/charge: a fixed amount (and a
    charge rate) is supplied at the currency's precision -/
def adjGuard (c : Nat) (d : LineAdj) : Bool :=
  (match d.rate with
   | some r => decide (r.exp ≤ c)
   | none =>
     match d.percent with
     | some p => if pctIsZero p then decide (d.amount.exp ≤ c) else true
     | none => decide (d.amount.exp ≤ c))

/-- the guard of C03 for a whole line -/
def lineGuard (c : Nat) (l : Line) : Prop :=
  (∀ d ∈ l.discounts, d.rate = none ∧ adjGuard c d = true) ∧ (∀ d ∈ l.charges, adjGuard c d = true)

/-- the guard of C03 for a breakdown row (same as `lineGuard`) -/
def subGuard (c : ℕ) (sl : SubLine) : Prop :=
  (∀ d ∈ sl.discounts, d.rate = none ∧ adjGuard c d = true) ∧ (∀ d ∈ sl.charges, adjGuard c d = true)

theorem applyRule_currency_exp (c : Nat) (a : Amount) : (applyRule exactOps .currency c a).exp = c := by
  simp [applyRule]

theorem adjPct_exp (c : Nat) (sum : Amount) (hs : sum.exp = c) (d : LineAdj)
    (hg : adjGuard c d = true) (hr : d.rate = none) :
    (adjPct exactOps .currency c sum d).amount.exp ≤ c := by
  unfold adjGuard at hg
  rw [hr] at hg
  unfold adjPct
  cases hp : d.percent with
  | none => simp [hp] at hg ⊢; exact hg
  | some p =>
    simp only [hp] at hg ⊢
    by_cases hz : pctIsZero p = true
    · simp [hz] at hg ⊢; exact hg
    · simp only [hz]
      cases hb : d.base with
      | none => simp [hs]
      | some b => exact (applyRule_currency_exp c _).le

theorem discountRow_exp (c : Nat) (sum : Amount) (hs : sum.exp = c) (d : LineAdj) (hg : adjGuard c d = true)
    (hr : d.rate = none) : (discountRow exactOps .currency c sum d).amount.exp = c := by
  show (up _ c).exp = c
  rw [up_exp]; have := adjPct_exp c sum hs d hg hr; omega

theorem chargeRow_exp (c : Nat) (qty sum : Amount) (hs : sum.exp = c) (d : LineAdj) (hg : adjGuard c d = true) :
    (chargeRow exactOps .currency c qty sum d).amount.exp = c := by
  have hle : (adjRate exactOps qty (adjPct exactOps .currency c sum d)).amount.exp ≤ c := by
    unfold adjRate
    rw [adjPct_rate]
    cases hrt : d.rate with
    | some rt =>
      unfold adjGuard at hg; simp [hrt] at hg
      simpa using hg
    | none => exact adjPct_exp c sum hs d hg hrt
  show (up _ c).exp = c
  rw [up_exp]; omega

/-- a row (line or breakdown row) re-adds at the currency's exponent -/
structure Readds (c : Nat) (s t : Amount) (ds cs : List LineAdj) : Prop where
  sum_exp : s.exp = c
  total_exp : t.exp = c
  discounts_exp : ∀ d ∈ ds, d.amount.exp = c
  charges_exp : ∀ d ∈ cs, d.amount.exp = c
  readd : t.toRat = s.toRat - qsum (ds.map (·.amount)) + qsum (cs.map (·.amount))

theorem adjustments_currency (c : Nat) (qty price : Amount) (ds cs : List LineAdj)
    (hd : ∀ d ∈ ds, d.rate = none ∧ adjGuard c d = true) (hc : ∀ d ∈ cs, adjGuard c d = true) :
    let f := figures exactOps c .currency qty price ds cs
    Readds c f.sum f.total f.discounts f.charges := by
  intro f
  have hs : f.sum.exp = c := applyRule_currency_exp c _
  have hD : ∀ d ∈ f.discounts, d.amount.exp = c := by
    simp only [f, figures_eq, List.forall_mem_map]
    exact fun x hx => discountRow_exp c _ (applyRule_currency_exp c _) x (hd x hx).2 (hd x hx).1
  have hC : ∀ d ∈ f.charges, d.amount.exp = c := by
    simp only [f, figures_eq, List.forall_mem_map]
    exact fun x hx => chargeRow_exp c qty _ (applyRule_currency_exp c _) x (hc x hx)
  exact ⟨hs, (figures_total_exp ..).trans hs, hD, hC,
    adjustments_exact .currency c qty price ds cs (fun d h => (hD d h).trans_le hs.ge) (fun d h => (hC d h).trans_le hs.ge)⟩

theorem Readds.value {c : Nat} {s t : Amount} {ds cs : List LineAdj} (h : Readds c s t ds cs) :
    t.value = s.value - (ds.map (·.amount.value)).sum + (cs.map (·.amount.value)).sum := by
  obtain ⟨hs, ht, hd, hc, hq⟩ := h
  unfold qsum at hq
  rw [sum_toRat_at c _ (by simpa using hd), sum_toRat_at c _ (by simpa using hc), toRat_at s c hs, toRat_at t c ht,
    ← sub_div, ← add_div, div_left_inj' (p10q_ne c), List.map_map, List.map_map] at hq
  exact_mod_cast hq

/-- under the currency rule every calculated line total sits at the currency's exponent (no guard needed) -/
theorem calcLines_currency_total_exp (cur : String) (c : Nat) (rates : List XRate) (ls out : List Line)
    (h : calcLines exactOps cur c rates .currency ls = .ok out) (hclean : ∀ l ∈ ls, l.total = none) :
    ∀ t ∈ out.filterMap (·.total), t.exp = c := by
  intro t ht
  obtain ⟨l', hl', hlt⟩ := List.mem_filterMap.mp ht
  obtain ⟨l, hl, hcalc⟩ := calcLines_mem h hl'
  cases hit : l.item with
  | none =>
    rw [calcLine_no_item _ _ _ _ _ hcalc hit, hclean l hl] at hlt
    cases hlt
  | some it0 =>
    obtain ⟨bd, _, ⟨_, rfl⟩ | ⟨p0, it2, _, _, rfl⟩⟩ := calcLine_out exactOps cur c rates .currency hcalc hit
    · cases hlt
    · cases hlt
      exact (figures_total_exp ..).trans (applyRule_currency_exp c _)

theorem docAdj_currency_exp (c : ℕ) (sum : Amount) (d : DocAdj) :
    (docAdj exactOps .currency c sum d).amount.exp = c := by
  unfold docAdj
  exact applyRule_currency_exp c _

/-- every figure `pre` hands on sits at exponent `c` -/
structure PreAt (c : ℕ) (p : Pre) : Prop where
  sum : p.sum.exp = c
  discounts : ∀ x ∈ p.discounts, x.amount.exp = c
  charges : ∀ x ∈ p.charges, x.amount.exp = c
  dsum : ∀ s, p.dsum = some s → s.exp = c
  csum : ∀ s, p.csum = some s → s.exp = c
  total2 : p.total2.exp = c

theorem pre_currency (d : Doc) (p : Pre) (hr : d.rule = .currency)
    (hclean : ∀ l ∈ d.lines, l.total = none) (h : pre exactOps d = .ok p) : PreAt d.c p := by
  obtain ⟨lines, hl, rfl⟩ := pre_ok_iff.mp h
  rw [hr] at hl
  have hsum : (lineSum exactOps d.c lines).exp = d.c :=
    foldl_accum_at d.c _ _ rfl (calcLines_currency_total_exp d.cur d.c d.rates d.lines lines hl hclean)
  have hA : ∀ ds : List DocAdj, ∀ x ∈ ds.map (docAdj exactOps .currency d.c (lineSum exactOps d.c lines)),
      x.amount.exp = d.c := by
    simp only [List.forall_mem_map]
    exact fun ds y _ => docAdj_currency_exp d.c _ y
  have hS : ∀ (ds : List DocAdj) s, adjSum exactOps d.c (ds.map (docAdj exactOps .currency d.c _)) = some s → s.exp = d.c :=
    fun ds s hs => by
      rw [(optSum_eq_some (s := s) ((adjSum_eq exactOps d.c _).symm.trans hs))]
      exact foldl_accum_at d.c _ _ rfl (by simpa using hA ds)
  simp only [preOf, hr]
  exact ⟨hsum, hA _, hA _, hS _, hS _, (total2Of_exp ..).trans hsum⟩

theorem baseRateTotals_currency (c : ℕ) (rows : List Row) :
    ∀ ct ∈ baseRateTotals exactOps .currency c rows, ∀ rt ∈ ct.rates, rt.base.exp = c :=
  fun ct hct => baseRateTotals_catsOk .currency c rows ct hct rfl

/-! The tax summary read in integers, behind `Props.C03.category_readds` and `tax_sum_readds`; the oracle
(Proofs/CalcReadd.lean) rests on the rational equations of Proofs/CalcTax.lean, of which these are the reading at
one exponent. -/

/-- the integer value a group contributes to its category amount -/
def taxedValue (rt : RateTotal) : Int := match rt.percent with | none => 0 | some _ => rt.amount.value

/-- the integer value a group contributes to its category surcharge -/
def surchargeValue (rt : RateTotal) : Int :=
  match rt.percent, rt.surcharge with
  | some _, some (_, sa) => sa.value
  | _, _ => 0

theorem sum_taxedValue (rates : List RateTotal) :
    (rates.map taxedValue).sum = ((rates.filterMap taxedOf).map (·.value)).sum := by
  rw [← sum_map_getD]
  exact congrArg _ (List.map_congr_left fun rt _ => by unfold taxedValue taxedOf; cases rt.percent <;> rfl)

theorem sum_surchargeValue (rates : List RateTotal) :
    (rates.map surchargeValue).sum = ((rates.filterMap surOf).map (·.value)).sum := by
  rw [← sum_map_getD]
  exact congrArg _ (List.map_congr_left fun rt _ => by
    unfold surchargeValue surOf; cases rt.percent <;> cases rt.surcharge <;> rfl)

/-- **category sums under the currency rule**: amounts and surcharges of a
category are the plain integer sums of its groups' figures, everything at the
currency's exponent.  The integer reading (`eq_mk_sum`) of `catAmounts_amount` and
`catAmounts_surcharge`, which hold for both rules. -/
theorem catAmounts_currency (c : ℕ) (ct : CatTotal) (h : ∀ rt ∈ ct.rates, rt.base.exp = c) :
    let ct' := catAmounts exactOps .currency c ct
    (∀ rt ∈ ct'.rates, rt.base.exp = c ∧ rt.amount.exp = c) ∧
    ct'.amount = ⟨(ct'.rates.map taxedValue).sum, c⟩ ∧
    (∀ s, ct'.surcharge = some s → s = ⟨(ct'.rates.map surchargeValue).sum, c⟩) := by
  intro ct'
  obtain ⟨hae, hse⟩ := catAmounts_exp_currency c ct
  have hrates : ∀ rt ∈ ct'.rates, rt.base.exp = c ∧ rt.amount.exp = c := by
    refine List.forall_mem_map.mpr fun x hx => ⟨by rw [(rateAmounts_exps x c).1]; exact h x hx, ?_⟩
    unfold rateAmounts
    cases x.percent <;> simp [h x hx]
  -- whatever a group adds to its category sits at the exponent of its base
  have hex : ∀ (g : RateTotal → Option Amount), (∀ x a, g (rateAmounts exactOps x c) = some a → a.exp = x.base.exp) →
      ∀ a ∈ ct'.rates.filterMap g, a.exp = c := by
    intro g hg a ha
    obtain ⟨rt, hrt, hga⟩ := List.mem_filterMap.mp ha
    obtain ⟨x, hx, rfl⟩ := List.mem_map.mp hrt
    rw [hg x a hga, h x hx]
  refine ⟨hrates, ?_, fun s hs => ?_⟩
  · have hx := hex taxedOf fun x => (rateAmounts_exps x c).2.1
    rw [sum_taxedValue]
    refine eq_mk_sum hae hx ((catAmounts_amount .currency c ct).trans ((sum_taxedAmount ..).trans ?_))
    exact congrArg List.sum (List.map_congr_left fun a ha => contrib_at _ c a (hx a ha))
  · have hx := hex surOf fun x a ha => ((rateAmounts_exps x c).2.2 a ha).1
    rw [sum_surchargeValue]
    exact eq_mk_sum (hse s hs) hx ((catAmounts_surcharge .currency c ct fun _ => h).1 s hs).2

/-- signed contribution of a category to the tax sum -/
def catSigned (ct : CatTotal) : Int :=
  let v := ct.amount.value + (match ct.surcharge with | some s => s.value | none => 0)
  if ct.retained then -v else v

theorem catSignedQ_of_exps (c : ℕ) (ct : CatTotal) (ha : ct.amount.exp = c)
    (hs : ∀ s, ct.surcharge = some s → s.exp = c) :
    catSignedQ ct = ((catSigned ct : ℤ) : ℚ) / ((pow10 c : ℤ) : ℚ) := by
  unfold catSignedQ catSigned
  rw [toRat_at _ c ha]
  cases hsc : ct.surcharge with
  | none => cases ct.retained <;> simp <;> ring
  | some s =>
    simp only
    rw [toRat_at s c (hs s hsc)]
    cases ct.retained <;> simp <;> ring

theorem sum_catSignedQ (c : ℕ) (cats : List CatTotal)
    (h : ∀ ct ∈ cats, ct.amount.exp = c ∧ ∀ s, ct.surcharge = some s → s.exp = c) :
    (cats.map catSignedQ).sum = (((cats.map catSigned).sum : ℤ) : ℚ) / ((pow10 c : ℤ) : ℚ) := by
  induction cats with
  | nil => simp
  | cons ct cats ih =>
    simp only [List.map_cons, List.sum_cons]
    rw [ih (fun x hx => h x (by simp [hx])), catSignedQ_of_exps c ct (h ct (by simp)).1 (h ct (by simp)).2]
    push_cast
    ring

end GoblVerif.Calc
