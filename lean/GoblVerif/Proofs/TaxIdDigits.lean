/-
  The shared helpers of Model/TaxId.lean (`matchSeq`, `gate`, `atoi?`, `wloop`, `digitChar`, `indexOf?`) and the vocabulary of
  Spec/C13.lean (`digs`, `dot`, `num`, `dg`) on strings that stay variables: what a pattern says about length and
  classes, what a Go loop or `strconv.Atoi` computes in the words of the published rules.
-/
import GoblVerif.Model.TaxId
import GoblVerif.Spec.C13
import Mathlib.Tactic.Ring

namespace GoblVerif.TaxId
open GoblVerif.Spec.TaxId (digs dot num dg isDigits digitSum)

/-! "All characters are digits" is written `allDig s` in the model, `isDigits s` in the published rules and
  `s.all isDig` in the lemmas below; the three are one term. -/

theorem allDig_eq (s : Str) : allDig s = s.all isDig := rfl
theorem isDigits_eq (s : Str) : isDigits s = s.all isDig := rfl

theorem isDig_bounds {c : Char} (h : isDig c = true) : 48 ≤ c.toNat ∧ c.toNat ≤ 57 := by
  simpa [isDig] using h

theorem isUp_bounds_of_isAZ09 {c : Char} (h : isAZ09 c = true) (hd : ¬ isDig c = true) : 65 ≤ c.toNat ∧ c.toNat ≤ 90 := by
  simpa [isAZ09, hd, isUp] using h

theorem isAZ09_of_isDig {c : Char} (h : isDig c = true) : isAZ09 c = true := by simp [isAZ09, h]
theorem isAZ09_of_isUp {c : Char} (h : isUp c = true) : isAZ09 c = true := by simp [isAZ09, h]

theorem allDig_isAZ09 {s : Str} (h : s.all isDig = true) : s.all isAZ09 = true :=
  List.all_eq_true.mpr fun c hc => isAZ09_of_isDig (List.all_eq_true.mp h c hc)

theorem dval_le_nine {c : Char} (h : isDig c = true) : dval c ≤ 9 := by
  have := isDig_bounds h
  simp only [dval]; omega

theorem dval_inj (a b : Char) (ha : isDig a = true) (hb : isDig b = true) (h : dval a = dval b) : a = b := by
  have := isDig_bounds ha
  have := isDig_bounds hb
  rw [← Char.toNat_inj]
  simp only [dval] at h
  omega

theorem dval_eq_zero_iff {c : Char} (hc : isDig c = true) : dval c = 0 ↔ c = '0' := by
  have := isDig_bounds hc
  rw [← Char.toNat_inj, dval]
  have : '0'.toNat = 48 := rfl
  omega

/-- `[1-9]` is a digit other than `0` -/
theorem d19_iff (c : Char) : (49 ≤ c.toNat ∧ c.toNat ≤ 57) ↔ (isDig c = true ∧ c ≠ '0') := by
  simp only [isDig, decide_eq_true_eq, ne_eq, ← Char.toNat_inj]
  have : '0'.toNat = 48 := rfl
  omega

theorem ofNat_toNat_small (n : Nat) (h : n < 55296) : (Char.ofNat n).toNat = n := by
  have : n.isValidChar := by left; omega
  simp [Char.ofNat, this, Char.ofNatAux, Char.toNat]

theorem digitChar_toNat (k : Nat) (h : k ≤ 9) : (digitChar k).toNat = 48 + k :=
  ofNat_toNat_small _ (by omega)

theorem isDig_digitChar {k : Nat} (h : k ≤ 9) : isDig (digitChar k) = true := by
  simp only [isDig, digitChar_toNat k h, decide_eq_true_eq]; omega

theorem dval_digitChar {k : Nat} (h : k ≤ 9) : dval (digitChar k) = k := by
  simp only [dval, digitChar_toNat k h]; omega

theorem digitChar_eq_iff {k : Nat} {c : Char} (hk : k ≤ 9) (hc : isDig c = true) : digitChar k = c ↔ k = dval c := by
  have := isDig_bounds hc
  rw [← Char.toNat_inj, digitChar_toNat k hk, dval]; omega

theorem digitSum_of_le {d : Nat} (h : d ≤ 9) : digitSum d = d := by simp only [digitSum]; omega

/-- Go's "subtract 9 when the double exceeds 9" is the digit sum of the double -/
theorem luhn_dbl (d : Nat) (h : d ≤ 9) : (if 9 < d * 2 then d * 2 - 9 else d * 2) = 2 * d / 10 + 2 * d % 10 := by
  split <;> omega

theorem getD_drop {α} (l : List α) (k i : Nat) (d : α) : (l.drop k).getD i d = l.getD (k + i) d := by
  simp [List.getD_eq_getElem?_getD, List.getElem?_drop]

theorem all_take {s : Str} {p : Char → Bool} (h : s.all p = true) (k : Nat) : (s.take k).all p = true :=
  List.all_eq_true.mpr fun c hc => List.all_eq_true.mp h c (List.mem_of_mem_take hc)
theorem all_drop {s : Str} {p : Char → Bool} (h : s.all p = true) (k : Nat) : (s.drop k).all p = true :=
  List.all_eq_true.mpr fun c hc => List.all_eq_true.mp h c (List.mem_of_mem_drop hc)

theorem all_take_succ {s : Str} {i : Nat} (hi : i < s.length) (p : Char → Bool) (d : Char) :
    (s.take (i + 1)).all p = ((s.take i).all p && p (s.getD i d)) := by
  rw [List.take_add_one, List.all_append, List.getD_eq_getElem?_getD, List.getElem?_eq_getElem hi]
  simp

theorem isDig_getD {s : Str} (hd : s.all isDig = true) {i : Nat} (hi : i < s.length) {d : Char} :
    isDig (s.getD i d) = true := by
  rw [List.getD_eq_getElem?_getD, List.getElem?_eq_getElem hi]
  exact List.all_eq_true.mp hd _ (List.getElem_mem hi)

theorem isDig_getD_drop {s : Str} {k : Nat} (h : (s.drop k).all isDig = true) {i : Nat} (hk : k ≤ i) (hi : i < s.length) :
    isDig (s.getD i ' ') = true := by
  obtain ⟨j, rfl⟩ := Nat.exists_eq_add_of_le hk
  rw [← getD_drop]
  exact isDig_getD h (by rw [List.length_drop]; omega)

theorem isDig_getD_take {s : Str} {k : Nat} (h : (s.take k).all isDig = true) {i : Nat} (hk : i < k) (hi : i < s.length) :
    isDig (s.getD i ' ') = true := by
  rw [← List.getElem_eq_getD (h := hi), ← List.getElem_take (j := k) (h := by simp; omega)]
  exact List.all_eq_true.mp h _ (List.getElem_mem _)

theorem getD_zero_of_head? {s : Str} {c : Char} (h : s.head? = some c) : s.getD 0 ' ' = c := by
  cases s with
  | nil => simp at h
  | cons a s => simpa using h

theorem getD_set_self {α : Type} (l : List α) (i : Nat) (a d : α) (hi : i < l.length) : (l.set i a).getD i d = a := by
  simp [List.getD_eq_getElem?_getD, List.getElem?_set_self hi]

theorem getD_set_ne {α : Type} (l : List α) {i j : Nat} (a d : α) (h : i ≠ j) : (l.set i a).getD j d = l.getD j d := by
  simp [List.getD_eq_getElem?_getD, List.getElem?_set_ne h]

theorem take_getD_drop {s : Str} {i : Nat} (hi : i < s.length) (d : Char) : s.take i ++ s.getD i d :: s.drop (i + 1) = s := by
  conv => rhs; rw [← List.take_append_drop i s, List.drop_eq_getElem_cons hi]
  simp [List.getD_eq_getElem?_getD, List.getElem?_eq_getElem hi]

theorem digits_concat {s : Str} (hne : s ≠ []) (hd : s.all isDig = true) :
    ∃ body c, s = body ++ [c] ∧ body.all isDig = true ∧ isDig c = true := by
  rcases s.eq_nil_or_concat with rfl | ⟨body, c, rfl⟩
  · exact absurd rfl hne
  · rw [List.concat_eq_append, List.all_append, List.all_cons, List.all_nil, Bool.and_true, Bool.and_eq_true] at hd
    exact ⟨body, c, List.concat_eq_append .., hd.1, hd.2⟩

theorem matchSeq_length : ∀ (ps : List (Char → Bool)) (s : Str), matchSeq ps s = true → s.length = ps.length
  | [], [], _ => rfl
  | [], _ :: _, h => by simp [matchSeq] at h
  | _ :: _, [], h => by simp [matchSeq] at h
  | p :: ps, c :: cs, h => by
    simp only [matchSeq, Bool.and_eq_true] at h
    simp [matchSeq_length ps cs h.2]

theorem matchSeq_false_of_length {ps : List (Char → Bool)} {s : Str} (h : s.length ≠ ps.length) :
    matchSeq ps s = false := by
  cases hm : matchSeq ps s with
  | false => rfl
  | true => exact absurd (matchSeq_length ps s hm) h

theorem matchSeq_all {q : Char → Bool} : ∀ (ps : List (Char → Bool)) (s : Str),
    (∀ p ∈ ps, ∀ c, p c = true → q c = true) → matchSeq ps s = true → s.all q = true
  | [], [], _, _ => rfl
  | [], _ :: _, _, h => by simp [matchSeq] at h
  | _ :: _, [], _, h => by simp [matchSeq] at h
  | p :: ps, c :: cs, hq, h => by
    simp only [matchSeq, Bool.and_eq_true] at h
    simp only [List.all_cons, Bool.and_eq_true]
    exact ⟨hq p (List.mem_cons_self ..) c h.1, matchSeq_all ps cs (fun p hp => hq p (List.mem_cons_of_mem _ hp)) h.2⟩

theorem matchSeq_rep (n : Nat) (p : Char → Bool) (s : Str) :
    matchSeq (rep n p) s = (s.length == n && s.all p) := by
  induction n generalizing s with
  | zero => cases s <;> simp [rep, matchSeq]
  | succ n ih =>
    cases s with
    | nil => simp [rep, matchSeq, List.replicate]
    | cons c cs =>
      have := ih cs
      simp only [rep] at this
      simp [rep, matchSeq, List.replicate_succ, this, Bool.and_left_comm]

theorem matchSeq_append (ps qs : List (Char → Bool)) (s : Str) :
    matchSeq (ps ++ qs) s = (matchSeq ps (s.take ps.length) && matchSeq qs (s.drop ps.length)) := by
  induction ps generalizing s with
  | nil => simp [matchSeq]
  | cons p ps ih =>
    cases s with
    | nil => cases qs <;> simp [matchSeq]
    | cons c cs => simp [matchSeq, ih, Bool.and_assoc]

theorem matchSeq_rep_append (n : Nat) (p : Char → Bool) (ps : List (Char → Bool)) (s : Str) :
    matchSeq (rep n p ++ ps) s = (decide (n ≤ s.length) && (s.take n).all p && matchSeq ps (s.drop n)) := by
  have hn : (rep n p).length = n := by simp [rep]
  rw [matchSeq_append, matchSeq_rep, hn, List.length_take]
  by_cases h : n ≤ s.length <;> simp [h]

theorem matchSeq_single (q : Char → Bool) (u : Str) : matchSeq [q] u = (u.length == 1 && q (u.getD 0 ' ')) := by
  match u with
  | [] => rfl
  | [c] => simp [matchSeq]
  | _ :: _ :: _ => simp [matchSeq]

theorem matchSeq_digits_then (n : Nat) (q : Char → Bool) (s : Str) :
    matchSeq (rep n isDig ++ [q]) s = (s.length == n + 1 && (s.take n).all isDig && q (s.getD n ' ')) := by
  rw [matchSeq_rep_append, matchSeq_single, getD_drop, Nat.add_zero, List.length_drop]
  by_cases h : s.length = n + 1
  · simp [h]
  · have : ¬ (n ≤ s.length ∧ s.length - n = 1) := by omega
    rw [beq_eq_false_iff_ne.mpr h, Bool.false_and, Bool.false_and, Bool.eq_false_iff]
    simp only [Bool.and_eq_true, decide_eq_true_eq, beq_iff_eq, ne_eq]
    tauto

theorem matchSeq_cls_digits_then (p : Char → Bool) (n : Nat) (q : Char → Bool) (s : Str) :
    matchSeq (p :: rep n isDig ++ [q]) s =
      (s.length == n + 2 && p (s.getD 0 ' ') && ((s.drop 1).take n).all isDig && q (s.getD (n + 1) ' ')) := by
  cases s with
  | nil => simp [matchSeq]
  | cons c t =>
    rw [Bool.eq_iff_iff]
    simp [matchSeq, matchSeq_digits_then, and_assoc, and_left_comm]

/-- the letter `x` and `n` digits behind it (CH, AT) -/
def letterDigits (x : Char) (n : Nat) (s : Str) : Bool := s.length == n + 1 && s.head? == some x && (s.drop 1).all isDig

theorem letterDigits_iff {x : Char} {n : Nat} {s : Str} :
    letterDigits x n s = true ↔ ∃ t, s = x :: t ∧ t.length = n ∧ t.all isDig = true := by
  cases s with
  | nil => simp [letterDigits]
  | cons c t =>
    simp only [letterDigits, List.length_cons, Nat.add_right_cancel_iff, List.head?_cons, List.drop_succ_cons, List.drop_zero,
      Bool.and_eq_true, beq_iff_eq, Option.some.injEq, List.cons.injEq, and_assoc]
    exact ⟨fun ⟨hl, hc, hd⟩ => ⟨t, hc, rfl, hl, hd⟩, fun ⟨_, hc, ht, hl, hd⟩ => ht ▸ ⟨hl, hc, hd⟩⟩

theorem matchSeq_isCh_digits (x : Char) (n : Nat) (s : Str) : matchSeq (isCh x :: rep n isDig) s = letterDigits x n s := by
  cases s with
  | nil => simp [matchSeq, letterDigits]
  | cons c t =>
    rw [Bool.eq_iff_iff]
    simp [matchSeq, matchSeq_rep, letterDigits, isCh]
    tauto

theorem matchSeq_isCh2_digits (x y : Char) (n : Nat) (s : Str) :
    matchSeq (isCh x :: isCh y :: rep n isDig) s = (s.length == n + 2 && s.take 2 == [x, y] && (s.drop 2).all isDig) := by
  match s with
  | a :: b :: t =>
    rw [Bool.eq_iff_iff]
    simp [matchSeq, matchSeq_rep, isCh]
    tauto
  | [] | [_] => simp [matchSeq]

theorem all_of_gate {s : Str} (h : gate s = true) : s.all isAZ09 = true := by
  simp only [gate, Bool.and_eq_true] at h
  exact h.2

theorem gate_of_allDig {s : Str} (hne : s ≠ []) (hd : s.all isDig = true) : gate s = true := by
  have : s.isEmpty = false := by cases s <;> simp_all
  rw [gate, this, allDig_isAZ09 hd]; rfl

theorem length_digits {s : Str} {n : Nat} (h : (s.length == n && isDigits s) = true) : s.length = n ∧ s.all isDig = true := by
  rwa [Bool.and_eq_true, beq_iff_eq] at h

theorem matchSeq_rep_isDig (n : Nat) (s : Str) (h : matchSeq (rep n isDig) s = true) :
    s.length = n ∧ s.all isDig = true :=
  length_digits ((matchSeq_rep n isDig s).symm.trans h)

theorem gate_of_length_digits {s : Str} {n : Nat} (h : s.length = n + 1 ∧ s.all isDig = true) : gate s = true :=
  gate_of_allDig (by rintro rfl; simp at h) h.2

theorem gate_of_letterDigits {x : Char} {n : Nat} {s : Str} (hx : isAZ09 x = true)
    (h : ∃ t, s = x :: t ∧ t.length = n ∧ t.all isDig = true) : gate s = true := by
  obtain ⟨t, rfl, -, hd⟩ := h
  simp only [gate, List.isEmpty_cons, Bool.not_false, Bool.true_and, List.all_cons, hx, allDig_isAZ09 hd]

theorem gate_of_matchSeq {ps : List (Char → Bool)} {s : Str} (hne : ps ≠ [])
    (hp : ∀ p ∈ ps, ∀ c, p c = true → isAZ09 c = true) (h : matchSeq ps s = true) : gate s = true := by
  cases s with
  | nil => exact absurd (List.eq_nil_of_length_eq_zero (matchSeq_length ps [] h).symm) hne
  | cons c cs => exact matchSeq_all ps _ hp h

/-- the gate never decides: what the regime validator accepts is gated already, so validation of a non-empty code is
    the published rule as soon as the regime validator is -/
theorem goValid_iff {g r F C : Bool} (hr : r = (F && C)) (hg : F = true → g = true) :
    (g && r) = true ↔ (F = true ∧ C = true) := by
  subst hr
  cases F <;> simp_all

/-- a validator `fmt s && check s` is the published rule when the formats are equal and, on well-formed codes, the
    checks are -/
theorem and_congr_of_left {f c F C : Bool} (hf : f = F) (hc : F = true → c = C) : (f && c) = (F && C) := by
  subst hf
  cases f <;> simp_all

/-- a validator written `if !f { return false }; c` is `f && c` -/
theorem if_not_false (f c : Bool) : (if (!f) = true then false else c) = (f && c) := by cases f <;> rfl

@[simp] theorem digs_length (s : Str) : (digs s).length = s.length := by simp [digs]
theorem digs_cons (c : Char) (s : Str) : digs (c :: s) = dval c :: digs s := rfl
theorem digs_concat (s : Str) (c : Char) : digs (s ++ [c]) = digs s ++ [dval c] := by simp [digs]
theorem digs_take (s : Str) (k : Nat) : digs (s.take k) = (digs s).take k := by simp [digs, List.map_take]
theorem digs_drop (s : Str) (k : Nat) : digs (s.drop k) = (digs s).drop k := by simp [digs, List.map_drop]

theorem digs_le_nine {s : Str} (hd : s.all isDig = true) : ∀ d ∈ digs s, d ≤ 9 := by
  simp only [digs, List.mem_map]
  rintro _ ⟨c, hc, rfl⟩
  exact dval_le_nine (List.all_eq_true.mp hd c hc)

theorem dval_getD (s : Str) (i : Nat) (d : Char) (hd : dval d = 0) : dval (s.getD i d) = (digs s).getD i 0 := by
  simp only [digs, List.getD_eq_getElem?_getD, List.getElem?_map]
  cases s[i]? <;> simp [hd]

theorem dval_getD_zero (s : Str) (i : Nat) : dval (s.getD i '0') = (digs s).getD i 0 := dval_getD s i _ rfl
theorem dval_getD_space (s : Str) (i : Nat) : dval (s.getD i ' ') = (digs s).getD i 0 := dval_getD s i _ rfl

theorem digs_set (s : Str) (i : Nat) (c : Char) : digs (s.set i c) = (digs s).set i (dval c) := by
  simp [digs, List.map_set]

theorem dot_nil_right (ws : List Nat) : dot ws [] = 0 := by simp [dot]
theorem dot_nil_left (ds : List Nat) : dot [] ds = 0 := by simp [dot]
theorem dot_cons (w d : Nat) (ws ds : List Nat) : dot (w :: ws) (d :: ds) = w * d + dot ws ds := by simp [dot]

theorem dot_take (ws ds : List Nat) (n : Nat) (h : ws.length ≤ n) : dot ws (ds.take n) = dot ws ds := by
  unfold dot
  conv_lhs => rw [← List.take_of_length_le h, ← List.take_zipWith]
  rw [List.take_of_length_le (by simp; omega)]

theorem dot_append (ws vs ds : List Nat) :
    dot (ws ++ vs) ds = dot ws (ds.take ws.length) + dot vs (ds.drop ws.length) := by
  induction ws generalizing ds with
  | nil => simp [dot]
  | cons w ws ih =>
    cases ds with
    | nil => simp [dot]
    | cons d ds => simpa [dot, Nat.add_assoc] using ih ds

theorem dot_cons_drop (w : Nat) (ws ds : List Nat) : dot (w :: ws) ds = w * ds.getD 0 0 + dot ws (ds.drop 1) := by
  cases ds <;> simp [dot]

theorem dot_concat (ws : List Nat) (w : Nat) (ds : List Nat) :
    dot (ws ++ [w]) ds = dot ws ds + w * ds.getD ws.length 0 := by
  induction ws generalizing ds with
  | nil => cases ds <;> simp [dot]
  | cons v ws ih =>
    cases ds with
    | nil => simp [dot]
    | cons d ds =>
      have := ih ds
      simp only [dot, List.cons_append, List.zipWith_cons_cons, List.sum_cons, List.length_cons, List.getD_cons_succ] at this ⊢
      omega

theorem dot_comm (ws ds : List Nat) : dot ws ds = dot ds ws := by
  unfold dot
  rw [List.zipWith_comm]; simp only [Nat.mul_comm]

theorem dot_reverse (ws ds : List Nat) (h : ws.length = ds.length) : dot ws.reverse ds.reverse = dot ws ds := by
  simp [dot, ← List.reverse_zipWith h]

theorem dot_reverse_take (ws ds : List Nat) (n : Nat) (hw : n ≤ ws.length) (hd : n ≤ ds.length) :
    dot ws (ds.take n).reverse = dot (ws.take n).reverse ds := by
  have hl : (ws.take n).reverse.length = (ds.take n).length := by simp; omega
  rw [dot_comm, ← dot_take _ ws n (by simp), dot_comm, ← dot_take _ ds n (by simp), ← dot_reverse _ _ hl,
    List.reverse_reverse]

theorem wloop_eq_dot (ws : List Nat) (s : Str) (acc : Nat) : wloop ws s acc = acc + dot ws (digs s) := by
  induction ws generalizing s acc with
  | nil => simp [wloop, dot_nil_left]
  | cons w ws ih =>
    cases s with
    | nil => simp [wloop, digs, dot_nil_right]
    | cons c cs => simp [wloop, ih, digs_cons, dot_cons, Nat.mul_comm, Nat.add_assoc]

theorem wloop_nil (s : Str) (acc : Nat) : wloop [] s acc = acc := by
  cases s <;> rfl

theorem wloop_drop_eq_foldl (ws : List Nat) (s : Str) (k acc : Nat) :
    wloop (ws.drop k) s acc = (s.zipIdx k).foldl (fun a p => a + dval p.1 * ws.getD p.2 0) acc := by
  induction s generalizing k acc with
  | nil => cases ws.drop k <;> rfl
  | cons c cs ih =>
    rw [List.zipIdx_cons, List.foldl_cons, ← ih]
    by_cases hk : k < ws.length
    · rw [List.drop_eq_getElem_cons hk, wloop, List.getD_eq_getElem?_getD, List.getElem?_eq_getElem hk]; rfl
    · rw [List.drop_eq_nil_of_le (by omega), List.drop_eq_nil_of_le (by omega), wloop_nil, wloop_nil,
        List.getD_eq_getElem?_getD, List.getElem?_eq_none (by omega)]; rfl

theorem wloop_take (ws : List Nat) (s : Str) (acc n : Nat) (h : ws.length ≤ n) :
    wloop ws (s.take n) acc = wloop ws s acc := by
  induction ws generalizing s acc n with
  | nil => rw [wloop_nil, wloop_nil]
  | cons w ws ih =>
    obtain ⟨n, rfl⟩ : ∃ m, n = m + 1 := ⟨n - 1, by simp at h; omega⟩
    cases s with
    | nil => rfl
    | cons c cs => simp only [List.take_succ_cons, wloop]; exact ih _ _ _ (by simpa using h)

/-- the form in which a translated loop arrives: `ws[i]` against `s[i]` for `i < n = len(ws)` -/
theorem wloop_eq_foldl (ws : List Nat) (s : Str) (acc : Nat) {n : Nat} (h : ws.length = n) :
    wloop ws s acc = (s.take n).zipIdx.foldl (fun a p => a + dval p.1 * ws.getD p.2 0) acc := by
  rw [← wloop_drop_eq_foldl, List.drop_zero, wloop_take _ _ _ _ (Nat.le_of_eq h)]

theorem num_append (a b : List Nat) : num (a ++ b) = num a * 10 ^ b.length + num b := by
  induction a with
  | nil => simp [num]
  | cons d ds ih => simp only [List.cons_append, num, ih, List.length_append, Nat.pow_add]; ring

theorem num_concat (ds : List Nat) (e : Nat) : num (ds ++ [e]) = num ds * 10 + e := by
  simp [num_append, num]

theorem num_digs_mod_ten {s : Str} {n : Nat} (hl : s.length = n + 1) (hd : s.all isDig = true) :
    num (digs s) % 10 = (digs s).getD n 0 ∧ (digs s).getD n 0 ≤ 9 := by
  obtain ⟨body, c, rfl, -, hc⟩ := digits_concat (by rintro rfl; simp at hl) hd
  have hn : (digs body).length = n := by simpa using hl
  have := dval_le_nine hc
  rw [digs_concat, num_concat, List.getD_eq_getElem?_getD, List.getElem?_append_right (by omega), hn]
  simp only [Nat.sub_self, List.getElem?_cons_zero, Option.getD_some]
  omega

theorem num_digs_eq_zero_iff {u : Str} (hd : u.all isDig = true) : num (digs u) = 0 ↔ u = List.replicate u.length '0' := by
  induction u with
  | nil => simp [digs, num]
  | cons c cs ih =>
    simp only [List.all_cons, Bool.and_eq_true] at hd
    have hp : 0 < 10 ^ (digs cs).length := Nat.pow_pos (by omega)
    simp only [digs_cons, num, Nat.add_eq_zero_iff, Nat.mul_eq_zero, Nat.ne_of_gt hp, or_false, ih hd.2, dval_eq_zero_iff hd.1,
      List.length_cons, List.replicate_succ, List.cons.injEq]

theorem atoi?_singleton (c : Char) : atoi? [c] = if isDig c = true then some (dval c) else none := by
  cases h : isDig c <;> simp [atoi?, allDig, h]

theorem atoi?_single (c : Char) (h : isDig c = true) : atoi? [c] = some (dval c) := by
  rw [atoi?_singleton, if_pos h]

theorem atoi0_single (c : Char) (h : isDig c = true) : atoi0 [c] = dval c := by
  simp [atoi0, atoi?_single c h]

theorem atoi?_eq_none {s : Str} (h : s.all isDig = false) : atoi? s = none := by simp [atoi?, allDig, h]

theorem horner_eq (s : Str) (acc : Nat) :
    s.foldl (fun n c => n * 10 + dval c) acc = acc * 10 ^ s.length + num (digs s) := by
  induction s generalizing acc with
  | nil => simp [num, digs]
  | cons c cs ih =>
    simp only [List.foldl_cons, ih, digs, List.map_cons, num, List.length_cons, List.length_map]
    rw [Nat.pow_succ]; ring

theorem atoi?_eq (s : Str) (hne : s ≠ []) (hd : s.all isDig = true) : atoi? s = some (num (digs s)) := by
  unfold atoi?
  have : s.isEmpty = false := by cases s <;> simp_all
  simp [this, allDig, hd, horner_eq]

/-- `n, _ := strconv.Atoi(s)`: the empty string gives 0 both ways -/
theorem atoi0_digits {s : Str} (hd : s.all isDig = true) : atoi0 s = num (digs s) := by
  cases s with
  | nil => rfl
  | cons c cs => simp [atoi0, atoi?_eq _ (List.cons_ne_nil c cs) hd]

/-- `strconv.Itoa(ti) + number` read back: a digit in front of a string of digits -/
theorem atoi0_digitChar_cons (ti : Nat) (hti : ti ≤ 9) (cs : Str) (hd : cs.all isDig = true) :
    atoi0 (digitChar ti :: cs) = ti * 10 ^ cs.length + num (digs cs) := by
  rw [atoi0_digits (by simpa [isDig_digitChar hti] using hd)]
  simp [digs, num, dval_digitChar hti]

theorem indexOf?_none (c : Char) (t : List Char) (h : c ∉ t) : indexOf? c t = none := by
  induction t with
  | nil => rfl
  | cons x xs ih =>
    simp only [List.mem_cons, not_or] at h
    have hx : (x == c) = false := by simpa using fun e => h.1 e.symm
    simp [indexOf?, hx, ih h.2]

/-- `%02d` of a number below 100 against two digits -/
theorem twoDigits_eq_iff {t : Nat} {u : Str} (ht : t < 100) (hl : u.length = 2) (hd : u.all isDig = true) :
    [digitChar (t / 10), digitChar (t % 10)] = u ↔ num (digs u) = t := by
  match u, hl with
  | [a, b], _ =>
    simp only [List.all_cons, List.all_nil, Bool.and_true, Bool.and_eq_true] at hd
    have ha := dval_le_nine hd.1
    have hb := dval_le_nine hd.2
    simp only [List.cons.injEq, and_true, digitChar_eq_iff (show t / 10 ≤ 9 by omega) hd.1,
      digitChar_eq_iff (show t % 10 ≤ 9 by omega) hd.2, digs, List.map_cons, List.map_nil, num, List.length_cons,
      List.length_nil]
    omega

end GoblVerif.TaxId
