/-
  Lines in memory (`Settled`): what a line looks like after a calculation,
  with or without a breakdown into sub-lines; such a line is `Fixable`, hence
  reproduced by calculate ∘ present ∘ calculate.  Then the documents the next
  calculation reproduces (`DocStable`, `InputStable`) and the document fixpoint.
-/
import GoblVerif.Proofs.CalcFix

namespace GoblVerif.Calc

/-! ### the input of the first calculation -/

/-- `XRate.toSub` is the number of decimals of the currency converted to (the document's): not fewer
than `c` -/
def RatesWF (c : ℕ) (rates : List XRate) : Prop := ∀ r ∈ rates, c ≤ r.toSub

theorem RatesWF.dec {cur : String} {c : ℕ} {rates : List XRate} (h : RatesWF c rates) : ratesOk cur c rates :=
  fun r hr _ => h r hr

/-- an input sub-line: a well-formed item; without an item it carries no figures either -/
def SubWF (cur : String) (c : ℕ) (sl : SubLine) : Prop :=
  (sl.item = none → sl.sum = none ∧ sl.total = none) ∧ ∀ it, sl.item = some it → ItemWF cur c it

/-- an input line -/
def LineWF (cur : String) (c : ℕ) (l : Line) : Prop :=
  (∀ it, l.item = some it → ItemWF cur c it) ∧ ∀ sl ∈ l.breakdown, SubWF cur c sl

/-! ### lines in memory -/

/-- a sub-line in memory after a calculation: priced in the document's currency with at least the
currency's decimals, or without figures -/
def SubSettled (cur : String) (c : ℕ) (sl : SubLine) : Prop :=
  match sl.item with
  | none => sl.sum = none ∧ sl.total = none
  | some it =>
    match it.price with
    | none => sl.sum = none ∧ sl.total = none
    | some q => (it.cur == "" || it.cur == cur) = true ∧ c ≤ q.exp

theorem calcSubLine_settled (cur : String) (c : ℕ) (rates : List XRate) (r : Rule) {sl sl2 : SubLine}
    (hwf : SubWF cur c sl) (hr : RatesWF c rates) (h : calcSubLine exactOps cur c rates r sl = .ok sl2) :
    SubSettled cur c sl2 := by
  rcases calcSubLine_out _ _ _ _ _ h with ⟨hi, rfl⟩ | ⟨it, hi, hp, rfl⟩ | ⟨it, p0, it', hi, hp, hip, rfl⟩
  · simp [SubSettled, hi, hwf.1 hi]
  · simp [SubSettled, hi, hp]
  · obtain ⟨hcur', p1, hp1⟩ := itemPrice_some hip
    simpa [SubSettled, subOut, hp1, hcur'] using (itemPrice_dec hip (hwf.2 it hi) hr.dec).2 p1 hp1

/-- a line in memory after a calculation (or after the removal that follows one).  If it has an item:
its sub-lines are settled; when its price comes from priced sub-lines no discount/charge amount is
finer than that price will be (the sub-line precision, at least the currency's); otherwise, if it has a
price of its own, the item is in the document's currency and no amount is finer than the price. -/
def Settled (cur : String) (c : ℕ) (l : Line) : Prop :=
  match l.item with
  | none => True
  | some it =>
    (∀ sl ∈ l.breakdown, SubSettled cur c sl) ∧
    (if l.breakdown.any SubPriced then
      (∀ d ∈ l.discounts, d.amount.exp ≤ max (subLinePrecision l.breakdown) c) ∧
      (∀ d ∈ l.charges, d.amount.exp ≤ max (subLinePrecision l.breakdown) c)
    else
      match it.price with
      | none => True
      | some p => (it.cur == "" || it.cur == cur) = true ∧ c ≤ it.sub ∧
          (∀ d ∈ l.discounts, d.amount.exp ≤ p.exp) ∧ (∀ d ∈ l.charges, d.amount.exp ≤ p.exp))

theorem SubSettled.subFixable {cur : String} {c : ℕ} {sl : SubLine} (h : SubSettled cur c sl) : SubFixable cur sl := by
  rcases sl with ⟨_, _ | ⟨_ | q, _, _, _⟩, _, _, _, _⟩ <;> simp_all [SubSettled, SubFixable]

theorem SubSettled.exp_le {cur : String} {c : ℕ} {sl : SubLine} {it : Item} {q : Amount} (h : SubSettled cur c sl)
    (hi : sl.item = some it) (hq : it.price = some q) : c ≤ q.exp := by
  simp only [SubSettled, hi, hq] at h
  exact h.2

theorem Settled.fixable {cur : String} {c : ℕ} {l : Line} (h : Settled cur c l) : Fixable cur c l := by
  intro it hi
  simp only [Settled, hi] at h
  refine ⟨fun sl hm => (h.1 sl hm).subFixable, fun e he => ?_⟩
  have h2 := h.2
  unfold shownExp at he
  split_ifs at he h2 with hany
  · cases he
    exact ⟨by simp [hany], by omega, fun d hd => .inr (h2.1 d hd), fun d hd => .inr (.inr (h2.2 d hd))⟩
  · obtain ⟨p, hp, rfl⟩ := Option.map_eq_some_iff.mp he
    simp only [hp] at h2
    exact ⟨fun _ => h2.1, by omega, fun d hd => .inr (by have := h2.2.2.1 d hd; omega),
      fun d hd => .inr (.inr (by have := h2.2.2.2 d hd; omega))⟩

theorem roundSubLine_item (e : ℕ) (sl : SubLine) : (roundSubLine exactOps e sl).item = sl.item := rfl

theorem any_subPriced_round (e : ℕ) (bd : List SubLine) :
    (bd.map (roundSubLine exactOps e)).any SubPriced = bd.any SubPriced := by
  rw [List.any_map]; rfl

theorem subLinePrecision_round (e : ℕ) (bd : List SubLine) :
    subLinePrecision (bd.map (roundSubLine exactOps e)) = subLinePrecision bd := by
  simp only [subLinePrecision, List.foldl_map]; rfl

theorem subSettled_round (cur : String) (c e : ℕ) (sl : SubLine) (h : SubSettled cur c sl) :
    SubSettled cur c (roundSubLine exactOps e sl) := by
  rcases sl with ⟨_, _ | ⟨_ | q, _, _, _⟩, _, _, _, _⟩ <;> simp_all [SubSettled, roundSubLine]

/-- **A calculated and presented line is settled.** -/
theorem settled_of_calcLine (cur : String) (c : ℕ) (rates : List XRate) (r : Rule) (l0 l1 : Line)
    (hwf : LineWF cur c l0) (hr : RatesWF c rates)
    (h : calcLine exactOps cur c rates r l0 = .ok l1) : Settled cur c (roundLine exactOps l1) := by
  cases hi : l0.item with
  | none =>
    simp [calcLine_no_item _ _ _ _ _ h hi, roundLine, Settled, hi]
  | some it0 =>
    obtain ⟨bd, hbd, hrest⟩ := calcLine_out _ _ _ _ _ h hi
    have hbare : ∀ sl ∈ l0.breakdown, sl.Bare := fun sl hm => (hwf.2 sl hm).1
    -- the line is priced by its sub-lines exactly when one of the calculated sub-lines is priced
    have hcond := lineItem_cond cur c rates r l0 bd hbare hbd
    rw [← (calcSubLines_keeps cur c rates r hbare hbd).2.1] at hcond
    have w0 : ∀ sl2 ∈ bd, SubSettled cur c sl2 := fun sl2 hm2 => by
      obtain ⟨sl0, hm0, hc⟩ := calcSubLines_mem hbd hm2
      exact calcSubLine_settled cur c rates r (hwf.2 sl0 hm0) hr hc
    have w1 (e : ℕ) : ∀ sl ∈ bd.map (roundSubLine exactOps e), SubSettled cur c sl := fun sl hm => by
      obtain ⟨sl2, hm2, rfl⟩ := List.mem_map.mp hm
      exact subSettled_round cur c e sl2 (w0 sl2 hm2)
    have hadj (e : ℕ) (ds : List LineAdj) : ∀ d ∈ ds.map (roundAdj exactOps e), d.amount.exp ≤ e := by
      intro d hd
      obtain ⟨d', -, rfl⟩ := List.mem_map.mp hd
      exact down_exp_le _ _
    rcases hrest with ⟨hp, rfl⟩ | ⟨p0, it2, hp, hip, rfl⟩
    · -- no price, so no sub-line is priced either
      have hany : bd.any SubPriced = false := by
        by_contra hn
        simp [lineItem, hcond, hn] at hp
      simpa [roundLine, Settled, hp, hany] using w0
    · obtain ⟨hcur2, p1, hp1⟩ := itemPrice_some hip
      have hsub2 := (itemPrice_dec hip (lineItem_dec exactOps cur c l0 bd (hwf.1 it0 hi)) hr.dec).1
      by_cases hany : bd.any SubPriced = true
      · -- priced by the sub-lines: the price has their precision, at least the currency's
        rw [lineItem_priced _ _ _ _ (by simp [hcond, hany])] at hp hip
        cases hp
        rw [itemPrice_same cur c rates _ _ (by simp)] at hip
        cases hip
        cases hp1
        have he : (up (exactOps.rescale ((bd.filterMap (·.total)).foldl (accum exactOps) ⟨0, c⟩) (subLinePrecision bd)) c).exp =
            max (subLinePrecision bd) c := by simp [up_exp]
        simp only [roundLine, lineOut, Settled, any_subPriced_round, subLinePrecision_round, hany, if_true, ← he]
        exact ⟨w1 _, hadj _ _, hadj _ _⟩
      · simp only [roundLine, lineOut, hp1, Settled, any_subPriced_round, hany, Bool.false_eq_true, if_false]
        exact ⟨w1 _, hcur2, hsub2, hadj _ _, hadj _ _⟩

/-! ### documents the next calculation reproduces -/

/-- an input line that the second calculation reproduces: `LineStable` of Proofs/CalcFix.lean (fixed
amounts not finer than the line is presented with: the complement is the in-place rounding behind the known
findings `fixed-amount-finer-than-presented` and `invert-after-in-place-rounding`), or a line that is already in the shape a calculation leaves -/
def InputLineStable (cur : String) (c : ℕ) (l : Line) : Prop := LineStable cur c l ∨ Settled cur c l

/-- the visible condition on an input document under which its second calculation reproduces the first -/
def DocStable (d : Doc) : Prop :=
  (∀ l ∈ d.lines, LineStable d.cur d.c l) ∧ (∀ x ∈ d.discounts, DocAdjStable d.c x) ∧
  (∀ x ∈ d.charges, DocAdjStable d.c x) ∧ (∀ a ∈ d.advances, AdvanceStable d.c a)

/-- `DocStable` widened to documents already in memory: a line may also be `Settled`, a document row
need only be `DocAdjStable'` -/
def InputStable (d : Doc) : Prop :=
  (∀ l ∈ d.lines, InputLineStable d.cur d.c l) ∧
  (∀ x ∈ d.discounts ++ d.charges, DocAdjStable' d.rule d.c x) ∧
  (∀ a ∈ d.advances, AdvanceStable d.c a)

theorem DocStable.inputStable {d : Doc} (h : DocStable d) : InputStable d :=
  ⟨fun l hl => .inl (h.1 l hl),
   fun x hx => ((List.mem_append.mp hx).elim (h.2.1 x) (h.2.2.1 x)).stable' _,
   h.2.2.2⟩

theorem InputStable.rowsFix {d : Doc} (hs : InputStable d) {p : Pre} (hpre : pre exactOps d = .ok p) : RowsFix d p :=
  rowsFix_of d p hpre (fun l hl => lineFix_of _ _ _ _ l ((hs.1 l hl).elim LineStable.fixable Settled.fixable)) hs.2.1

theorem calculate_fixpoint_of (d : Doc) (out : Out) (t : Totals) (hs : InputStable d)
    (h : calculate exactOps d = .ok out) (ht : out.totals = some t) :
    calculate exactOps (rereadDoc d out) = .ok out := by
  obtain ⟨p, tx, ⟨hpre, hne, htx, rfl, -⟩⟩ := calculated h ht
  exact calculate_reread_eq d p tx d.includes hpre hne (hs.rowsFix hpre) htx rfl hs.2.2

end GoblVerif.Calc
