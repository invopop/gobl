/-
  Helper lemmas for C15, input and context layer (Model/BulkInput.lean):
  the decode loop as a function, and the two simulations of the
  context-threaded system by the plain dispatcher (without a cancellation:
  the same run; with cancellations: the same run up to payloads).
-/
import GoblVerif.Proofs.Bulk
import GoblVerif.Model.BulkInput

namespace GoblVerif.Bulk
open List

variable {α β : Type}

/-! ## the decode loop -/

theorem parse_ok_prefix (pre : List (Req α)) (rest : List (Item α)) (e : Ending) :
    parse (pre.map Item.ok ++ rest) e = (pre ++ (parse rest e).1, (parse rest e).2) := by
  induction pre with
  | nil => simp
  | cons r rs ih => simp [parse, ih]

theorem parse_complete (pre : List (Req α)) (e : Ending) :
    parse (pre.map Item.ok) e = (pre, e.tail) := by
  have := parse_ok_prefix pre ([] : List (Item α)) e
  simpa [parse] using this

theorem parse_unreadable (pre : List (Req α)) (id : String) (rest : List (Item α)) (e : Ending) :
    parse (pre.map Item.ok ++ Item.broken id :: rest) e = (pre, Tail.bad id) := by
  rw [parse_ok_prefix]
  simp [parse]

/-! ## runs of the context-threaded system -/

theorem cexec_cons (c : CCfg α β) (s s' : CState α β) (l : CLabel) (ls : List CLabel) :
    cexec c s (l :: ls) = some s' ↔ ∃ s1, cstep c s l = some s1 ∧ cexec c s1 ls = some s' := by
  cases h : cstep c s l <;> simp [cexec, h]

theorem cstep_sys (c : CCfg α β) (s s1 : CState α β) (l : Label) :
    cstep c s (.sys l) = some s1 ↔ ∃ b, step (c.at s.cancelled) s.base l = some b ∧ s1 = { s with base := b } := by
  cases h : step (c.at s.cancelled) s.base l <;> simp [cstep, h, eq_comm]

/-- induction over a run; the premises only concern the labels that occur in it, so that "nobody cancels"
    can be used -/
theorem cexec_induction (c : CCfg α β) (P : CState α β → Prop) : ∀ (ls : List CLabel) (s s' : CState α β),
    (∀ l, CLabel.sys l ∈ ls → ∀ s b, step (c.at s.cancelled) s.base l = some b → P s → P { s with base := b }) →
    (CLabel.cancel ∈ ls → ∀ s, P s → P { s with cancelled := true }) →
    cexec c s ls = some s' → P s → P s'
  | [], s, s', _, _, h, hs => by cases h; exact hs
  | l :: ls, s, s', hsys, hcan, h, hs => by
    obtain ⟨s1, h1, h2⟩ := (cexec_cons c s s' l ls).mp h
    refine cexec_induction c P ls s1 s' (fun l hl => hsys l (mem_cons_of_mem _ hl))
      (fun hl => hcan (mem_cons_of_mem _ hl)) h2 ?_
    cases l with
    | cancel => cases h1; exact hcan mem_cons_self s hs
    | sys l =>
      obtain ⟨b, hb, rfl⟩ := (cstep_sys c s s1 l).mp h1
      exact hsys l mem_cons_self s b hb hs

theorem cexec_of_no_cancel (c : CCfg α β) (ls : List CLabel) (s : CState α β)
    (hn : CLabel.cancel ∉ ls) (h : cexec c (cinit c) ls = some s) :
    s.cancelled = false ∧ Reachable (c.at false) s.base :=
  cexec_induction c (fun s => s.cancelled = false ∧ Reachable (c.at false) s.base) ls _ s
    (fun _ _ _ _ hb hs => ⟨hs.1, hs.2.step (hs.1 ▸ hb)⟩) (fun hc => absurd hc hn) h ⟨rfl, [], rfl⟩

/-! ## with cancellations it is the plain system up to payloads -/

theorem shape_respOf (c : CCfg α β) (b : Bool) (w : Worker α) :
    (respOf (c.at b) w).shape = respOf c.shape w := rfl

theorem shape_finalOf (c : CCfg α β) (b : Bool) (n : Nat) :
    (finalOf (c.at b) n).shape = finalOf c.shape n := rfl

theorem step_shape (c : CCfg α β) (b : Bool) (s s' : State α β) (l : Label)
    (h : step (c.at b) s l = some s') : step c.shape s.shape l = some s'.shape := by
  cases Step.of_step h with
  | read hph hpd => simp [step, State.shape, hph, hpd]
  | stop hph hpd => simp [step, State.shape, hph, hpd]
  | send hw hcap =>
    have hcap' : s.buf.length < c.shape.cap := hcap
    simp [step, State.shape, hw, hcap', shape_respOf]
  | done hs => simp [step, State.shape, hs]
  | final hph hrun hsent hcap =>
    have hcap' : s.buf.length < c.shape.cap := hcap
    simp [step, State.shape, hph, hrun, hsent, hcap', shape_finalOf]
  | recv hb => simp [step, State.shape, hb]

theorem terminated_shape (s : State α β) : terminated s.shape = terminated s := by
  simp [terminated, State.shape]

/-! ## with cancellations every reply is still the request's own result, seen with or without the cancellation -/

/-- one induction, because the second fact needs the first at every step: what a step sends (`Step.stream`) is
    the reply of a running worker, and that those hold owed pairs is known of the plain dispatcher
    (`owed_reachable`) -/
theorem cexec_shape_sent (c : CCfg α β) (ls : List CLabel) (s : CState α β) (h : cexec c (cinit c) ls = some s) :
    Reachable c.shape s.base.shape ∧
      ∀ r ∈ s.base.stream, r.isFinal = false → r ∈ expected (c.at false) ∨ r ∈ expected (c.at true) := by
  refine cexec_induction c (fun s => Reachable c.shape s.base.shape ∧ ∀ r ∈ s.base.stream, r.isFinal = false →
    r ∈ expected (c.at false) ∨ r ∈ expected (c.at true)) ls _ s ?_ (fun _ _ hs => hs) h
    ⟨⟨[], rfl⟩, by simp [cinit, init, State.stream]⟩
  intro l _ s b hb ⟨hreach, hs⟩
  refine ⟨hreach.step (step_shape c _ _ b l hb), fun r hr hnf => ?_⟩
  rw [(Step.of_step hb).stream] at hr
  rcases mem_append.mp hr with hr | hr
  · exact hs r hr hnf
  · cases l with
    | send k =>
      obtain ⟨w, hw, rfl⟩ : ∃ w, s.base.running[k]? = some w ∧ respOf (c.at s.cancelled) w = r := by
        cases hk : s.base.running[k]? <;> simp_all
      have : respOf (c.at s.cancelled) w ∈ expected (c.at s.cancelled) :=
        mem_map.mpr ⟨w, (owed_reachable hreach).2 w (mem_of_getElem? hw), rfl⟩
      cases hc : s.cancelled <;> simp [hc] at this ⊢ <;> simp [this]
    | final => cases mem_singleton.mp hr; cases hnf
    | _ => cases hr

theorem cexec_shape (c : CCfg α β) (ls : List CLabel) (s : CState α β) (h : cexec c (cinit c) ls = some s) :
    Reachable c.shape s.base.shape :=
  (cexec_shape_sent c ls s h).1

theorem cexec_sent (c : CCfg α β) (ls : List CLabel) (s : CState α β) (h : cexec c (cinit c) ls = some s) :
    ∀ r ∈ s.base.stream, r.isFinal = false → r ∈ expected (c.at false) ∨ r ∈ expected (c.at true) :=
  (cexec_shape_sent c ls s h).2

end GoblVerif.Bulk
