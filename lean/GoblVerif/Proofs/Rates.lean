/-
  Helper lemmas for C12: the calendar order is a strict total order; `strictDesc`, `weakDesc` of the
  specification are `List.Pairwise`; the model's qualifier/date tests coincide with the specification's on real
  calendar days, so `RateDef.Value` is the first listed candidate (`value_eq_find_candidate`); in a (weakly)
  descending list the first entry that passes a test is `latest` of those that pass (`latest_filter_eq_find`);
  `inForce` meets its relational description `IsInForce`, which a strictly descending table makes unambiguous.
-/
import GoblVerif.Model.Rates
import GoblVerif.Spec.C12

namespace GoblVerif.Proofs.Rates
open GoblVerif.Rates GoblVerif.Spec.C12

/-! ## the calendar order -/

theorem dateLt_iff (a b : Date) :
    dateLt a b = true ↔ (a.y < b.y ∨ (a.y = b.y ∧ (a.m < b.m ∨ (a.m = b.m ∧ a.d < b.d)))) := by
  simp [dateLt]

theorem dateLe_iff (a b : Date) :
    dateLe a b = true ↔ (a.y < b.y ∨ (a.y = b.y ∧ (a.m < b.m ∨ (a.m = b.m ∧ a.d ≤ b.d)))) := by
  simp [dateLe]

theorem dateLt_trans {a b c : Date} (h1 : dateLt a b = true) (h2 : dateLt b c = true) : dateLt a c = true := by
  rw [dateLt_iff] at *; omega

theorem dateLt_asymm {a b : Date} (h1 : dateLt a b = true) : dateLt b a = false := by
  rw [Bool.eq_false_iff]; intro h2; rw [dateLt_iff] at *; omega

theorem dateLe_of_not_lt {a b : Date} (h : dateLt b a = false) : dateLe a b = true := by
  rw [Bool.eq_false_iff, Ne, dateLt_iff] at h; rw [dateLe_iff]; omega

theorem not_dateLe_of_lt {a b : Date} (h : dateLt a b = true) : dateLe b a = false := by
  rw [Bool.eq_false_iff]; intro h2; rw [dateLt_iff] at h; rw [dateLe_iff] at h2; omega

theorem dateLe_antisymm {a b : Date} (h1 : dateLe a b = true) (h2 : dateLe b a = true) : a = b := by
  rw [dateLe_iff] at *
  cases a; cases b; simp only [Date.mk.injEq] at *; omega

theorem dateLt_irrefl (a : Date) : dateLt a a = false := by
  rw [Bool.eq_false_iff, Ne, dateLt_iff]; omega

theorem dateLe_of_dateLt {a b : Date} (h : dateLt a b = true) : dateLe a b = true := by
  rw [dateLt_iff] at h; rw [dateLe_iff]; omega

theorem dateLe_trans {a b c : Date} (h1 : dateLe a b = true) (h2 : dateLe b c = true) : dateLe a c = true := by
  rw [dateLe_iff] at *; omega

theorem dateLe_refl (a : Date) : dateLe a a = true := by rw [dateLe_iff]; omega

/-- `civil.Date.Before` is the calendar order -/
theorem before_eq_dateLt (a b : Date) : a.before b = dateLt a b := by
  rw [Bool.eq_iff_iff, dateLt_iff]
  unfold Date.before
  split
  · simp; omega
  · split
    · simp; omega
    · simp; omega

/-- the code's date test `!since.After(date)` is "since ≤ date" -/
theorem not_after_eq_dateLe (s d : Date) : (!s.after d) = dateLe s d := by
  unfold Date.after
  rw [before_eq_dateLt]
  cases h : dateLt d s
  · simp [dateLe_of_not_lt h]
  · simp [not_dateLe_of_lt h]

theorem daysIn_eq (y : Nat) : ∀ m : Nat, 1 ≤ m → m ≤ 12 →
    Date.daysIn y m = if m == 2 then (if Date.isLeap y then 29 else 28)
      else if m == 4 || m == 6 || m == 9 || m == 11 then 30 else 31
  | 1, _, _ | 2, _, _ | 3, _, _ | 4, _, _ | 5, _, _ | 6, _, _
  | 7, _, _ | 8, _, _ | 9, _, _ | 10, _, _ | 11, _, _ | 12, _, _ => rfl
  | 0, h, _ => absurd h (by decide)
  | m + 13, _, h => absurd h (by omega)

theorem isValid_eq_realDay (a : Date) : a.isValid = realDay a := by
  unfold Date.isValid realDay
  by_cases h1 : 1 ≤ a.m
  · by_cases h12 : a.m ≤ 12
    · rw [daysIn_eq a.y a.m h1 h12]; rfl
    · simp [h12]
  · simp [h1]

/-! ## start dates with "undated = −∞" -/

theorem startLt_trans {a b c : Option Date} (h1 : startLt a b = true) (h2 : startLt b c = true) : startLt a c = true := by
  cases a <;> cases b <;> cases c <;> simp_all [startLt]
  exact dateLt_trans h1 h2

theorem startLt_asymm {a b : Option Date} (h : startLt a b = true) : startLt b a = false := by
  cases a <;> cases b <;> simp_all [startLt]
  exact dateLt_asymm h

theorem startLt_irrefl (a : Option Date) : startLt a a = false := by
  cases a <;> simp [startLt, dateLt_irrefl]

theorem startLe_of_startLt {a b : Option Date} (h : startLt a b = true) : startLe a b = true := by
  cases a <;> cases b <;> simp_all [startLt, startLe]
  exact dateLe_of_dateLt h

theorem startLe_refl (a : Option Date) : startLe a a = true := by
  cases a <;> simp [startLe, dateLe_refl]

theorem startLe_antisymm {a b : Option Date} (h1 : startLe a b = true) (h2 : startLe b a = true) : a = b := by
  cases a <;> cases b <;> simp_all [startLe]
  exact dateLe_antisymm h1 h2

theorem startLe_of_not_startLt {a b : Option Date} (h : startLt b a = false) : startLe a b = true := by
  cases a <;> cases b <;> simp_all [startLt, startLe]
  exact dateLe_of_not_lt h

theorem startLe_trans {a b c : Option Date} (h1 : startLe a b = true) (h2 : startLe b c = true) : startLe a c = true := by
  cases a <;> cases b <;> cases c <;> simp_all [startLe]
  exact dateLe_trans h1 h2

theorem not_startLt_of_startLe {a b : Option Date} (h : startLe b a = true) : startLt a b = false := by
  cases hlt : startLt a b
  · rfl
  · rw [startLe_antisymm h (startLe_of_startLt hlt), startLt_irrefl] at hlt; cases hlt

/-! ## descending lists of start dates -/

theorem chain_iff_pairwise (r : Option Date → Option Date → Bool)
    (htrans : ∀ {a b c}, r a b = true → r b c = true → r a c = true) (D : List (Option Date) → Bool)
    (h0 : D [] = true) (h1 : ∀ x, D [x] = true) (h2 : ∀ x y l, D (x :: y :: l) = (r y x && D (y :: l)))
    (l : List (Option Date)) : D l = true ↔ l.Pairwise (fun x y => r y x = true) := by
  induction l with
  | nil => simp [h0]
  | cons x l ih =>
    cases l with
    | nil => simp [h1]
    | cons y l =>
      rw [h2, Bool.and_eq_true, ih, List.pairwise_cons (a := x)]
      refine and_congr_left fun hyl => ⟨fun hxy z hz => ?_, fun hx => hx y (by simp)⟩
      rcases List.mem_cons.mp hz with rfl | hz
      · exact hxy
      · exact htrans ((List.pairwise_cons.mp hyl).1 z hz) hxy

theorem strictDesc_iff (l : List (Option Date)) : strictDesc l = true ↔ l.Pairwise (fun x y => startLt y x = true) :=
  chain_iff_pairwise startLt startLt_trans strictDesc rfl (fun _ => rfl) (fun _ _ _ => rfl) l

theorem weakDesc_iff (l : List (Option Date)) : weakDesc l = true ↔ l.Pairwise (fun x y => startLe y x = true) :=
  chain_iff_pairwise startLe startLe_trans weakDesc rfl (fun _ => rfl) (fun _ _ _ => rfl) l

theorem weakDesc_of_strictDesc {l : List (Option Date)} (h : strictDesc l = true) : weakDesc l = true :=
  (weakDesc_iff l).mpr (((strictDesc_iff l).mp h).imp startLe_of_startLt)

theorem since_inj_of_strictDesc {A : List RateValue} (h : strictDesc (A.map (·.since)) = true) {r r' : RateValue}
    (hr : r ∈ A) (hr' : r' ∈ A) (hs : r.since = r'.since) : r = r' := by
  rw [strictDesc_iff, List.pairwise_map] at h
  induction A with
  | nil => cases hr
  | cons x rest ih =>
    obtain ⟨hx, hrest⟩ := List.pairwise_cons.mp h
    rcases List.mem_cons.mp hr with rfl | hr1 <;> rcases List.mem_cons.mp hr' with rfl | hr1'
    · rfl
    · exact absurd (hx r' hr1') (by rw [← hs, startLt_irrefl]; decide)
    · exact absurd (hx r hr1) (by rw [hs, startLt_irrefl]; decide)
    · exact ih hrest hr1 hr1'

/-! ## `latest` -/

theorem latest_cons (v : RateValue) (rest : List RateValue) :
    latest (v :: rest) = some (match latest rest with
      | none => v
      | some b => if startLt v.since b.since then b else v) := by
  rw [latest]; cases latest rest with
  | none => rfl
  | some b => dsimp only; split <;> rfl

theorem latest_eq_none {l : List RateValue} : latest l = none ↔ l = [] := by
  cases l with
  | nil => exact ⟨fun _ => rfl, fun _ => rfl⟩
  | cons v rest => rw [latest_cons]; simp

theorem latest_mem {l : List RateValue} {r : RateValue} (h : latest l = some r) : r ∈ l := by
  induction l generalizing r with
  | nil => cases h
  | cons v rest ih =>
    rw [latest_cons, Option.some.injEq] at h
    subst h
    cases hl : latest rest with
    | none => simp
    | some b => dsimp only; split <;> simp [ih hl]

/-- `latest` returns an entry with a greatest start date -/
theorem latest_ge {l : List RateValue} {r : RateValue} (h : latest l = some r) :
    ∀ x ∈ l, startLe x.since r.since = true := by
  induction l generalizing r with
  | nil => intro x hx; cases hx
  | cons v rest ih =>
    rw [latest_cons, Option.some.injEq] at h
    subst h
    intro x hx
    cases hl : latest rest with
    | none =>
      obtain rfl : x = v := by simpa [latest_eq_none.mp hl] using hx
      exact startLe_refl _
    | some b =>
      dsimp only
      cases hlt : startLt v.since b.since
      · rw [if_neg (by simp)]
        rcases List.mem_cons.mp hx with rfl | hx
        · exact startLe_refl _
        · exact startLe_trans (ih hl x hx) (startLe_of_not_startLt hlt)
      · rw [if_pos rfl]
        rcases List.mem_cons.mp hx with rfl | hx
        · exact startLe_of_startLt hlt
        · exact ih hl x hx

/-- in a list whose start dates descend (weakly), the first entry passing any
    test `p` is `latest` of the entries passing `p` -/
theorem latest_filter_eq_find (A : List RateValue) (p : RateValue → Bool)
    (hd : weakDesc (A.map (·.since)) = true) :
    latest (A.filter p) = A.find? p := by
  rw [weakDesc_iff, List.pairwise_map] at hd
  induction A with
  | nil => rfl
  | cons v rest ih =>
    obtain ⟨hv, hrest⟩ := List.pairwise_cons.mp hd
    cases hp : p v
    · rw [List.filter_cons_of_neg (by simp [hp]), List.find?_cons_of_neg (by simp [hp])]
      exact ih hrest
    · rw [List.filter_cons_of_pos (by simp [hp]), List.find?_cons_of_pos (by simp [hp]), latest_cons]
      cases hl : latest (rest.filter p) with
      | none => rfl
      | some b =>
        -- `b` is listed after `v`, so it does not start later
        simp [not_startLt_of_startLe (hv b (List.mem_filter.mp (latest_mem hl)).1)]

/-! ## model tests = specification tests -/

theorem hasAnyTag_eq (rowTags tags : List String) :
    hasAnyTag rowTags tags = rowTags.any (fun t => tags.contains t) := by
  unfold hasAnyTag
  congr 1
  funext t
  induction tags with
  | nil => rfl
  | cons x xs ih =>
    simp only [List.any_cons, List.contains_cons, ih]

theorem extContains_eq (ext rowExt : Ext) (hne : rowExt.isEmpty = false) :
    extContains ext rowExt = rowExt.all (fun kv => extLookup ext kv.1 == some kv.2) := by
  unfold extContains
  cases ext with
  | nil =>
    cases rowExt with
    | nil => simp at hne
    | cons kv rest => simp [extLookup]
  | cons p q => simp

theorem applicable_eq_applies (v : RateValue) (tags : List String) (ext : Ext) :
    applicable v tags ext = applies v tags ext := by
  unfold applicable applies tagsApply extApply
  rw [hasAnyTag_eq]
  cases h : v.ext.isEmpty
  · rw [extContains_eq _ _ h]
  · simp

/-- on real calendar days the code's date test is "start ≤ d" -/
theorem started_eq_onOrBefore (v : RateValue) (d : Date) (hv : sinceReal v = true) :
    started v d = onOrBefore v d := by
  unfold started onOrBefore
  unfold sinceReal at hv
  cases hs : v.since with
  | none => rfl
  | some s =>
    rw [hs] at hv
    simp only at hv ⊢
    rw [isValid_eq_realDay, hv, not_after_eq_dateLe]
    simp

theorem extLookup_eq_lookup (em : Ext) (k : String) : extLookup em k = List.lookup k em := by
  induction em with
  | nil => rfl
  | cons a em ih =>
    obtain ⟨k', v⟩ := a
    simp only [extLookup, List.lookup]
    by_cases h : k' = k
    · subst h; simp
    · have h2 : (k == k') = false := by simp; exact fun e => h e.symm
      simp [h, h2, ih]

/-- the two `continue` guards of `RateDef.Value` are the negated conjuncts of `applicable` -/
theorem applicable_eq_guards (rv : RateValue) (tags : List String) (ext : Ext) :
    applicable rv tags ext =
      (!(!rv.tags.isEmpty && !hasAnyTag rv.tags tags) && !(!rv.ext.isEmpty && !extContains ext rv.ext)) := by
  unfold applicable
  cases rv.tags.isEmpty <;> cases hasAnyTag rv.tags tags <;> cases rv.ext.isEmpty <;> cases extContains ext rv.ext <;> rfl

theorem find_congr {α : Type} {l : List α} {p q : α → Bool} (h : ∀ x ∈ l, p x = q x) :
    l.find? p = l.find? q := by
  induction l with
  | nil => rfl
  | cons a t ih =>
    rw [List.find?_cons, List.find?_cons, h a (List.mem_cons_self ..)]
    cases q a
    · exact ih (fun x hx => h x (List.mem_cons_of_mem _ hx))
    · rfl

theorem value_eq_find_first (vals : List RateValue) (date : Date) (tags : List String) (ext : Ext) :
    value vals date tags ext = vals.find? (fun rv => applicable rv tags ext && started rv date) := by
  induction vals with
  | nil => rfl
  | cons rv rest ih =>
    rw [value, List.find?_cons, applicable_eq_guards, ih]
    cases (!rv.tags.isEmpty && !hasAnyTag rv.tags tags) <;> cases (!rv.ext.isEmpty && !extContains ext rv.ext) <;>
      cases started rv date <;> rfl

/-- `RateDef.Value` = first applicable row that has started -/
theorem value_eq_find (vals : List RateValue) (d : Date) (tags : List String) (ext : Ext) :
    value vals d tags ext = (vals.filter fun v => applicable v tags ext).find? (fun v => started v d) := by
  rw [value_eq_find_first, List.find?_filter]
  simp only [Bool.decide_and, Bool.decide_eq_true]

theorem value_eq_find_candidate (vals : List RateValue) (d : Date) (tags : List String) (ext : Ext)
    (hreal : ∀ v ∈ vals, sinceReal v = true) :
    value vals d tags ext = (vals.filter fun v => applies v tags ext).find? (fun v => onOrBefore v d) := by
  rw [value_eq_find, funext fun v => applicable_eq_applies v tags ext]
  exact find_congr fun v hv => started_eq_onOrBefore v d (hreal v (List.mem_filter.mp hv).1)

theorem candidates_eq (vals : List RateValue) (d : Date) (tags : List String) (ext : Ext) :
    candidates vals d tags ext = (vals.filter fun v => applies v tags ext).filter fun v => onOrBefore v d := by
  rw [candidates, List.filter_filter]; congr 1; funext v; exact Bool.and_comm _ _

theorem onOrBefore_eq (v : RateValue) (d : Date) : onOrBefore v d = startLe v.since (some d) := by
  unfold onOrBefore; cases v.since <;> rfl

theorem mem_candidates {vals : List RateValue} {d : Date} {tags : List String} {ext : Ext} {v : RateValue} :
    v ∈ candidates vals d tags ext ↔ v ∈ vals ∧ applies v tags ext = true ∧ onOrBefore v d = true := by
  simp [candidates]

/-! ## `inForce` meets its relational description -/

/-- what `inForce` returns applies, has taken effect, and nothing else that
    applies and has taken effect starts later -/
theorem inForce_isInForce (vals : List RateValue) (d : Date) (tags : List String) (ext : Ext) (r : RateValue)
    (h : inForce vals d tags ext = some r) : IsInForce vals d tags ext r := by
  obtain ⟨h1, h2, h3⟩ := mem_candidates.mp (latest_mem h)
  exact ⟨h1, h2, h3, fun r' hr' ha hb => latest_ge h r' (mem_candidates.mpr ⟨hr', ha, hb⟩)⟩

/-- `inForce` answers `none` only when nothing applies that has taken effect -/
theorem inForce_none_iff (vals : List RateValue) (d : Date) (tags : List String) (ext : Ext) :
    inForce vals d tags ext = none ↔ ∀ v ∈ vals, applies v tags ext = true → onOrBefore v d = false := by
  rw [inForce, latest_eq_none, List.eq_nil_iff_forall_not_mem]
  simp only [mem_candidates, not_and, Bool.not_eq_true]

/-- in a table that is strictly descending under the filter, two values in
    force are the same value: the choice is unambiguous -/
theorem isInForce_unique (vals : List RateValue) (d : Date) (tags : List String) (ext : Ext)
    (hdesc : descendingFor vals tags ext = true) (r r' : RateValue)
    (h : IsInForce vals d tags ext r) (h' : IsInForce vals d tags ext r') : r = r' :=
  since_inj_of_strictDesc hdesc (List.mem_filter.mpr ⟨h.1, by simpa using h.2.1⟩)
    (List.mem_filter.mpr ⟨h'.1, by simpa using h'.2.1⟩)
    (startLe_antisymm (h'.2.2.2 r h.1 h.2.1 h.2.2.1) (h.2.2.2 r' h'.1 h'.2.1 h'.2.2.1))

/-! ## tables without qualified rows -/

theorem applies_of_unqualified {v : RateValue} (h : isQualified v = false) (tags : List String) (ext : Ext) :
    applies v tags ext = true := by
  unfold isQualified at h
  unfold applies tagsApply extApply
  cases h1 : v.tags.isEmpty <;> cases h2 : v.ext.isEmpty <;> simp_all

theorem qualifiedTie_of_unqualified {vals : List RateValue} (h : ∀ v ∈ vals, isQualified v = false) :
    qualifiedTie vals = false := by
  rw [qualifiedTie, List.any_eq_false]
  intro v hv
  simp [h v hv]

/-! ## `prepareRate` after the lookup of the rate -/

/-- `(*Combo).prepareRate` after the rate's extensions have been copied onto the combo: the error key (none =
    nil) and the combo as the call leaves it -/
def prepareTail (rate : RateDef) (c : Combo) (tags : List String) (date : Date) : Option String × Combo :=
  if rate.exempt then (none, { c with percent := none, surcharge := none })
  else if rate.values.isEmpty then (none, c)
  else match value rate.values date tags c.ext with
    | none => (some "invalid-date", c)
    | some v => (none, { c with percent := some v.percent, surcharge := v.surcharge })

theorem prepareTail_err {rate : RateDef} {c : Combo} {tags : List String} {date : Date} {e : String}
    (h : (prepareTail rate c tags date).1 = some e) : e = "invalid-date" := by
  unfold prepareTail at h
  split at h
  · cases h
  split at h
  · cases h
  split at h
  · exact (Option.some.inj h).symm
  · cases h

theorem prepareRate_eq_tail {cat : CategoryDef} {c : Combo} {rate : RateDef} (tags : List String) (date : Date)
    (hk : c.rate ≠ "") (hr : rateDef cat.rates c.rate = some rate) :
    prepareRate cat c tags date =
      match prepareTail rate { c with ext := mergedExt c rate } tags date with
      | (none, c') => .ok c'
      | (some _, _) => .error .invalidDate := by
  have hk' : (c.rate == "") = false := by simpa using hk
  simp only [prepareRate, hk', hr, prepareTail, Bool.false_eq_true, if_false]
  split
  · rfl
  split
  · rfl
  cases value rate.values date tags (mergedExt c rate) <;> rfl

end GoblVerif.Proofs.Rates
