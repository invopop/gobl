/-
  The customer-rates part of C04 (Model/CustomerRates.lean).  What carries the
  closed form of one `Invoice.Calculate` (`Props.C04.customer_rates_closed_form`,
  `repair_closed_form` for the alternative order of a possible repair); given a
  closed form, `Calculate` repeated is the step repeated, so it settles when the
  step does.  Then the shipped
  instance, regime PT with or without pt-saft-v1: what its normalisers write,
  key by key, and after how many applications its step settles.
-/
import GoblVerif.Model.CustomerRates
import Mathlib.Logic.Function.Iterate

namespace GoblVerif.CustomerRates

theorem mapCombos_mapCombos (f g : Combo → Combo) (d : Doc) :
    mapCombos f (mapCombos g d) = mapCombos (fun t => f (g t)) d := by
  simp [mapCombos, List.map_map, Function.comp_def]

theorem mapCombos_congr (f g : Combo → Combo) (d : Doc) (h : ∀ t, f t = g t) : mapCombos f d = mapCombos g d := by
  rw [funext h]

@[simp] theorem mapCombos_tagged (f : Combo → Combo) (d : Doc) : (mapCombos f d).tagged = d.tagged := rfl
@[simp] theorem mapCombos_customer (f : Combo → Combo) (d : Doc) : (mapCombos f d).customer = d.customer := rfl

theorem mapCombos_id (d : Doc) : mapCombos (fun t => t) d = d := by
  cases d
  simp [mapCombos]

/-- `applyCustomerRates` writes the customer's country, if there is one, on every combo -/
theorem applyCustomerRates_eq (d : Doc) : applyCustomerRates d = mapCombos (withCountry d.customer) d := by
  obtain ⟨tg, cu, l, di, ch⟩ := d
  cases cu with
  | none => exact (mapCombos_id _).symm
  | some c => rfl

/-- the customer-rates step of `normalizeAlt` and of `calculate` -/
theorem rates_step_eq (d : Doc) :
    (if d.tagged then applyCustomerRates d else d) = mapCombos (withCountry (if d.tagged then d.customer else none)) d := by
  split
  · exact applyCustomerRates_eq d
  · exact (mapCombos_id d).symm

theorem normalize_eq (n : Norms) (d : Doc) : normalize n d = mapCombos n.combo (normCustomer n d) := rfl

theorem normalizeAlt_eq (n : Norms) (d : Doc) :
    normalizeAlt n d = mapCombos n.combo (if (normCustomer n d).tagged then applyCustomerRates (normCustomer n d)
      else normCustomer n d) := rfl

theorem effective_untagged (n : Norms) {d : Doc} (ht : d.tagged = false) : effective n d = none := by
  simp [effective, ht]

theorem effective_tagged (n : Norms) {d : Doc} {c : String} (ht : d.tagged = true) (hc : d.customer = some c) :
    effective n d = some (n.party c) := by
  simp [effective, ht, hc]

theorem normCustomer_mapCombos (n : Norms) (f : Combo → Combo) (d : Doc) :
    normCustomer n (mapCombos f d) = mapCombos f (normCustomer n d) := rfl

theorem normCustomer_idem (n : Norms) (hp : ∀ c, n.party (n.party c) = n.party c) (d : Doc) :
    normCustomer n (normCustomer n d) = normCustomer n d := by
  cases d with
  | mk tg cu l di ch =>
    cases cu <;> simp [normCustomer, hp]

theorem effective_normCustomer (n : Norms) (hp : ∀ c, n.party (n.party c) = n.party c) (d : Doc) :
    effective n (normCustomer n d) = effective n d := by
  cases d with
  | mk tg cu l di ch =>
    cases cu <;> cases tg <;> simp [effective, normCustomer, hp]

theorem effective_mapCombos (n : Norms) (f : Combo → Combo) (d : Doc) : effective n (mapCombos f d) = effective n d := rfl

theorem withCountry_idem (o : Option String) (t : Combo) : withCountry o (withCountry o t) = withCountry o t := by
  cases o <;> rfl

/-- `Calculate` repeated: the customer stays as the first normalisation left it and every combo goes
    through the step as many times (`P`, `S`: `pass`, `step` or `passAlt`, `stepAlt`) -/
theorem closed_iterate (n : Norms) {P : Doc → Doc} {S : Option String → Combo → Combo}
    (hP : ∀ d, P d = mapCombos (S (effective n d)) (normCustomer n d))
    (hp : ∀ c, n.party (n.party c) = n.party c) (d : Doc) (j : ℕ) :
    P^[j + 1] d = mapCombos ((S (effective n d))^[j + 1]) (normCustomer n d) := by
  induction j generalizing d with
  | zero => exact hP d
  | succ j ih =>
    show P^[j + 1] (P d) = _
    rw [ih, hP d, effective_mapCombos, effective_normCustomer n hp, normCustomer_mapCombos,
      normCustomer_idem n hp, mapCombos_mapCombos]
    rfl

/-- if the step settles, so does `Calculate` -/
theorem settles (n : Norms) {P : Doc → Doc} {S : Option String → Combo → Combo}
    (hP : ∀ d, P d = mapCombos (S (effective n d)) (normCustomer n d))
    (hp : ∀ c, n.party (n.party c) = n.party c) (d : Doc) (i j : ℕ)
    (hs : ∀ t, (S (effective n d))^[i + 1] t = (S (effective n d))^[j + 1] t) : P^[i + 1] d = P^[j + 1] d := by
  rw [closed_iterate n hP hp, closed_iterate n hP hp]
  exact mapCombos_congr _ _ _ hs

/-! ## the PT / pt-saft-v1 instance -/

/-- the `pt-region` the PT regime leaves, given the combo's country and the region it had -/
def ptRegion (c r : String) : String :=
  if foreignTo "PT" c then isoCountry c else if r = "" then "PT" else r

/-- the `pt-saft-tax-rate` pt-saft-v1 leaves, given country, rate key and the code it had -/
def ptSaftRate (c rate s : String) : String :=
  if foreignTo "PT" c then "OUT" else if rate = "" then s else (saftRateCode rate).getD s

theorem ptRegimeCombo_eq (t : Combo) : ptRegimeCombo t =
    { t with ext := fun x => if t.cat = "VAT" ∧ x = "pt-region" then ptRegion t.country (t.ext x) else t.ext x } := by
  unfold ptRegimeCombo ptRegion
  by_cases h1 : t.cat = "VAT" <;> simp only [h1, ne_eq, not_true_eq_false, not_false_eq_true, if_true, if_false, true_and, false_and]
  congr 1; funext x
  by_cases hx : x = "pt-region" <;> by_cases h2 : foreignTo "PT" t.country <;> by_cases h0 : t.ext "pt-region" = "" <;>
    simp [extSet, hx, h2, h0]

theorem saftCombo_eq (t : Combo) : saftCombo t =
    { t with ext := fun x => if t.cat = "VAT" ∧ x = "pt-saft-tax-rate" then ptSaftRate t.country t.rate (t.ext x) else t.ext x } := by
  obtain ⟨cat, c, rate, e⟩ := t
  have set_eq (code : String) : extSet "pt-saft-tax-rate" code e =
      fun x => if x = "pt-saft-tax-rate" then code else e x := rfl
  unfold saftCombo ptSaftRate
  by_cases h1 : cat = "VAT" <;> simp only [h1, ne_eq, not_true_eq_false, not_false_eq_true, if_true, if_false, true_and, false_and]
  by_cases h2 : foreignTo "PT" c <;> simp only [h2, if_true, if_false, set_eq]
  by_cases h3 : rate = "" <;> simp only [h3, if_true, if_false, ite_self]
  cases saftRateCode rate <;> simp only [Option.getD, ite_self]

theorem ptRegion_idem (c r : String) : ptRegion c (ptRegion c r) = ptRegion c r := by
  unfold ptRegion
  by_cases h : foreignTo "PT" c <;> by_cases h0 : r = "" <;> simp [h, h0]

theorem ptSaftRate_idem (c rate s : String) : ptSaftRate c rate (ptSaftRate c rate s) = ptSaftRate c rate s := by
  unfold ptSaftRate
  by_cases h : foreignTo "PT" c <;> by_cases h0 : rate = "" <;> cases saftRateCode rate <;> simp [h, h0]

/-- what the PT normalisers do to the extensions, given category, country and rate -/
def ptExt (saft : Bool) (cat country rate : String) (e : Ext) : Ext :=
  ((ptNorms saft).combo ⟨cat, country, rate, e⟩).ext

/-- … key by key: only `pt-region` and, with the addon, `pt-saft-tax-rate` of a VAT combo are written -/
theorem ptExt_apply (saft : Bool) (cat c rate : String) (e : Ext) (x : String) :
    ptExt saft cat c rate e x =
      if cat = "VAT" ∧ x = "pt-region" then ptRegion c (e x)
      else if cat = "VAT" ∧ saft = true ∧ x = "pt-saft-tax-rate" then ptSaftRate c rate (e x) else e x := by
  cases saft <;> simp only [ptExt, ptNorms, ptRegimeCombo_eq, saftCombo_eq, Bool.false_eq_true, if_false, if_true,
    false_and, and_false, true_and]
  by_cases h : cat = "VAT" ∧ x = "pt-saft-tax-rate"
  · simp [h]
  · simp only [h, if_false]

/-- the PT normalisers change the extensions only -/
theorem ptNorms_combo_eq (saft : Bool) (t : Combo) :
    (ptNorms saft).combo t = { t with ext := ptExt saft t.cat t.country t.rate t.ext } := by
  cases saft <;> simp only [ptExt, ptNorms, ptRegimeCombo_eq, saftCombo_eq, Bool.false_eq_true, if_false, if_true]

/-- normalising a normalised combo of the same country changes nothing -/
theorem ptExt_idem (saft : Bool) (cat c rate : String) (e : Ext) :
    ptExt saft cat c rate (ptExt saft cat c rate e) = ptExt saft cat c rate e := by
  funext x
  rw [ptExt_apply, ptExt_apply]
  split
  · rw [ptRegion_idem]
  · split
    · rw [ptSaftRate_idem]
    · rfl

/-- the regime's own country and no country are the same to the PT normalisers -/
theorem ptExt_own (saft : Bool) (cat rate : String) (e : Ext) :
    ptExt saft cat "PT" rate e = ptExt saft cat "" rate e := by
  funext x
  simp [ptExt_apply, ptRegion, ptSaftRate, foreignTo]

theorem partyCountry_idem (c : String) : partyCountry (partyCountry c) = partyCountry c := by
  unfold partyCountry
  by_cases h : c = "GR" <;> simp [h]

/-- (possible repair) one combo would be settled after one calculation: regime PT, with or without
    pt-saft-v1, whatever the customer rates are -/
theorem pt_stepAlt_idem (saft : Bool) (o : Option String) (t : Combo) :
    stepAlt (ptNorms saft) (comboCalculate "PT") o (stepAlt (ptNorms saft) (comboCalculate "PT") o t)
      = stepAlt (ptNorms saft) (comboCalculate "PT") o t := by
  cases t with
  | mk cat country rate ext =>
  cases o with
  | some c =>
    simp only [stepAlt, withCountry, setCountry, ptNorms_combo_eq, comboCalculate]
    by_cases h : c = "PT"
    · simp only [h, if_true, ptExt_idem]
    · simp only [h, if_false, ptExt_idem]
  | none =>
    simp only [stepAlt, withCountry, ptNorms_combo_eq, comboCalculate]
    by_cases h : country = "PT"
    · subst h
      simp only [if_true, ptExt_own, ptExt_idem]
      simp
    · simp only [h, if_false, ptExt_idem]

/-- (the code) without customer rates one combo is settled after one calculation -/
theorem pt_step_none_idem (saft : Bool) (t : Combo) :
    step (ptNorms saft) (comboCalculate "PT") none (step (ptNorms saft) (comboCalculate "PT") none t)
      = step (ptNorms saft) (comboCalculate "PT") none t :=
  pt_stepAlt_idem saft none t

/-- (the code) with customer rates one combo is settled after TWO calculations: from the second one on
    the normalisers see the country the first one stored -/
theorem pt_step_settles (saft : Bool) (o : Option String) (t : Combo) :
    step (ptNorms saft) (comboCalculate "PT") o
        (step (ptNorms saft) (comboCalculate "PT") o (step (ptNorms saft) (comboCalculate "PT") o t))
      = step (ptNorms saft) (comboCalculate "PT") o (step (ptNorms saft) (comboCalculate "PT") o t) := by
  cases o with
  | none => rw [pt_step_none_idem]
  | some c =>
    cases t with
    | mk cat country rate ext =>
    simp only [step, withCountry, setCountry, ptNorms_combo_eq, comboCalculate]
    by_cases h : c = "PT"
    · simp only [h, if_true, ptExt_idem]
    · simp only [h, if_false, ptExt_idem]

end GoblVerif.CustomerRates
