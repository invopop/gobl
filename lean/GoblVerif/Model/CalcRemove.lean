/-
  CalcRemove: executable model of `Invoice.RemoveIncludedTaxes`
  (/repo/bill/invoice.go → bill/calculator.go `removeIncludedTaxes`,
  bill/line.go `removeLineIncludedTaxes`, `removeSubLinesIncludedTaxes`,
  `removeLineDiscountsIncludedTaxes`, `removeLineChargesIncludedTaxes`,
  bill/discounts.go `Discount.removeIncludedTaxes`, bill/charges.go
  `Charge.removeIncludedTaxes`), one Lean function per Go function, on top of
  `Calc.calculate` (Model/Calc.lean) and parametric in the same rounding
  primitives.

  The Go function works on the invoice *in memory*: `calculate` overwrites the
  rows with their calculated and presented (rounded) form and replaces the
  totals object, and `removeIncludedTaxes` calls it two or three times.  `Mem`
  is that state (rows and settings as a `Doc`, plus the `Totals` object if
  there is one); `calcMem` is one `calculate(doc)` on it.  What `calculate`
  reads from an existing totals object is its `Rounding` only
  (`Totals.reset` keeps it), which is what `Doc.rounding` stands for.

  Not modelled (as in Calc.lean): substituted sub-lines (no effect on any
  total).  Tax combos are prepared ones: `line.Taxes.Get(cat).Percent` is the
  percentage the first calculation resolved.

  Core Lean only.
-/
import GoblVerif.Model.Calc

namespace GoblVerif.Calc

/-- `defaultTaxRemovalAccuracy` (bill/invoice.go) -/
def removalAccuracy : Nat := 2

/-- an invoice in memory -/
structure Mem where
  /-- rows and settings; `doc.rounding` is not read: the rounding lives in `totals` -/
  doc : Doc
  /-- `inv.Totals` -/
  totals : Option Totals
deriving Repr, Inhabited

/-- why `removeIncludedTaxes` did not return normally -/
inductive RemErr
  | calc (e : CalcErr)   -- one of its `calculate` calls returned an error
  | nilTotals            -- `t.TotalWithTax` on a nil `doc.getTotals()` (a panic in Go; shown unreachable by `Props.C17.remove_included_returns_normally`)
deriving Repr, DecidableEq, Inhabited

/-- `new(Totals)`: every amount is the zero value `Amount{0, 0}` -/
def zeroTotals : Totals :=
  { sum := ⟨0, 0⟩, discount := none, charge := none, taxIncluded := none, total := ⟨0, 0⟩, taxes := none,
    tax := ⟨0, 0⟩, totalWithTax := ⟨0, 0⟩, rounding := none, payable := ⟨0, 0⟩, advances := none, due := none }

section
variable (o : Ops)

/-- the rows as `calculate` leaves them in memory (`rereadDoc` of Proofs/CalcFix.lean) -/
def stored (d : Doc) (out : Out) : Doc :=
  { d with lines := out.lines, discounts := out.discounts, charges := out.charges,
           advances := out.advances, dues := out.dues }

/-- one `calculate(doc)` on the invoice in memory: the rounding is taken from the totals object, the
rows are overwritten, the totals object is replaced (by nil when there is nothing to add up) -/
def calcMem (m : Mem) : Except CalcErr Mem :=
  let d : Doc := { m.doc with rounding := m.totals.bind (·.rounding) }
  match calculate o d with
  | .error e => .error e
  | .ok out => .ok { doc := stored d out, totals := out.totals }

/-- `Amount.Upscale` -/
def upscale (a : Amount) (n : Nat) : Amount := o.rescale a (a.exp + n)

/-- `x.Upscale(accuracy).Remove(percent)` -/
def removeAt (a : Amount) (p : Pct) : Amount := remove o (upscale o a removalAccuracy) p

/-- `removeLineDiscountsIncludedTaxes` / `removeLineChargesIncludedTaxes`, one row -/
def removeLineAdj (p : Pct) (d : LineAdj) : LineAdj := { d with amount := removeAt o d.amount p }

/-- `removeSubLinesIncludedTaxes`, one row -/
def removeSubLine (p : Pct) (sl : SubLine) : SubLine :=
  match sl.item with
  | none => sl
  | some it =>
    match it.price with
    | none => sl
    | some pr =>
      { sl with item := some { it with alts := [], price := some (removeAt o pr p) },
                discounts := sl.discounts.map (removeLineAdj o p),
                charges := sl.charges.map (removeLineAdj o p) }

/-- `removeLineIncludedTaxes` -/
def removeLineIncluded (k : String) (l : Line) : Line :=
  match l.taxes.find? (fun cb => cb.cat == k) with
  | none => l
  | some cb =>
    match cb.percent with
    | none => l
    | some p =>
      match l.item with
      | none => l
      | some it =>
        match it.price with
        | none => l
        | some pr =>
          { l with item := some { it with alts := [], price := some (removeAt o pr p) },
                   breakdown := l.breakdown.map (removeSubLine o p),
                   discounts := l.discounts.map (removeLineAdj o p),
                   charges := l.charges.map (removeLineAdj o p) }

/-- `Discount.removeIncludedTaxes` / `Charge.removeIncludedTaxes` -/
def removeAdjIncluded (k : String) (x : DocAdj) : DocAdj :=
  match x.taxes.find? (fun cb => cb.cat == k) with
  | none => x
  | some cb =>
    match cb.percent with
    | none => x
    | some p => { x with amount := removeAt o x.amount p }

/-- the document between the removal and the recalculation: a fresh totals object, every row with the
included tax taken out, `tax.prices_include` cleared -/
def removedMem (k : String) (m : Mem) : Mem :=
  { doc := { m.doc with lines := m.doc.lines.map (removeLineIncluded o k),
                        discounts := m.doc.discounts.map (removeAdjIncluded o k),
                        charges := m.doc.charges.map (removeAdjIncluded o k),
                        includes := none },
    totals := some zeroTotals }

/-- `removeIncludedTaxes` from `totalWithTax := doc.getTotals().TotalWithTax` on -/
def removeFrom (k : String) (m : Mem) (t : Totals) : Except RemErr Mem :=
  let totalWithTax := t.totalWithTax
  match calcMem o (removedMem o k m) with
  | .error e => .error (.calc e)
  | .ok m2 =>
    match m2.totals with
    | none => .error .nilTotals
    | some t2 =>
      if !(amtEq totalWithTax t2.totalWithTax) then
        let rnd := sub o totalWithTax t2.totalWithTax
        match calcMem o { m2 with totals := some { t2 with rounding := some rnd } } with
        | .error e => .error (.calc e)
        | .ok m3 => .ok m3
      else .ok m2

/-- `removeIncludedTaxes(doc)` -/
def removeIncludedMem (m : Mem) : Except RemErr Mem :=
  match m.doc.includes with
  | none => .ok m                                   -- `!canRemoveIncludedTaxes(doc)`
  | some k =>
    match m.totals with
    | some t => removeFrom o k m t
    | none =>
      -- totals are required to compare the result with
      match calcMem o m with
      | .error e => .error (.calc e)
      | .ok m1 =>
        match m1.totals with
        | none => .ok m1                            -- nothing to calculate
        | some t => removeFrom o k m1 t

/-- a `Doc` as an invoice in memory: no totals object, unless a rounding was supplied with one (then
that object holds nothing else: `&bill.Totals{Rounding: r}`) -/
def memOfDoc (d : Doc) : Mem :=
  { doc := d, totals := d.rounding.map (fun r => { zeroTotals with rounding := some r }) }

/-- what is left in memory, in the shape of a calculation result -/
def Mem.out (m : Mem) : Out :=
  { lines := m.doc.lines, discounts := m.doc.discounts, charges := m.doc.charges,
    advances := m.doc.advances, dues := m.doc.dues, totals := m.totals }

/-- `Invoice.RemoveIncludedTaxes` on a document that has not been calculated yet -/
def removeIncludedDoc (d : Doc) : Except RemErr Out :=
  (removeIncludedMem o (memOfDoc d)).map Mem.out

/-- `Invoice.Calculate` followed by `Invoice.RemoveIncludedTaxes` (what the harness runs): the totals
exist when the removal starts, a rounding supplied with the document is in them -/
def calculateThenRemove (d : Doc) : Except RemErr Mem :=
  match calcMem o (memOfDoc d) with
  | .error e => .error (.calc e)
  | .ok m => removeIncludedMem o m

/-- the same after a `Calculate` whose totals were then dropped (`inv.Totals = nil`): the rows are
the stored ones, `removeIncludedTaxes` takes its "no totals yet" branch and calculates again -/
def removeIncludedRecalc (d : Doc) : Except RemErr Mem :=
  match calcMem o (memOfDoc d) with
  | .error e => .error (.calc e)
  | .ok m => removeIncludedMem o { m with totals := none }

end

end GoblVerif.Calc
